/-
QV.Lemmas.Index — the big-endian index of a bit-vector (site 0 = most significant bit) as a digit sum,
and the index arithmetic used by the stages of `_kron_mult`.
-/
import Mathlib.Algebra.BigOperators.Fin
import Mathlib.Data.Fintype.BigOperators
import Mathlib.Data.Nat.Bitwise
import Mathlib.Tactic.Ring
import Mathlib.Tactic.Linarith
import QV.Model.Hilbert

namespace QV
open Finset

def idxOf {n : ℕ} (σ : Fin n → Bool) : ℕ := ∑ j : Fin n, if σ j then 2 ^ (n - 1 - j.val) else 0

theorem idxOf_succ {n : ℕ} (σ : Fin (n + 1) → Bool) :
    idxOf σ = (if σ 0 then 2 ^ n else 0) + idxOf (fun j : Fin n => σ j.succ) := by
  have e (j : Fin n) : n - j.succ.val = n - 1 - j.val := by rw [Fin.val_succ, Nat.sub_add_eq, Nat.sub_right_comm]
  simp only [idxOf, Fin.sum_univ_succ, Fin.val_zero, Nat.add_sub_cancel, Nat.sub_zero, e]

theorem idxOf_lt {n : ℕ} (σ : Fin n → Bool) : idxOf σ < 2 ^ n := by
  induction n with
  | zero => rw [idxOf, Finset.univ_eq_empty, Finset.sum_empty]; exact Nat.one_pos
  | succ k ih =>
    rw [idxOf_succ, pow_succ, Nat.mul_two]
    have := ih (fun j => σ j.succ)
    cases σ 0
    · rw [if_neg Bool.false_ne_true, Nat.zero_add]
      exact Nat.lt_add_left _ this
    · rw [if_pos rfl]
      exact Nat.add_lt_add_left this _

theorem spaceBit_idxOf {n : ℕ} (σ : Fin n → Bool) (s : Fin n) : spaceBit n (idxOf σ) s = σ s := by
  unfold spaceBit
  induction n with
  | zero => exact s.elim0
  | succ k ih =>
    rw [idxOf_succ]
    have hlt := idxOf_lt (fun j : Fin k => σ j.succ)
    refine Fin.cases ?_ (fun j => ?_) s
    · -- the tail is below `2^k`, so bit `k` is the leading digit
      rw [Fin.val_zero, Nat.add_sub_cancel, Nat.sub_zero]
      cases σ 0
      · rw [if_neg Bool.false_ne_true, Nat.zero_add, Nat.testBit_lt_two_pow hlt]
      · rw [if_pos rfl, Nat.testBit_two_pow_add_eq, Nat.testBit_lt_two_pow hlt]; rfl
    · -- a lower bit does not see the leading digit
      have e : k + 1 - 1 - j.succ.val = k - 1 - j.val := by
        rw [Fin.val_succ, Nat.add_sub_cancel, Nat.sub_add_eq, Nat.sub_right_comm]
      rw [e, ← ih (fun j => σ j.succ) j]
      cases σ 0
      · rw [if_neg Bool.false_ne_true, Nat.zero_add]
      · rw [if_pos rfl, Nat.testBit_two_pow_add_gt (by omega)]

/-- the test `(idx / r) % 2 == 1` of `Unitaries.stage` at the stride `r = 2^(n-1-s)` of site `s` reads `σ s` -/
theorem idxOf_div_mod {n : ℕ} (σ : Fin n → Bool) (s : Fin n) :
    (idxOf σ / 2 ^ (n - 1 - s.val) % 2 == 1) = σ s := by
  rw [← spaceBit_idxOf σ s, spaceBit, Nat.testBit_eq_decide_div_mod_eq, beq_eq_decide]

theorem idxOf_update {n : ℕ} (σ : Fin n → Bool) (s : Fin n) (t : Bool) :
    idxOf (Function.update σ s t) + (if σ s then 2 ^ (n - 1 - s.val) else 0)
      = idxOf σ + (if t then 2 ^ (n - 1 - s.val) else 0) := by
  unfold idxOf
  rw [← Finset.add_sum_erase univ _ (mem_univ s), ← Finset.add_sum_erase univ (fun j => if σ j then _ else _) (mem_univ s)]
  have : ∑ x ∈ univ.erase s, (if Function.update σ s t x then 2 ^ (n - 1 - x.val) else 0)
       = ∑ x ∈ univ.erase s, (if σ x then 2 ^ (n - 1 - x.val) else 0) := by
    refine Finset.sum_congr rfl (fun x hx => ?_)
    rw [Function.update_of_ne (Finset.ne_of_mem_erase hx)]
  rw [this, Function.update_self]
  ring

/-- `base` of `Unitaries.stage` (`if b then idx - r else idx`): the lower position of the pair that the stage for site `s` combines -/
theorem idxOf_update_false {n : ℕ} (σ : Fin n → Bool) (s : Fin n) :
    idxOf (Function.update σ s false) = if σ s then idxOf σ - 2 ^ (n - 1 - s.val) else idxOf σ := by
  have h := idxOf_update σ s false
  rw [if_neg Bool.false_ne_true, Nat.add_zero] at h
  rw [← h]
  cases σ s
  · rfl
  · exact (Nat.add_sub_cancel ..).symm

/-- … and `base + r`, the upper one -/
theorem idxOf_update_true {n : ℕ} (σ : Fin n → Bool) (s : Fin n) :
    idxOf (Function.update σ s true) = idxOf (Function.update σ s false) + 2 ^ (n - 1 - s.val) := by
  have h := idxOf_update (Function.update σ s false) s true
  rwa [Function.update_idem, Function.update_self, if_neg Bool.false_ne_true, Nat.add_zero, if_pos rfl] at h

end QV
