/-
QV.Lemmas.Composite — helper lemmas for C16: the equations of the Python operators of the model (with an observable among
the operands, `+` and `*` are the constructors and `a - b` is `a + (-b)`), the value of an operand at one sample over a
commutative ring, the kind of value each operator returns, and the same operators carrying `name` / `symbol` strings.
-/
import Mathlib.Algebra.Ring.Defs
import Mathlib.Tactic.Ring
import QV.Model.Composite

namespace QV.Composite

variable {R : Type} [CommRing R]

/-- the number an operand stands for at one sample -/
def Arg.value (vals : Nat → R) : Arg R → R
  | .scal _ c => c
  | .obs o => o.apply vals

def Arg.isObs {α : Type} : Arg α → Bool
  | .scal _ _ => false
  | .obs _ => true

@[simp] theorem value_scal (vals : Nat → R) (k : Kind) (c : R) : (Arg.scal k c).value vals = c := rfl
@[simp] theorem value_obs (vals : Nat → R) (o : Obs R) : (Arg.obs o).value vals = o.apply vals := rfl

end QV.Composite

namespace QV.Composite

section constructors
variable {α : Type}

theorem argOk_scal (k : Kind) (c : α) : argOk (.scal k c) = k.numeric := rfl

theorem mkSum_eq (a b : Arg α) : mkSum a b = if argOk a && argOk b then .ok (.sum a b) else .error .TypeError := by
  unfold mkSum
  cases argOk a <;> cases argOk b <;> rfl

theorem mkProd_scal_obs (k : Kind) (c : α) (o : Obs α) :
    mkProd (.scal k c) (.obs o) = if k.numeric then .ok (.prod k c o) else .error .TypeError := by
  unfold mkProd
  rw [argOk_scal]
  cases k.numeric <;> rfl

theorem mkProd_obs_scal (k : Kind) (c : α) (o : Obs α) :
    mkProd (.obs o) (.scal k c) = if k.numeric then .ok (.prod k c o) else .error .TypeError := by
  unfold mkProd
  rw [argOk_scal]
  cases k.numeric <;> rfl

theorem Kind.arith_numeric (a b : Kind) : (a.arith b).numeric = true := by
  unfold Kind.arith
  split
  · rfl
  · split <;> rfl

theorem Kind.negK_numeric (k : Kind) : k.negK.numeric = k.numeric := by
  cases k <;> rfl

theorem Arg.obs_or_scal (a b : Arg α) :
    (a.isObs || b.isObs) = true ∨ ∃ k c k' c', a = .scal k c ∧ b = .scal k' c' := by
  cases a with
  | obs o => exact .inl rfl
  | scal k c =>
    cases b with
    | obs o => exact .inl rfl
    | scal k' c' => exact .inr ⟨k, c, k', c', rfl, rfl⟩

theorem liftObs_ok {r : Except PyErr (Obs α)} {v : Arg α} (h : liftObs r = .ok v) : ∃ o, r = .ok o ∧ v = .obs o := by
  cases r with
  | error e => cases h
  | ok o => cases h; exact ⟨o, rfl, rfl⟩

end constructors

section equations
variable {α : Type}

theorem pyAdd_of_obs [Add α] {a b : Arg α} (h : (a.isObs || b.isObs) = true) : pyAdd a b = liftObs (mkSum a b) := by
  cases a <;> cases b <;> first | rfl | cases h

theorem pyMul_of_obs [Mul α] {a b : Arg α} (h : (a.isObs || b.isObs) = true) : pyMul a b = liftObs (mkProd a b) := by
  cases a <;> cases b <;> first | rfl | cases h

/-- with an observable among the operands, `a - b` is `a + (-b)`: `__sub__` and `__rsub__` negate the right operand first -/
theorem pySub_of_obs [Add α] [Neg α] [Sub α] [One α] {a b : Arg α} (h : (a.isObs || b.isObs) = true) :
    pySub a b = match pyNeg b with
      | .error e => .error e
      | .ok n => pyAdd a n := by
  cases a with
  | obs o => simp only [pySub, Obs.sub]; cases pyNeg b <;> rfl
  | scal k c =>
    cases b with
    | obs o => rfl
    | scal k' c' => cases h

end equations

/-! ### the value of what the constructors and operators return

Commutativity of the ring is used twice: `SumObservable.apply` adds the scalar operands before the observables' values
whatever side they stand on (`apply_sum`), and `ProdObservable` stores the scalar on the left whichever order it was given
in (`mkProd_value`). -/

section value
variable {R : Type} [CommRing R]

theorem apply_sum (vals : Nat → R) (l r : Arg R) :
    (Obs.sum l r).apply vals = l.value vals + r.value vals := by
  cases l <;> cases r <;> simp only [Obs.apply, Arg.addObs, Arg.addScal, Arg.value, zero_add]
  exact add_comm _ _

theorem apply_prod (vals : Nat → R) (k : Kind) (c : R) (o : Obs R) :
    (Obs.prod k c o).apply vals = c * o.apply vals := by
  simp only [Obs.apply]

theorem mkSum_value (vals : Nat → R) {a b : Arg R} {o : Obs R} (h : mkSum a b = .ok o) :
    o.apply vals = a.value vals + b.value vals := by
  rw [mkSum_eq] at h
  split at h
  · cases h; exact apply_sum vals a b
  · cases h

theorem mkProd_value (vals : Nat → R) {a b : Arg R} {o : Obs R} (h : mkProd a b = .ok o) :
    o.apply vals = a.value vals * b.value vals := by
  unfold mkProd at h
  split at h <;> try contradiction
  split at h <;> try contradiction
  split at h
  · cases h; rfl
  · cases h; exact mul_comm _ _
  · contradiction

theorem pyNeg_value (vals : Nat → R) {a v : Arg R} (h : pyNeg a = .ok v) : v.value vals = -(a.value vals) := by
  cases a with
  | scal k c =>
    simp only [pyNeg] at h
    split at h
    · cases h; rfl
    · contradiction
  | obs o => cases h; exact neg_one_mul _

theorem pyAdd_value (vals : Nat → R) {a b v : Arg R} (h : pyAdd a b = .ok v) :
    v.value vals = a.value vals + b.value vals := by
  rcases Arg.obs_or_scal a b with ho | ⟨k, c, k', c', rfl, rfl⟩
  · rw [pyAdd_of_obs ho] at h
    obtain ⟨o, ho, rfl⟩ := liftObs_ok h
    exact mkSum_value vals ho
  · simp only [pyAdd] at h
    split at h
    · cases h; rfl
    · contradiction

theorem pySub_value (vals : Nat → R) {a b v : Arg R} (h : pySub a b = .ok v) :
    v.value vals = a.value vals - b.value vals := by
  rcases Arg.obs_or_scal a b with ho | ⟨k, c, k', c', rfl, rfl⟩
  · rw [pySub_of_obs ho] at h
    split at h
    · contradiction
    · rename_i n hn
      rw [pyAdd_value vals h, pyNeg_value vals hn, sub_eq_add_neg]
  · simp only [pySub] at h
    split at h
    · cases h; rfl
    · contradiction

theorem pyMul_value (vals : Nat → R) {a b v : Arg R} (h : pyMul a b = .ok v) :
    v.value vals = a.value vals * b.value vals := by
  rcases Arg.obs_or_scal a b with ho | ⟨k, c, k', c', rfl, rfl⟩
  · rw [pyMul_of_obs ho] at h
    obtain ⟨o, ho, rfl⟩ := liftObs_ok h
    exact mkProd_value vals ho
  · simp only [pyMul] at h
    split at h
    · cases h; rfl
    · contradiction

end value

section shape
set_option linter.unusedSectionVars false
variable {α : Type} [Add α] [Mul α] [Neg α] [Sub α] [Zero α] [One α]

/-- What a binary Python operator does with two operand values, in the order Python finds it out: a `TypeError` for an operand
that is neither numeric nor an observable, a `ValueError` for the product of two observables, and otherwise an admissible
value, which is an observable iff one of the operands is. -/
def OpChar (isMul : Bool) (op : Arg α → Arg α → Except PyErr (Arg α)) : Prop :=
  ∀ va vb,
    if !argOk va || !argOk vb then op va vb = .error .TypeError
    else if isMul && va.isObs && vb.isObs then op va vb = .error .ValueError
    else ∃ v, op va vb = .ok v ∧ v.isObs = (va.isObs || vb.isObs) ∧ argOk v = true

theorem pyNeg_char (v : Arg α) :
    if !argOk v then pyNeg v = .error .TypeError
    else ∃ w, pyNeg v = .ok w ∧ w.isObs = v.isObs ∧ argOk w = true := by
  cases v with
  | obs o => exact Exists.intro _ ⟨rfl, rfl, rfl⟩
  | scal k c =>
    rw [argOk_scal, pyNeg]
    cases h : k.numeric
    · rfl
    · exact Exists.intro _ ⟨rfl, rfl, (Kind.negK_numeric k).trans h⟩

theorem pyAdd_char : OpChar false (pyAdd (α := α)) := by
  intro va vb
  rcases Arg.obs_or_scal va vb with ho | ⟨k, c, k', c', rfl, rfl⟩
  · rw [pyAdd_of_obs ho, mkSum_eq]
    cases argOk va <;> cases argOk vb <;> first | rfl | exact Exists.intro _ ⟨rfl, ho.symm, rfl⟩
  · rw [argOk_scal, argOk_scal, pyAdd]
    cases k.numeric <;> cases k'.numeric <;> first | rfl | exact Exists.intro _ ⟨rfl, rfl, Kind.arith_numeric k k'⟩

theorem pySub_char : OpChar false (pySub (α := α)) := by
  intro va vb
  rcases Arg.obs_or_scal va vb with ho | ⟨k, c, k', c', rfl, rfl⟩
  · rw [pySub_of_obs ho]
    have hn := pyNeg_char vb
    cases hb : argOk vb <;> rw [hb] at hn
    · rw [show pyNeg vb = .error .TypeError from hn]
      cases argOk va <;> rfl
    · obtain ⟨w, hw, hwo, hwk⟩ := hn
      have := pyAdd_char va w
      rw [hwo, hwk] at this
      rw [hw]
      exact this
  · rw [argOk_scal, argOk_scal, pySub]
    cases k.numeric <;> cases k'.numeric <;> first | rfl | exact Exists.intro _ ⟨rfl, rfl, Kind.arith_numeric k k'⟩

theorem pyMul_char : OpChar true (pyMul (α := α)) := by
  intro va vb
  cases va with
  | obs o =>
    cases vb with
    | obs o' => rfl
    | scal k c =>
      rw [pyMul_of_obs rfl, mkProd_obs_scal, argOk_scal]
      cases k.numeric <;> first | rfl | exact Exists.intro _ ⟨rfl, rfl, rfl⟩
  | scal k c =>
    cases vb with
    | obs o =>
      rw [pyMul_of_obs rfl, mkProd_scal_obs, argOk_scal]
      cases k.numeric <;> first | rfl | exact Exists.intro _ ⟨rfl, rfl, rfl⟩
    | scal k' c' =>
      rw [argOk_scal, argOk_scal, pyMul]
      cases k.numeric <;> cases k'.numeric <;> first | rfl | exact Exists.intro _ ⟨rfl, rfl, Kind.arith_numeric k k'⟩

end shape

/-! ### names and symbols: the operators carrying strings return what the plain ones return, and the strings they build -/

section names
set_option linter.unusedSectionVars false
variable {α : Type} [Add α] [Mul α] [Neg α] [Sub α] [Zero α] [One α]

theorem exprText_scalar (R : Render α) (ids : Nat → Ident) (nm : Bool) (e : Expr α) (h : e.isScalar = true) :
    exprText R ids nm e = scalText R nm e := by
  cases e with
  | leaf i => simp [Expr.isScalar] at h
  | const k c => simp [exprText, scalText, build]
  | neg a => simp only [Expr.isScalar] at h; simp [exprText, h]
  | add a b => simp only [Expr.isScalar] at h; simp [exprText, h]
  | sub a b => simp only [Expr.isScalar] at h; simp [exprText, h]
  | mul a b => simp only [Expr.isScalar] at h; simp [exprText, h]

theorem liftN_ok {r : Except PyErr (NObs α)} {v : NArg α} (h : liftN r = .ok v) : ∃ n, r = .ok n ∧ v = .obs n := by
  cases r with
  | error e => cases h
  | ok n => cases h; exact ⟨n, rfl, rfl⟩

theorem mkSumN_arg (R : Render α) (a b : NArg α) (name symbol : Option String) :
    (liftN (mkSumN R a b name symbol)).map NArg.arg = liftObs (mkSum a.arg b.arg) := by
  unfold mkSumN mkSum
  cases argOk a.arg <;> cases argOk b.arg <;> rfl

theorem mkProdN_arg (R : Render α) (a b : NArg α) (name symbol : Option String) :
    (liftN (mkProdN R a b name symbol)).map NArg.arg = liftObs (mkProd a.arg b.arg) := by
  unfold mkProdN mkProd
  cases argOk a.arg <;> cases argOk b.arg <;> first | rfl | (cases a <;> cases b <;> rfl)

theorem pyAddN_of_obs (R : Render α) {a b : NArg α} (h : (a.arg.isObs || b.arg.isObs) = true) :
    pyAddN R a b = liftN (mkSumN R a b none none) := by
  cases a <;> cases b <;> first | rfl | cases h

theorem pyMulN_of_obs (R : Render α) {a b : NArg α} (h : (a.arg.isObs || b.arg.isObs) = true) :
    pyMulN R a b = liftN (mkProdN R a b none none) := by
  cases a <;> cases b <;> first | rfl | cases h

theorem pySubN_of_obs (R : Render α) {a b : NArg α} (h : (a.arg.isObs || b.arg.isObs) = true) :
    pySubN R a b = match pyNegN R b with
      | .error e => .error e
      | .ok n => pyAddN R a n := by
  cases a <;> cases b <;> first | rfl | cases h

theorem pyNegN_arg (R : Render α) (v : NArg α) : (pyNegN R v).map NArg.arg = pyNeg v.arg := by
  cases v with
  | obs n => rfl
  | scal k c =>
    rw [pyNegN, NArg.arg, pyNeg]
    cases k.numeric <;> rfl

theorem pyAddN_arg (R : Render α) (a b : NArg α) : (pyAddN R a b).map NArg.arg = pyAdd a.arg b.arg := by
  cases a with
  | obs n => exact mkSumN_arg R _ _ none none
  | scal k c =>
    cases b with
    | obs n => exact mkSumN_arg R _ _ none none
    | scal k' c' =>
      rw [pyAddN, NArg.arg, NArg.arg, pyAdd]
      split <;> rfl

theorem pyMulN_arg (R : Render α) (a b : NArg α) : (pyMulN R a b).map NArg.arg = pyMul a.arg b.arg := by
  cases a with
  | obs n => exact mkProdN_arg R _ _ none none
  | scal k c =>
    cases b with
    | obs n => exact mkProdN_arg R _ _ none none
    | scal k' c' =>
      rw [pyMulN, NArg.arg, NArg.arg, pyMul]
      split <;> rfl

theorem pySubN_arg (R : Render α) (a b : NArg α) : (pySubN R a b).map NArg.arg = pySub a.arg b.arg := by
  rcases Arg.obs_or_scal a.arg b.arg with ho | ⟨k, c, k', c', ha, hb⟩
  · rw [pySubN_of_obs R ho, pySub_of_obs ho, ← pyNegN_arg R b]
    cases pyNegN R b with
    | error e => rfl
    | ok n => exact pyAddN_arg R a n
  · cases a with
    | obs n => cases ha
    | scal k c =>
      cases b with
      | obs n => cases hb
      | scal k' c' =>
        rw [pySubN, NArg.arg, NArg.arg, pySub]
        split <;> rfl

theorem pyNegN_text (R : Render α) (n : NObs α) {w : NArg α} (h : pyNegN R (.obs n) = .ok w) (nm : Bool) :
    w.text R nm = "-" ++ (NArg.obs n).text R nm := by
  cases h
  cases nm <;> rfl

theorem pyAddN_text (R : Render α) {a b v : NArg α} (ho : (a.arg.isObs || b.arg.isObs) = true)
    (h : pyAddN R a b = .ok v) (nm : Bool) : v.text R nm = "(" ++ a.text R nm ++ " + " ++ b.text R nm ++ ")" := by
  rw [pyAddN_of_obs R ho] at h
  obtain ⟨n, hn, rfl⟩ := liftN_ok h
  unfold mkSumN at hn
  split at hn
  · cases hn
  · split at hn
    · cases hn
    · cases hn
      cases nm <;> rfl

/-- the scalar is printed first, whichever side it was written on -/
theorem pyMulN_text (R : Render α) {a b v : NArg α} (ho : (a.arg.isObs || b.arg.isObs) = true)
    (h : pyMulN R a b = .ok v) (nm : Bool) :
    v.text R nm = if !a.arg.isObs then "(" ++ a.text R nm ++ " * " ++ b.text R nm ++ ")"
      else "(" ++ b.text R nm ++ " * " ++ a.text R nm ++ ")" := by
  rw [pyMulN_of_obs R ho] at h
  obtain ⟨n, hn, rfl⟩ := liftN_ok h
  unfold mkProdN at hn
  split at hn
  · cases hn
  · split at hn
    · cases hn
    · split at hn
      · cases hn
        refine Eq.trans ?_ (if_pos rfl).symm
        cases nm <;> rfl
      · cases hn
        refine Eq.trans ?_ (if_neg Bool.false_ne_true).symm
        cases nm <;> rfl
      · cases hn

end names
end QV.Composite
