/-
Helper lemmas for QV.Model.ArgConv (argument-conversion glue of create_dict / fit / vector_to_grads).
One invariant, `Fresh h0 h' t v`, is carried through every torch primitive (`…_spec`): relative to the CALLER's heap `h0` the
tensor lives in a storage that did not exist, and the heap has only grown. The `create_dict` / `fit` statements are its
composition along the code's expression.
-/
import QV.Model.ArgConv
import Mathlib.Data.List.Basic
import Mathlib.Data.List.Infix
import Mathlib.Data.List.Forall2
import Mathlib.Tactic.Ring

namespace QV.ArgConv
open QV

variable {κ : Type}

/-- `t` is a tensor whose storage did not exist in `h`, holds `v` in `h'`, and `h'` only EXTENDS `h` -/
structure Fresh (h h' : Heap κ) (t : TRef) (v : κ) : Prop where
  ext : h.cells <+: h'.cells
  fresh : h.cells.length ≤ t.sid
  val : h'.read t.sid = some v

theorem read_of_prefix {h h' : Heap κ} (hp : h.cells <+: h'.cells) {i : Nat} (hi : i < h.cells.length) :
    h'.read i = h.read i := by
  obtain ⟨t, ht⟩ := hp
  simp only [Heap.read, ← ht, List.getElem?_append_left hi]

theorem read_some_lt {h : Heap κ} {i : Nat} {v : κ} (hv : h.read i = some v) : i < h.cells.length := by
  simp only [Heap.read] at hv
  exact (List.getElem?_eq_some_iff.mp hv).1

theorem alloc_fresh (h : Heap κ) (v : κ) : Fresh h (h.alloc v).1 ⟨(h.alloc v).2, .float64⟩ v :=
  ⟨List.prefix_append _ _, Nat.le_refl _, by simp [Heap.alloc, Heap.read]⟩

theorem alloc_read_new (h : Heap κ) (v : κ) : (h.alloc v).1.read (h.alloc v).2 = some v := by
  simp [Heap.alloc, Heap.read]

theorem alloc_prefix (h : Heap κ) (v : κ) : h.cells <+: (h.alloc v).1.cells := List.prefix_append _ _

theorem alloc_length (h : Heap κ) (v : κ) : (h.alloc v).1.cells.length = h.cells.length + 1 := by
  simp [Heap.alloc]

/-- a caller's in-place write to a storage that existed before does not reach a fresh tensor -/
theorem write_read_ne (h : Heap κ) {i j : Nat} (hij : i ≠ j) (v : κ) : (h.write i v).read j = h.read j := by
  simp [Heap.write, Heap.read, List.getElem?_set_ne hij]

theorem cloneDetach_spec {h0 h : Heap κ} (hp : h0.cells <+: h.cells) {t : TRef} {v : κ} (hv : h.read t.sid = some v) :
    ∃ h' t', cloneDetach h t = .ok (h', t') ∧ Fresh h0 h' t' v ∧ t'.dt = t.dt ∧ h.cells <+: h'.cells := by
  refine ⟨(h.alloc v).1, ⟨(h.alloc v).2, t.dt⟩, by simp [cloneDetach, hv], ⟨hp.trans (alloc_prefix _ _), ?_, alloc_read_new _ _⟩,
    rfl, alloc_prefix _ _⟩
  exact hp.length_le

theorem toDType_spec (cast : DType → κ → κ) {h0 h : Heap κ} {t : TRef} {v : κ} (hf : Fresh h0 h t v) (dt : DType) :
    ∃ h' t', toDType cast h t dt = .ok (h', t') ∧ Fresh h0 h' t' (if t.dt = dt then v else cast dt v) ∧ t'.dt = dt
      ∧ h.cells <+: h'.cells := by
  by_cases hd : t.dt = dt
  · exact ⟨h, t, by simp [toDType, hd], by simpa [hd] using hf, hd, List.prefix_refl _⟩
  · refine ⟨(h.alloc (cast dt v)).1, ⟨(h.alloc (cast dt v)).2, dt⟩, by simp [toDType, hd, hf.val], ?_, rfl, alloc_prefix _ _⟩
    simp only [hd, if_false]
    exact ⟨hf.ext.trans (alloc_prefix _ _), hf.ext.length_le, alloc_read_new _ _⟩

theorem torchTensor_spec (cast : DType → κ → κ) (dd : Bool) {h0 h : Heap κ} (hp : h0.cells <+: h.cells) {o : Obj} {src inf : DType}
    (hsrc : srcDType o.box = some src) (hinf : inferDType dd o.box = some inf) {v : κ} (hv : h.read o.sid = some v)
    (dtype : Option DType) :
    ∃ h' t', torchTensor cast dd h o dtype = .ok (h', t') ∧ Fresh h0 h' t' (convTo cast src (dtype.getD inf) v)
      ∧ t'.dt = dtype.getD inf ∧ h.cells <+: h'.cells := by
  let w := convTo cast src (dtype.getD inf) v
  refine ⟨(h.alloc w).1, ⟨(h.alloc w).2, dtype.getD inf⟩, ?_, ⟨hp.trans (alloc_prefix _ _), hp.length_le, alloc_read_new _ _⟩,
    rfl, alloc_prefix _ _⟩
  simp [torchTensor, hsrc, hinf, copyInto, hv, w]

/-- the form that loses precision in `create_dict`: a nested list of Python floats while torch's default dtype is float32 -/
def lossy (dd : Bool) (b : Box) : Bool := b == .pyList .pyFloat && !dd

/-- what `create_dict` stores for content `v` given in form `b` -/
def storedU (cast : DType → κ → κ) (dd : Bool) (b : Box) (v : κ) : κ := if lossy dd b then cast .float32 v else v

theorem inferDType_eq_src {dd : Bool} {b : Box} (hl : lossy dd b = false) : inferDType dd b = srcDType b := by
  cases b with
  | pyList e => cases e <;> first | rfl | (cases dd <;> simp_all [lossy, inferDType, srcDType])
  | _ => rfl

/-- `.to(dtype=torch.double)` keeps the content (writing into a double loses nothing) -/
theorem toDouble_spec (cast : DType → κ → κ) (hc : ∀ v, cast .float64 v = v) {h0 h : Heap κ} {t : TRef} {v : κ}
    (hf : Fresh h0 h t v) :
    ∃ h' t', toDType cast h t .float64 = .ok (h', t') ∧ Fresh h0 h' t' v ∧ t'.dt = .float64 ∧ h.cells <+: h'.cells := by
  obtain ⟨h', t', e, f, d, p⟩ := toDType_spec cast hf .float64
  rw [hc, ite_self] at f
  exact ⟨h', t', e, f, d, p⟩

/-- `x.clone().detach().to(dtype=torch.double)`: a double tensor in a new storage, same content -/
theorem cloneToDouble_spec (cast : DType → κ → κ) (hc : ∀ v, cast .float64 v = v) {h0 h : Heap κ}
    (hp : h0.cells <+: h.cells) {t : TRef} {v : κ} (hv : h.read t.sid = some v) :
    ∃ h' t', (cloneDetach h t >>= fun x => toDType cast x.1 x.2 .float64) = .ok (h', t') ∧ Fresh h0 h' t' v
      ∧ t'.dt = .float64 ∧ h.cells <+: h'.cells := by
  obtain ⟨h1, t1, e1, f1, -, p1⟩ := cloneDetach_spec hp hv
  obtain ⟨h2, t2, e2, f2, d2, p2⟩ := toDouble_spec cast hc f1
  exact ⟨h2, t2, by rw [e1]; exact e2, f2, d2, p1.trans p2⟩

theorem inferDType_of_src {dd : Bool} {b : Box} {src : DType} (h : srcDType b = some src) :
    ∃ inf, inferDType dd b = some inf := by
  cases b with
  | pyList e => cases e <;> exact ⟨_, rfl⟩
  | ragged => cases h
  | nonArray => cases h
  | tensor d => exact ⟨_, rfl⟩
  | ndarray d => exact ⟨_, rfl⟩

theorem convertUnitary_spec (cast : DType → κ → κ) (hc : ∀ v, cast .float64 v = v) (dd : Bool) {h0 h : Heap κ}
    (hp : h0.cells <+: h.cells) {o : Obj} {src : DType} (hsrc : srcDType o.box = some src) {v : κ} (hv : h.read o.sid = some v) :
    ∃ h' t', convertUnitary cast dd h o = .ok (h', t') ∧ Fresh h0 h' t' (storedU cast dd o.box v) ∧ t'.dt = .float64
      ∧ h.cells <+: h'.cells := by
  by_cases hb : ∃ dt, o.box = .tensor dt
  · obtain ⟨dt, hb⟩ := hb
    have hst : storedU cast dd o.box v = v := by rw [storedU, lossy, hb]; rfl
    rw [hst, convertUnitary, hb]
    exact cloneToDouble_spec cast hc hp (t := ⟨o.sid, dt⟩) hv
  · obtain ⟨inf, hinf⟩ := inferDType_of_src (dd := dd) hsrc
    obtain ⟨h1, t1, e1, f1, d1, p1⟩ := torchTensor_spec cast dd hp hsrc hinf hv none
    -- what `torch.tensor(obj)` holds is what `create_dict` stores: rounded only in the lossy form
    have hval : convTo cast src (Option.getD none inf) v = storedU cast dd o.box v := by
      by_cases hl : lossy dd o.box = true
      · -- list of Python floats under default float32: src = float64, inferred = float32
        have hb' : o.box = .pyList .pyFloat ∧ dd = false := by simpa [lossy] using hl
        obtain rfl : src = .float64 := by simpa [hb'.1, srcDType] using hsrc.symm
        obtain rfl : inf = .float32 := by simpa [hb'.1, hb'.2, inferDType] using hinf.symm
        rw [storedU, if_pos hl]; rfl
      · have hl' : lossy dd o.box = false := by simpa using hl
        obtain rfl : inf = src := Option.some.inj ((hinf.symm.trans (inferDType_eq_src hl')).trans hsrc)
        rw [storedU, if_neg hl, Option.getD_none, convTo, if_pos rfl]
    rw [hval] at f1
    obtain ⟨h2, t2, e2, f2, d2, p2⟩ := toDouble_spec cast hc f1
    refine ⟨h2, t2, ?_, f2, d2, p1.trans p2⟩
    cases hbx : o.box with
    | tensor d => exact absurd ⟨d, hbx⟩ hb
    | _ => simp only [convertUnitary, hbx, bind, Except.bind] at e1 ⊢; rw [e1]; exact e2

/-- what `convertAll` / `create_dict` guarantees for every keyword, relative to the heap `h0` of the caller:
same key; a tensor of type double in a storage that did not exist in `h0`; holding what the caller's object held, as stored -/
def EntryOK (cast : DType → κ → κ) (dd : Bool) (h0 hfin : Heap κ) (e : Char × Obj) (r : Char × TRef) : Prop :=
  r.1 = e.1 ∧ h0.cells.length ≤ r.2.sid ∧ r.2.dt = .float64 ∧
    ∃ v, h0.read e.2.sid = some v ∧ hfin.read r.2.sid = some (storedU cast dd e.2.box v)

/-- every keyword is an array-like object that exists in the caller's heap -/
def Accepted (h0 : Heap κ) (kw : List (Char × Obj)) : Prop :=
  ∀ e ∈ kw, (srcDType e.2.box).isSome ∧ e.2.sid < h0.cells.length

theorem EntryOK.mono {cast : DType → κ → κ} {dd : Bool} {h0 h1 h2 : Heap κ} (hp : h1.cells <+: h2.cells) {e : Char × Obj}
    {r : Char × TRef} (hr : EntryOK cast dd h0 h1 e r) : EntryOK cast dd h0 h2 e r := by
  obtain ⟨a, b, c, v, hv, hw⟩ := hr
  exact ⟨a, b, c, v, hv, by rw [read_of_prefix hp (read_some_lt hw)]; exact hw⟩

theorem convertAll_spec (cast : DType → κ → κ) (hc : ∀ v, cast .float64 v = v) (dd : Bool) (h0 : Heap κ) :
    ∀ (kw : List (Char × Obj)) (h : Heap κ), h0.cells <+: h.cells → Accepted h0 kw →
    ∃ h' ts, convertAll cast dd h kw = .ok (h', ts) ∧ h.cells <+: h'.cells ∧ List.Forall₂ (EntryOK cast dd h0 h') kw ts := by
  intro kw
  induction kw with
  | nil => intro h _ _; exact ⟨h, [], rfl, List.prefix_refl _, List.Forall₂.nil⟩
  | cons e rest ih =>
    intro h hp hacc
    obtain ⟨l, o⟩ := e
    have ha := hacc (l, o) (List.mem_cons_self ..)
    obtain ⟨src, hsrc⟩ := Option.isSome_iff_exists.mp ha.1
    have hv0 : ∃ v, h0.read o.sid = some v := ⟨h0.cells[o.sid]'ha.2, by simp [Heap.read, ha.2]⟩
    obtain ⟨v, hv0⟩ := hv0
    have hv : h.read o.sid = some v := by rw [read_of_prefix hp ha.2]; exact hv0
    obtain ⟨h1, t, e1, f1, d1, p1⟩ := convertUnitary_spec cast hc dd hp hsrc hv
    obtain ⟨h2, ts, e2, p2, f2⟩ := ih h1 (hp.trans p1) (fun e he => hacc e (List.mem_cons_of_mem _ he))
    refine ⟨h2, (l, t) :: ts, by simp [convertAll, e1, e2, bind, Except.bind], p1.trans p2, List.Forall₂.cons ?_ f2⟩
    exact EntryOK.mono p2 ⟨rfl, f1.fresh, d1, v, hv0, f1.val⟩

/-- a default entry of the finished dictionary: a double tensor in a storage of its own, holding the default content -/
def DefaultOK (h0 hfin : Heap κ) (e : Char × κ) (r : Char × TRef) : Prop :=
  r.1 = e.1 ∧ h0.cells.length ≤ r.2.sid ∧ r.2.dt = .float64 ∧ hfin.read r.2.sid = some e.2

theorem allocDefaults_spec (h : Heap κ) (ds : List (Char × κ)) :
    h.cells <+: (allocDefaults h ds).1.cells ∧
    List.Forall₂ (DefaultOK h (allocDefaults h ds).1) ds (allocDefaults h ds).2 := by
  induction ds generalizing h with
  | nil => exact ⟨List.prefix_refl _, List.Forall₂.nil⟩
  | cons e rest ih =>
    obtain ⟨l, v⟩ := e
    obtain ⟨p, f⟩ := ih (h.alloc v).1
    refine ⟨(alloc_prefix h v).trans p, List.Forall₂.cons ⟨rfl, Nat.le_refl _, rfl, ?_⟩ ?_⟩
    · show (allocDefaults (h.alloc v).1 rest).1.read (h.alloc v).2 = some v
      rw [read_of_prefix p (by simp [Heap.alloc])]; exact alloc_read_new _ _
    · refine List.Forall₂.imp (fun a b ⟨h1, h2, h3, h4⟩ => ⟨h1, ?_, h3, h4⟩) f
      have := alloc_length h v
      omega

theorem toM2_flatM2 {α : Type} [Zero α] (m : M2 α) : toM2 (flatM2 m) = m := by
  funext r c
  cases r <;> cases c <;> rfl

theorem forall₂_map_eq {A B C : Type} {R : A → B → Prop} {f : B → C} {g : A → C} {l₁ : List A} {l₂ : List B}
    (h : List.Forall₂ R l₁ l₂) (hfg : ∀ a b, a ∈ l₁ → R a b → f b = g a) : l₂.map f = l₁.map g := by
  induction h with
  | nil => rfl
  | cons hab _ ih =>
    simp only [List.map_cons]
    rw [hfg _ _ (List.mem_cons_self ..) hab, ih (fun a b ha => hfg a b (List.mem_cons_of_mem _ ha))]

theorem forall₂_right {A B : Type} {R : A → B → Prop} {l₁ : List A} {l₂ : List B} (h : List.Forall₂ R l₁ l₂) {b : B}
    (hb : b ∈ l₂) : ∃ a ∈ l₁, R a b := by
  induction h with
  | nil => cases hb
  | cons hab _ ih =>
    rcases List.mem_cons.mp hb with rfl | hb
    · exact ⟨_, List.mem_cons_self .., hab⟩
    · obtain ⟨a, ha, r⟩ := ih hb
      exact ⟨a, List.mem_cons_of_mem _ ha, r⟩

theorem createDictArg_spec (cast : DType → κ → κ) (hc : ∀ v, cast .float64 v = v) (dd : Bool) (defaults : List (Char × κ))
    (h : Heap κ) (kw : List (Char × Obj)) (hacc : Accepted h kw) :
    ∃ h' ts ds, createDictArg cast dd defaults h kw = .ok (h', ts ++ ds) ∧ h.cells <+: h'.cells ∧
      List.Forall₂ (EntryOK cast dd h h') kw ts ∧ List.Forall₂ (DefaultOK h h') defaults ds := by
  obtain ⟨p0, f0⟩ := allocDefaults_spec h defaults
  obtain ⟨h1, ts, e1, p1, f1⟩ := convertAll_spec cast hc dd h kw (allocDefaults h defaults).1 p0 hacc
  refine ⟨h1, ts, (allocDefaults h defaults).2, by simp [createDictArg, e1], p0.trans p1, f1, List.Forall₂.imp ?_ f0⟩
  intro a b hab
  exact ⟨hab.1, hab.2.1, hab.2.2.1, by rw [read_of_prefix p1 (read_some_lt hab.2.2.2)]; exact hab.2.2.2⟩

/-- a ragged list (`ValueError`) or a non-array object (`TypeError`) is refused; `convertAll` stops at the first refusal -/
theorem convertUnitary_refused (cast : DType → κ → κ) (dd : Bool) (h : Heap κ) (o : Obj) (hb : srcDType o.box = none) :
    ∃ e, convertUnitary cast dd h o = .error e := by
  cases hbx : o.box with
  | tensor d => simp [hbx, srcDType] at hb
  | ndarray d => simp [hbx, srcDType] at hb
  | pyList e => cases e <;> simp [hbx, srcDType] at hb
  | ragged => exact ⟨.ValueError, by simp [convertUnitary, hbx, torchTensor, srcDType, bind, Except.bind]⟩
  | nonArray => exact ⟨.TypeError, by simp [convertUnitary, hbx, torchTensor, srcDType, bind, Except.bind]⟩

/-! ### `fit`'s data conversion -/

theorem fitConvertData_spec (cast : DType → κ → κ) (hc : ∀ v, cast .float64 v = v) (dd : Bool) {h : Heap κ} {o : Obj} {src : DType}
    (hsrc : srcDType o.box = some src) {v : κ} (hv : h.read o.sid = some v) :
    ∃ h' t', fitConvertData cast dd h o = .ok (h', t') ∧ Fresh h h' t' v ∧ t'.dt = .float64 := by
  by_cases hb : ∃ dt, o.box = .tensor dt
  · obtain ⟨dt, hb⟩ := hb
    rw [fitConvertData, hb]
    obtain ⟨h', t', e, f, d, -⟩ := cloneToDouble_spec cast hc (List.prefix_refl h.cells) (t := ⟨o.sid, dt⟩) hv
    exact ⟨h', t', e, f, d⟩
  · obtain ⟨inf, hinf⟩ := inferDType_of_src (dd := dd) hsrc
    obtain ⟨h1, t1, e1, f1, d1, -⟩ := torchTensor_spec cast dd (List.prefix_refl h.cells) hsrc hinf hv (some .float64)
    rw [Option.getD_some, convTo, hc, ite_self] at f1
    refine ⟨h1, t1, ?_, f1, d1⟩
    cases hbx : o.box with
    | tensor d => exact absurd ⟨d, hbx⟩ hb
    | _ => simp only [fitConvertData, hbx] at e1 ⊢; exact e1

theorem fitConvertData_refused (cast : DType → κ → κ) (dd : Bool) (h : Heap κ) (o : Obj) (hb : srcDType o.box = none) :
    ∃ e, fitConvertData cast dd h o = .error e := by
  cases hbx : o.box with
  | tensor d => simp [hbx, srcDType] at hb
  | ndarray d => simp [hbx, srcDType] at hb
  | pyList e => cases e <;> simp [hbx, srcDType] at hb
  | ragged => exact ⟨.ValueError, by simp [fitConvertData, hbx, torchTensor, srcDType]⟩
  | nonArray => exact ⟨.TypeError, by simp [fitConvertData, hbx, torchTensor, srcDType]⟩

/-! ### `vector_to_grads` -/

theorem assignLoop_ok {α : Type} (vec : List α) (sizes : List Nat) (acc : List (List α)) (h : sizes.sum ≤ vec.length) :
    assignLoop .float64 vec sizes acc = (acc ++ CDStep.vectorToGrads vec sizes, none) := by
  induction sizes generalizing vec acc with
  | nil => rw [assignLoop, CDStep.vectorToGrads, List.append_nil]
  | cons k ks ih =>
    rw [List.sum_cons] at h
    have hl : (vec.take k).length = k := List.length_take_of_le (by omega)
    simp only [assignLoop, hl, ne_eq, not_true_eq_false, if_false]
    rw [ih _ _ (by rw [List.length_drop]; omega), CDStep.vectorToGrads, List.append_assoc]
    rfl

theorem assignLoop_error {α : Type} (dt : DType) (vec : List α) (sizes : List Nat) (acc : List (List α))
    (h : ¬ (sizes.sum ≤ vec.length ∧ (dt = .float64 ∨ sizes = []))) :
    (assignLoop dt vec sizes acc).2 = some .RuntimeError := by
  induction sizes generalizing vec acc with
  | nil => exact absurd ⟨Nat.zero_le _, Or.inr rfl⟩ h
  | cons k ks ih =>
    rw [assignLoop]
    by_cases hl : (vec.take k).length = k
    · by_cases hd : dt = .float64
      · subst hd
        simp only [hl, ne_eq, not_true_eq_false, if_false]
        refine ih _ _ fun hc => h ⟨?_, Or.inl rfl⟩
        rw [List.length_take] at hl
        rw [List.sum_cons]
        have := hc.1
        rw [List.length_drop] at this
        omega
      · simp only [hl, hd, ne_eq, not_true_eq_false, not_false_eq_true, if_false, if_true]
    · simp only [hl, ne_eq, not_false_eq_true, if_true]

theorem vectorToGradsE_tensor {α : Type} (dt : DType) (vec : List α) (sizes : List Nat) :
    vectorToGradsE (.tensor dt vec) sizes
      = if sizes.sum ≤ vec.length ∧ (dt = .float64 ∨ sizes = []) then .ok (CDStep.vectorToGrads vec sizes)
        else .error .RuntimeError := by
  split
  next hc =>
    obtain ⟨hl, rfl | rfl⟩ := hc
    · rw [vectorToGradsE, assignLoop_ok vec sizes [] hl]
      rfl
    · rfl
  next hc =>
    have he := assignLoop_error dt vec sizes [] hc
    rw [vectorToGradsE]
    generalize assignLoop dt vec sizes [] = r at he ⊢
    obtain ⟨gs, e⟩ := r
    cases he
    rfl

theorem vectorToGrads_append {α : Type} (v tail : List α) (sizes : List Nat) (h : sizes.sum ≤ v.length) :
    CDStep.vectorToGrads (v ++ tail) sizes = CDStep.vectorToGrads v sizes := by
  induction sizes generalizing v with
  | nil => rfl
  | cons k ks ih =>
    rw [List.sum_cons] at h
    have hk : k ≤ v.length := by omega
    rw [CDStep.vectorToGrads, CDStep.vectorToGrads, List.take_append_of_le_length hk, List.drop_append_of_le_length hk,
      ih _ (by rw [List.length_drop]; omega)]

theorem vectorToGrads_flatten {α : Type} (v : List α) (sizes : List Nat) (h : sizes.sum ≤ v.length) :
    (CDStep.vectorToGrads v sizes).flatten = v.take sizes.sum ∧ (CDStep.vectorToGrads v sizes).map List.length = sizes := by
  induction sizes generalizing v with
  | nil => exact ⟨by rw [List.sum_nil, List.take_zero]; rfl, rfl⟩
  | cons k ks ih =>
    rw [List.sum_cons] at h
    obtain ⟨a, b⟩ := ih (v.drop k) (by rw [List.length_drop]; omega)
    rw [CDStep.vectorToGrads, List.flatten_cons, a, List.map_cons, b, List.sum_cons, List.take_add,
      List.length_take_of_le (by omega)]
    exact ⟨rfl, rfl⟩

end QV.ArgConv
