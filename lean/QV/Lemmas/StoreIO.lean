/-
QV.Lemmas.StoreIO — helper lemmas for C11 and C20.4: what `save` writes (`dict.update` with keys that are new and
distinct is `++`, so the file is an append), what `load_state_dict` / `load` read back from a `Compatible` file on a
well-formed heap and what `autoload` reads as sizes, what `reinit` does to each network of a state.
-/
import QV.Lemmas.Store

namespace QV.Store

/-- The "compatible model" of C11: the file has, for every network of the receiver, a `state_dict` with that
network's parameter names and shapes (what strict `load_state_dict` accepts); the contents are free. -/
def Compatible (h : Heap) (file : File) (nets : List (String × Nat)) : Prop :=
  ∀ p ∈ nets, ∃ sd, aget file (.str p.1) = some (.sd sd) ∧ shapesOf sd = shapesOf (viewNet h p.2)

theorem Compatible.touches {h h' : Heap} {S : List Nat} (a : Touches h h' S) {file : File}
    {nets : List (String × Nat)} (c : Compatible h file nets) : Compatible h' file nets := by
  intro p hp
  obtain ⟨sd, h1, h2⟩ := c p hp
  refine ⟨sd, h1, ?_⟩
  rw [h2]
  unfold viewNet
  rw [a.nets]
  cases h.nets p.2 with
  | none => rfl
  | some net => exact (shapesOf_viewParams_touches a net.params).symm

theorem pickle_vals (h : Heap) (e : MDict) : pickle h (e.map (fun kv => (kv.1, DVal.val kv.2))) = e := by
  simp [pickle, List.map_map, Function.comp_def]

theorem pickle_stateDicts (h : Heap) (nets : List (String × Nat)) :
    pickle h (stateDicts h nets) = nets.map (fun p => (MKey.str p.1, FVal.sd (viewNet h p.2))) := by
  simp only [pickle, stateDicts, List.map_map]
  apply List.map_congr_left
  intro p _
  simp only [Function.comp_def, viewNet]
  cases h.nets p.2 <;> simp [viewParams]

theorem keys_stateDicts (h : Heap) (nets : List (String × Nat)) :
    keys (stateDicts h nets) = nets.map (fun p => MKey.str p.1) := by
  simp [keys, stateDicts, List.map_map, Function.comp_def]

theorem saveMeta_eq (st : NState) (e0 : MDict) (hk : st.ud.isSome → MKey.str "unitary_dict" ∉ keys e0) :
    saveMeta st e0 = e0 ++ (match st.ud with
      | some u => [(MKey.str "unitary_dict", u)]
      | none => []) := by
  unfold saveMeta
  cases hu : st.ud with
  | none => simp
  | some u => exact aset_fresh e0 _ u (hk (by simp [hu]))

/-- `hn` comes from `HeapWF.dkeys` (the keys of a dict object are distinct), `hd` from the `save` not having been
refused (no metadata key is a network name). -/
theorem savedFile_eq (h : Heap) (st : NState) (e0 : MDict)
    (hn : (keys (saveMeta st e0)).Nodup)
    (hd : ∀ k ∈ keys (saveMeta st e0), k ∉ st.nets.map (fun p => MKey.str p.1)) :
    savedFile h st e0 = st.nets.map (fun p => (MKey.str p.1, FVal.sd (viewNet h p.2))) ++ saveMeta st e0 := by
  unfold savedFile
  rw [aupdate_fresh]
  · rw [pickle, List.map_append]
    show pickle h _ ++ pickle h _ = _
    rw [pickle_stateDicts, pickle_vals]
  · intro k hk
    rw [keys_stateDicts]
    rw [keys_map_val] at hk
    exact hd k hk
  · rw [keys_map_val]; exact hn

/-- `hnd`: were two names bound to one tensor, the later copy would overwrite the earlier one and the first
parameter would not read back its own entry. -/
theorem copyParams_view (h : Heap) (sd : SD) (ps : List (String × Nat))
    (hnd : (ids ps).Nodup) (hal : ∀ x ∈ ids ps, (h.tens x).isSome)
    (hent : ∀ p ∈ ps, ∃ e, aget sd p.1 = some e ∧ e.1 = (h.readT p.2).1) :
    (copyParams h sd ps).2 = true ∧
    viewParams (copyParams h sd ps).1 ps = ps.map (fun p => (p.1, (aget sd p.1).getD ([], 0))) := by
  induction ps generalizing h with
  | nil => simp [copyParams, viewParams]
  | cons p r ih =>
    obtain ⟨nm, id⟩ := p
    simp only [ids, List.map_cons, List.nodup_cons] at hnd
    obtain ⟨e, he, hsh⟩ := hent (nm, id) (by simp)
    obtain ⟨sh, tok⟩ := e
    have hsome := hal id (by simp [ids])
    cases ht : h.tens id with
    | none => simp [ht] at hsome
    | some x =>
      obtain ⟨sh0, tok0⟩ := x
      have hsh' : sh = sh0 := by simpa [Heap.readT, ht] using hsh
      subst hsh'
      have t := touches_setTok h id tok
      have ih' := ih (h.setTok id tok) hnd.2
        (fun x hx => by rw [t.isSome]; exact hal x (by simp only [ids, List.map_cons, List.mem_cons]; exact Or.inr hx))
        (fun p hp => by
          obtain ⟨e, he, hs⟩ := hent p (List.mem_cons_of_mem _ hp)
          exact ⟨e, he, by rw [t.readT_shape]; exact hs⟩)
      simp only [copyParams, he, ht, if_true]
      refine ⟨ih'.1, ?_⟩
      simp only [viewParams, List.map_cons] at ih' ⊢
      rw [ih'.2]
      congr 1
      have t2 := touches_copyParams (h.setTok id tok) sd r
      have hid : id ∉ ids r := hnd.1
      rw [t2.readT_frame id hid, readT_setTok_same h id tok (by simp [ht])]
      simp [he, Heap.readT, ht]

theorem map_aget_self {β : Type} (sd : List (String × β)) (d : β) (hn : (keys sd).Nodup) :
    sd.map (fun e => (e.1, (aget sd e.1).getD d)) = sd := by
  have key : ∀ e ∈ sd, aget sd e.1 = some e.2 := fun e he => aget_of_mem_nodup sd e.1 e.2 he hn
  conv => rhs; rw [← List.map_id sd]
  apply List.map_congr_left
  intro e he
  simp [key e he]

theorem map_fst_of_shapesOf {sd sd' : SD} (h : shapesOf sd = shapesOf sd') : sd.map Prod.fst = sd'.map Prod.fst := by
  have := congrArg (List.map Prod.fst) h
  simpa [shapesOf, List.map_map, Function.comp_def] using this

theorem names_viewParams (h : Heap) (ps : List (String × Nat)) : (viewParams h ps).map Prod.fst = ps.map Prod.fst := by
  simp [viewParams, List.map_map, Function.comp_def]

theorem HeapWF.names_nodup {h : Heap} (wf : HeapWF h) (i : Nat) (net : Net) (hn : h.nets i = some net) :
    (net.params.map Prod.fst).Nodup := by
  have := map_fst_of_shapesOf (wf.shapes i net hn)
  rw [names_viewParams] at this
  rw [this]
  cases net.kind <;> simp [paramSpecs]

theorem aget_of_shapesOf (sd : SD) (L : List (String × Shape)) (hs : shapesOf sd = L)
    (hn : (L.map Prod.fst).Nodup) (nm : String) (sh : Shape) (hm : (nm, sh) ∈ L) :
    ∃ tok, aget sd nm = some (sh, tok) := by
  induction sd generalizing L with
  | nil => simp [shapesOf] at hs; subst hs; simp at hm
  | cons e r ih =>
    obtain ⟨n0, s0, t0⟩ := e
    cases L with
    | nil => simp [shapesOf] at hs
    | cons l0 Lr =>
      simp only [shapesOf, List.map_cons, List.cons.injEq] at hs
      obtain ⟨h0, hr⟩ := hs
      simp only [List.map_cons, List.nodup_cons] at hn
      rcases List.mem_cons.1 hm with h1 | h1
      · subst h1
        simp only [Prod.mk.injEq] at h0
        exact ⟨t0, by simp [aget_cons, h0.1, h0.2]⟩
      · obtain ⟨tok, ht⟩ := ih Lr hr hn.2 h1
        have hne : n0 ≠ nm := by
          intro e
          have : nm ∈ Lr.map Prod.fst := List.mem_map.2 ⟨(nm, sh), h1, rfl⟩
          rw [← h0] at hn
          exact hn.1 (by simpa [e] using this)
        exact ⟨tok, by simp [aget_cons, hne, ht]⟩

theorem shapesOf_entry {sd : SD} {h : Heap} {ps : List (String × Nat)}
    (hs : shapesOf sd = shapesOf (viewParams h ps)) (hn : (keys sd).Nodup) :
    ∀ p ∈ ps, ∃ e, aget sd p.1 = some e ∧ e.1 = (h.readT p.2).1 := fun p hp =>
  have hn' : ((shapesOf (viewParams h ps)).map Prod.fst).Nodup := by
    rw [← hs, shapesOf, List.map_map]; exact hn
  have hm : (p.1, (h.readT p.2).1) ∈ shapesOf (viewParams h ps) := by
    rw [shapesOf, viewParams, List.map_map]; exact List.mem_map_of_mem hp
  let ⟨tok, ht⟩ := aget_of_shapesOf sd _ hs hn' p.1 _ hm
  ⟨_, ht, rfl⟩

theorem loadStateDict_ok {h : Heap} (wf : HeapWF h) (i : Nat) (net : Net) (hn : h.nets i = some net) (sd : SD)
    (hs : shapesOf sd = shapesOf (viewParams h net.params)) :
    (loadStateDict h net (.sd sd)).2 = none ∧ viewParams (loadStateDict h net (.sd sd)).1 net.params = sd := by
  have hnames : sd.map Prod.fst = net.params.map Prod.fst := by
    rw [map_fst_of_shapesOf hs, names_viewParams]
  have hkn : (keys sd).Nodup := by
    unfold keys; rw [hnames]; exact wf.names_nodup i net hn
  obtain ⟨c1, c2⟩ := copyParams_view h sd net.params (wf.nodup i net hn) (wf.alloc i net hn)
    (shapesOf_entry hs hkn)
  have hun : (sd.any fun e => !ahas net.params e.1) = false := by
    rw [List.any_eq_false]
    intro e he
    have : e.1 ∈ keys net.params := by
      unfold keys; rw [← hnames]; exact List.mem_map.2 ⟨e, he, rfl⟩
    simp [(ahas_iff net.params e.1).2 this]
  simp only [loadStateDict, c1, hun, Bool.not_false, Bool.and_self, if_true, true_and]
  -- the parameters carry the names of `sd`, so looking their names up in `sd` is looking `sd`'s own names up
  rw [c2]
  show List.map ((fun n => (n, (aget sd n).getD ([], 0))) ∘ Prod.fst) net.params = sd
  rw [← List.map_map, ← hnames, List.map_map]
  exact map_aget_self sd _ hkn

theorem viewNet_touches_disj {h h' : Heap} {S : List Nat} (a : Touches h h' S) (id : Nat)
    (hd : ∀ net, h.nets id = some net → ∀ x ∈ ids net.params, x ∉ S) : viewNet h' id = viewNet h id :=
  viewNet_congr (congrFun a.nets id) fun net hn x hx => a.frame x (hd net hn x hx)

theorem HeapWF.disj_netsIds {h : Heap} (wf : HeapWF h) (id : Nat) (net : Net) (hn : h.nets id = some net)
    (nets : List (String × Nat)) (hid : id ∉ ids nets) : ∀ x ∈ ids net.params, x ∉ netsIds h nets := by
  intro x hx hm
  simp only [netsIds, List.mem_flatMap] at hm
  obtain ⟨p, hp, hxp⟩ := hm
  cases hn2 : h.nets p.2 with
  | none => simp [hn2] at hxp
  | some n2 =>
    simp only [hn2] at hxp
    have hne : id ≠ p.2 := fun e => hid (e ▸ List.mem_map.2 ⟨p, hp, rfl⟩)
    exact wf.disj id p.2 net n2 hn hn2 hne x hx hxp

theorem loadNets_ok {h : Heap} (wf : HeapWF h) (file : File) (nets : List (String × Nat))
    (hex : ∀ p ∈ nets, (h.nets p.2).isSome) (hnd : (ids nets).Nodup) (hc : Compatible h file nets) :
    (loadNets h file nets).2 = none ∧
    ∀ p ∈ nets, aget file (.str p.1) = some (.sd (viewNet (loadNets h file nets).1 p.2)) := by
  induction nets generalizing h with
  | nil => simp [loadNets]
  | cons q r ih =>
    obtain ⟨nm, id⟩ := q
    obtain ⟨sd, hsd, hsh⟩ := hc (nm, id) (by simp)
    have hsome := hex (nm, id) (by simp)
    cases hn : h.nets id with
    | none => simp [hn] at hsome
    | some net =>
      simp only [viewNet, hn] at hsh
      obtain ⟨l1, l2⟩ := loadStateDict_ok wf id net hn sd hsh
      have t1 := touches_loadStateDict h net (.sd sd)
      simp only [ids, List.map_cons, List.nodup_cons] at hnd
      have wf1 := wf.touches t1
      have ih' := ih wf1 (fun p hp => by rw [t1.nets]; exact hex p (List.mem_cons_of_mem _ hp)) hnd.2
        (Compatible.touches t1 (fun p hp => hc p (List.mem_cons_of_mem _ hp)))
      simp only [loadNets, hsd, hn, l1]
      refine ⟨ih'.1, ?_⟩
      intro p hp
      rcases List.mem_cons.1 hp with hp | hp
      · subst hp
        have t2 := touches_loadNets (loadStateDict h net (.sd sd)).1 file r
        have hn1 : (loadStateDict h net (.sd sd)).1.nets id = some net := by rw [t1.nets]; exact hn
        rw [viewNet_touches_disj t2 id (fun n hn' x hx => by
          rw [hn1] at hn'; cases hn'
          exact wf1.disj_netsIds id net hn1 r hnd.1 x hx)]
        simp only [viewNet, hn1, l2]
        exact hsd
      · exact ih'.2 p hp

theorem load_ok {h : Heap} (wf : HeapWF h) (fs : Files) (st : NState) (path : Nat) (file : File)
    (hf : fs path = some file) (ok : StateOK h st) (hc : Compatible h file st.nets) :
    (load h fs st path).2.2 = none ∧
    (∀ p ∈ st.nets, aget file (.str p.1) = some (.sd (viewNet (load h fs st path).1 p.2))) ∧
    (load h fs st path).2.1 = { st with ud := match st.ud, aget file (.str "unitary_dict") with
      | some _, some u => some u
      | _, _ => st.ud } := by
  obtain ⟨l1, l2⟩ := loadNets_ok wf file st.nets ok.nets ok.idsNodup hc
  unfold load
  simp only [hf, l1]
  cases hu : st.ud with
  | none => exact ⟨rfl, l2, by simp [← hu]⟩
  | some u0 =>
    cases hg : aget file (.str "unitary_dict") with
    | none => exact ⟨rfl, l2, by simp [← hu]⟩
    | some u => exact ⟨rfl, l2, rfl⟩

theorem load_ok_ud {h : Heap} (wf : HeapWF h) (fs : Files) (st : NState) (path : Nat) (file : File)
    (hf : fs path = some file) (ok : StateOK h st) (hc : Compatible h file st.nets) (hsome : st.ud.isSome)
    (u : FVal) (hu : aget file (.str "unitary_dict") = some u) : (load h fs st path).2.1.ud = some u := by
  rw [(load_ok wf fs st path file hf ok hc).2.2]
  cases hu2 : st.ud with
  | none => rw [hu2] at hsome; cases hsome
  | some u0 => simp only [hu]

theorem reinit_other {h : Heap} (wf : HeapWF h) (nets : List (String × Nat)) (rand : List (List Tok)) (id : Nat)
    (hid : id ∉ ids nets) : (reinit h nets rand).nets id = h.nets id ∧ viewNet (reinit h nets rand) id = viewNet h id := by
  induction nets generalizing h rand with
  | nil => exact ⟨rfl, rfl⟩
  | cons q r ih =>
    obtain ⟨a, b⟩ := ih (wf.initParams q.2 (rand.headD [])) rand.tail (fun hm => hid (List.mem_cons_of_mem _ hm))
    obtain ⟨c, d⟩ := initParams_old wf q.2 (rand.headD []) id (fun e => hid (e ▸ List.mem_cons_self))
    exact ⟨a.trans c, b.trans d⟩

theorem reinit_spec {h : Heap} (wf : HeapWF h) (nets : List (String × Nat)) (rand : List (List Tok))
    (hex : ∀ p ∈ nets, (h.nets p.2).isSome) (hnd : (ids nets).Nodup) :
    ∀ j p, nets[j]? = some p → ∃ net, h.nets p.2 = some net ∧
      FreshNet h (reinit h nets rand) p.2 net.kind net.nv net.nh net.na
        (paramSpecs net.kind net.nv net.nh net.na (rand.getD j [])) := by
  induction nets generalizing h rand with
  | nil => exact fun j p hp => by cases hp
  | cons q r ih =>
    have hnd' := List.nodup_cons.1 hnd
    have wf1 := wf.initParams q.2 (rand.headD [])
    intro j p hp
    cases j with
    | zero =>
      cases hp
      obtain ⟨net, hn⟩ := Option.isSome_iff_exists.1 (hex q List.mem_cons_self)
      -- re-initialised first, untouched by the re-initialisation of the others
      have f := freshNet_initParams h q.2 (rand.headD []) net hn
      obtain ⟨l1, l2⟩ := reinit_other wf1 r rand.tail q.2 hnd'.1
      obtain ⟨ps, f1, f2, f3⟩ := f
      refine ⟨net, hn, ps, l1.trans f1, l2.trans (f2.trans ?_), f3⟩
      cases rand <;> rfl
    | succ j =>
      have hpne : p.2 ≠ q.2 := fun e => hnd'.1 (e ▸ List.mem_map_of_mem (List.mem_of_getElem? hp))
      obtain ⟨o1, _⟩ := initParams_old wf q.2 (rand.headD []) p.2 hpne
      obtain ⟨net, m1, m2⟩ := ih wf1 rand.tail
        (fun p hp => netsGrow_initParams wf q.2 _ _ (hex p (List.mem_cons_of_mem _ hp))) hnd'.2 j p hp
      refine ⟨net, o1 ▸ m1, ?_⟩
      rw [show rand.getD (j + 1) [] = rand.tail.getD j [] by cases rand <;> rfl]
      exact m2.mono (initParams_next h q.2 _)

theorem aget_nets_map (nets : List (String × Nat)) (f : Nat → FVal) (p : String × Nat) (hp : p ∈ nets)
    (hn : (keys nets).Nodup) :
    aget (nets.map (fun q => (MKey.str q.1, f q.2))) (.str p.1) = some (f p.2) := by
  induction nets with
  | nil => simp at hp
  | cons q r ih =>
    simp only [keys, List.map_cons, List.nodup_cons] at hn
    rcases List.mem_cons.1 hp with h | h
    · subst h; simp [aget_cons]
    · have hne : q.1 ≠ p.1 := by
        intro e
        exact hn.1 (e ▸ List.mem_map.2 ⟨p, h, rfl⟩)
      have hne' : ¬ MKey.str q.1 = MKey.str p.1 := fun e => hne (by injection e)
      simp only [List.map_cons, aget_cons, hne', if_false]
      exact ih h hn.2

theorem aget_nets_map_none (nets : List (String × Nat)) (f : Nat → FVal) (k : MKey)
    (hk : k ∉ nets.map (fun q => MKey.str q.1)) :
    aget (nets.map (fun q => (MKey.str q.1, f q.2))) k = none := by
  rw [aget_none_iff, keys, List.map_map]
  exact hk

theorem lenOf_of_shapes (k : NetKind) (nv nh na : Nat) (sd : SD)
    (hs : shapesOf sd = shapesOf (paramSpecs k nv nh na [])) :
    lenOf (.sd sd) "visible_bias" = .ok nv ∧ lenOf (.sd sd) "hidden_bias" = .ok nh ∧
    (k = .purif → lenOf (.sd sd) "aux_bias" = .ok na) := by
  have hn : ((shapesOf (paramSpecs k nv nh na [])).map Prod.fst).Nodup := by
    cases k <;> simp [shapesOf, paramSpecs]
  have get := aget_of_shapesOf sd _ hs hn
  refine ⟨?_, ?_, ?_⟩
  · obtain ⟨t, ht⟩ := get "visible_bias" [nv] (by
      cases k <;> simp only [shapesOf, paramSpecs, List.map, List.mem_cons, true_or, or_true])
    simp only [lenOf, ht]
  · obtain ⟨t, ht⟩ := get "hidden_bias" [nh] (by
      cases k <;> simp only [shapesOf, paramSpecs, List.map, List.mem_cons, true_or, or_true])
    simp only [lenOf, ht]
  · rintro rfl
    obtain ⟨t, ht⟩ := get "aux_bias" [na] (by
      simp only [shapesOf, paramSpecs, List.map, List.mem_cons, true_or, or_true])
    simp only [lenOf, ht]

end QV.Store
