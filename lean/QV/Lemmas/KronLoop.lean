/-
QV.Lemmas.KronLoop — the loop form of `_kron_mult` (slices `k*2r + i, +r` updated in place, pair by pair) equals the
stage form used in `kronMult_dense` (`kronMultLoop_eq`); likewise for `rotate_rho`, two such calls on a list of rows with the
conjugate transpose in between (`rotateRhoL_eq`).
-/
import Mathlib.Data.List.Basic
import Mathlib.Tactic.Ring
import Mathlib.Tactic.Linarith
import QV.Model.Unitaries

namespace QV
open Unitaries

namespace KronLoop

/-! ### the two positions of a slice

The slice `slice(k*2r + i, (k+1)*2r + i, r)` that the loops select for the pair `(k, i)`, `i < r`, holds the positions
`k*2r + i` (low) and `k*2r + i + r` (high). Their quotients by `r` are `2k` and `2k + 1`; all index arithmetic below goes
through these. -/

theorem pos_lo_div {r I : ℕ} (K : ℕ) (hI : I < r) : (K * (2 * r) + I) / r = 2 * K := by
  rw [show K * (2 * r) + I = r * (2 * K) + I by ring, Nat.mul_add_div (Nat.zero_lt_of_lt hI), Nat.div_eq_of_lt hI,
    Nat.add_zero]

theorem pos_hi_div {r I : ℕ} (K : ℕ) (hI : I < r) : (K * (2 * r) + I + r) / r = 2 * K + 1 := by
  rw [show K * (2 * r) + I + r = r * (2 * K + 1) + I by ring, Nat.mul_add_div (Nat.zero_lt_of_lt hI),
    Nat.div_eq_of_lt hI, Nat.add_zero]

theorem pos_lo_inj {r k i K I : ℕ} (hi : i < r) (hI : I < r) (h : k * (2 * r) + i = K * (2 * r) + I) :
    k = K ∧ i = I := by
  have hd : 2 * k = 2 * K := by rw [← pos_lo_div k hi, ← pos_lo_div K hI, h]
  obtain rfl := Nat.eq_of_mul_eq_mul_left Nat.two_pos hd
  exact ⟨rfl, Nat.add_left_cancel h⟩

theorem pos_lo_ne_hi {r k i K I : ℕ} (hi : i < r) (hI : I < r) : k * (2 * r) + i ≠ K * (2 * r) + I + r := by
  intro h
  have hd : 2 * k = 2 * K + 1 := by rw [← pos_lo_div k hi, ← pos_hi_div K hI, h]
  omega

theorem pos_hi_lt {r k i l : ℕ} (hk : k < l) (hi : i < r) : k * (2 * r) + i + r < l * (2 * r) := by
  refine Nat.lt_of_lt_of_le ?_ (Nat.mul_le_mul_right (2 * r) (Nat.succ_le_of_lt hk))
  rw [Nat.succ_mul k, Nat.add_assoc, Nat.two_mul]
  exact Nat.add_lt_add_left (Nat.add_lt_add_right hi r) _

theorem exists_pair {r l idx : ℕ} (h : idx < l * (2 * r)) :
    ∃ k i, k < l ∧ i < r ∧ (idx = k * (2 * r) + i ∨ idx = k * (2 * r) + i + r) := by
  have hdm := Nat.div_add_mod idx (2 * r)
  have hm := Nat.mod_lt idx (Nat.pos_of_mul_pos_left (Nat.zero_lt_of_lt h))
  have hk : idx / (2 * r) < l := Nat.div_lt_of_lt_mul (by rwa [Nat.mul_comm])
  rw [Nat.mul_comm] at hdm
  rcases Nat.lt_or_ge (idx % (2 * r)) r with hlt | hge
  · exact ⟨_, _, hk, hlt, Or.inl hdm.symm⟩
  · refine ⟨_, idx % (2 * r) - r, hk, Nat.sub_lt_left_of_lt_add hge (Nat.two_mul r ▸ hm), Or.inr ?_⟩
    rw [Nat.add_assoc, Nat.sub_add_cancel hge, hdm]

variable {α β : Type} {addβ : β → β → β} {act : C α → β → β} {m : M2 α}

/-! ### the stage form at the two positions of a pair -/

theorem stage_lo {r K I : ℕ} (hI : I < r) (f : ℕ → β) :
    stage addβ act m r f (K * (2 * r) + I)
      = addβ (act (m false false) (f (K * (2 * r) + I))) (act (m false true) (f (K * (2 * r) + I + r))) := by
  have : (2 * K % 2 == 1) = false := by rw [Nat.mul_mod_right]; rfl
  simp only [stage, pos_lo_div K hI, this, Bool.false_eq_true, if_false]

theorem stage_hi {r K I : ℕ} (hI : I < r) (f : ℕ → β) :
    stage addβ act m r f (K * (2 * r) + I + r)
      = addβ (act (m true false) (f (K * (2 * r) + I))) (act (m true true) (f (K * (2 * r) + I + r))) := by
  have : ((2 * K + 1) % 2 == 1) = true := by rw [Nat.mul_add_mod]; rfl
  simp only [stage, pos_hi_div K hI, this, if_true, Nat.add_sub_cancel]

/-! ### the loops -/

section loops
variable [Inhabited β]

theorem getD_updPair {i0 r : ℕ} {y : List β} (h : i0 + r < y.length) (idx : ℕ) :
    (updPair addβ act m i0 r y).getD idx default
      = if idx = i0 + r then
          addβ (act (m true false) (y.getD i0 default)) (act (m true true) (y.getD (i0 + r) default))
        else if idx = i0 then
          addβ (act (m false false) (y.getD i0 default)) (act (m false true) (y.getD (i0 + r) default))
        else y.getD idx default := by
  simp only [updPair]
  rw [List.getD_eq_getElem?_getD, List.getElem?_set, List.length_set, List.getElem?_set]
  by_cases e1 : idx = i0 + r
  · subst e1
    rw [if_pos rfl, if_pos rfl, if_pos h]
    rfl
  · rw [if_neg e1, if_neg (Ne.symm e1)]
    by_cases e0 : idx = i0
    · subst e0
      rw [if_pos rfl, if_pos rfl, if_pos (by omega)]
      rfl
    · rw [if_neg e0, if_neg (Ne.symm e0), List.getD_eq_getElem?_getD]

/-! The loops process the pairs in lexicographic order; `(k, i)` comes before `(K, I)` when `k < K ∨ k = K ∧ i < I`. -/

variable (addβ act m)

/-- invariant of the loops when they are about to process pair `(K, I)`: both positions of every pair before it (in the
loops' order) hold the stage value computed from the original data `y`, those of the other pairs are untouched -/
def Inv (r K I : ℕ) (y z : List β) : Prop :=
  z.length = y.length ∧ ∀ k i, i < r → ∀ p, p = k * (2 * r) + i ∨ p = k * (2 * r) + i + r →
    z.getD p default = if k < K ∨ (k = K ∧ i < I) then stage addβ act m r (fun j => y.getD j default) p
      else y.getD p default

variable {addβ act m}

theorem inv_step {r K I : ℕ} (hI : I < r) {y z : List β}
    (hlen : K * (2 * r) + I + r < y.length) (h : Inv addβ act m r K I y z) :
    Inv addβ act m r K (I + 1) y (updPair addβ act m (K * (2 * r) + I) r z) := by
  obtain ⟨hl, hv⟩ := h
  -- the pair being processed still holds the original data
  have hnd : ¬(K < K ∨ K = K ∧ I < I) := fun h => h.elim (Nat.lt_irrefl K) fun h => Nat.lt_irrefl I h.2
  have h0 := hv K I hI _ (Or.inl rfl)
  have h1 := hv K I hI _ (Or.inr rfl)
  rw [if_neg hnd] at h0 h1
  rw [← hl] at hlen
  refine ⟨by rw [← hl, updPair, List.length_set, List.length_set], fun k i hi p hp => ?_⟩
  rw [getD_updPair hlen, h0, h1]
  by_cases hki : k = K ∧ i = I
  · obtain ⟨rfl, rfl⟩ := hki
    rw [if_pos (Or.inr ⟨rfl, Nat.lt_succ_self i⟩)]
    rcases hp with rfl | rfl
    · rw [if_neg (Nat.ne_of_lt (Nat.lt_add_of_pos_right (Nat.zero_lt_of_lt hI))), if_pos rfl, stage_lo hI]
    · rw [if_pos rfl, stage_hi hI]
  · -- another pair: none of its positions is written
    have n1 : p ≠ K * (2 * r) + I + r := by
      rcases hp with rfl | rfl
      · exact pos_lo_ne_hi hi hI
      · exact fun e => hki (pos_lo_inj hi hI (Nat.add_right_cancel e))
    have n0 : p ≠ K * (2 * r) + I := by
      rcases hp with rfl | rfl
      · exact fun e => hki (pos_lo_inj hi hI e)
      · exact (pos_lo_ne_hi hI hi).symm
    rw [if_neg n1, if_neg n0, hv k i hi p hp]
    exact if_congr (by rw [Nat.lt_succ_iff_lt_or_eq, and_or_left, ← or_assoc, or_iff_left hki]) rfl rfl

theorem inv_inner {r K : ℕ} {y : List β} (hlen : (K + 1) * (2 * r) ≤ y.length) {I : ℕ} (hI : I ≤ r) {z : List β}
    (h : Inv addβ act m r K 0 y z) :
    Inv addβ act m r K I y ((List.range I).foldl (fun y i => updPair addβ act m (K * (2 * r) + i) r y) z) := by
  induction I with
  | zero => exact h
  | succ J ih =>
    rw [List.range_succ, List.foldl_append, List.foldl_cons, List.foldl_nil]
    refine inv_step hI ?_ (ih (Nat.le_of_succ_le hI))
    exact Nat.lt_of_lt_of_le (pos_hi_lt (Nat.lt_succ_self K) hI) hlen

variable (addβ act m)

theorem inv_outer (r : ℕ) (y : List β) (K : ℕ) (hlen : K * (2 * r) ≤ y.length) :
    Inv addβ act m r K 0 y ((List.range K).foldl
      (fun y k => (List.range r).foldl (fun y i => updPair addβ act m (k * (2 * r) + i) r y) y) y) := by
  induction K with
  | zero => exact ⟨rfl, fun k i _ p _ => (if_neg (by omega)).symm⟩
  | succ J ih =>
    rw [List.range_succ, List.foldl_append, List.foldl_cons, List.foldl_nil]
    have hJ : J * (2 * r) ≤ y.length := Nat.le_trans (Nat.mul_le_mul_right _ (Nat.le_succ J)) hlen
    obtain ⟨hl, hv⟩ := inv_inner hlen (le_refl r) (ih hJ)
    refine ⟨hl, fun k i hi p hp => ?_⟩
    rw [hv k i hi p hp]
    -- block `J` complete = about to start block `J + 1`
    exact if_congr (by simp only [Nat.lt_succ_iff_lt_or_eq, Nat.not_lt_zero, and_false, or_false, hi, and_true]) rfl rfl

theorem stageLoop_length {r l : ℕ} {y : List β} (hlen : y.length = l * (2 * r)) :
    (stageLoop addβ act m r l y).length = y.length :=
  (inv_outer addβ act m r y l hlen.ge).1

end loops

/-! ### a stage reads nothing beyond `l·2r`, the stage of a site nothing beyond `2^n` -/

/-- The stage form lives on total functions `ℕ → β`, the loop form on lists read with `getD`: the two agree below the length
only. Chaining stages therefore needs that a stage at a position below `l·2r` reads no position beyond. -/
theorem stage_congr {r l : ℕ} {f g : ℕ → β} (hfg : ∀ j, j < l * (2 * r) → f j = g j) {idx : ℕ}
    (hidx : idx < l * (2 * r)) : stage addβ act m r f idx = stage addβ act m r g idx := by
  obtain ⟨k, i, hk, hi, hp⟩ := exists_pair hidx
  have hlt := pos_hi_lt hk hi
  have hlt' := Nat.lt_of_le_of_lt (Nat.le_add_right _ r) hlt
  rcases hp with rfl | rfl
  · rw [stage_lo hi, stage_lo hi, hfg _ hlt', hfg _ hlt]
  · rw [stage_hi hi, stage_hi hi, hfg _ hlt', hfg _ hlt]

/-- for site `s` a vector of length `2^n` is `2^s` blocks of two halves of length `2^(n-1-s)` -/
theorem two_pow_split {n s : ℕ} (hs : s < n) : 2 ^ s * (2 * 2 ^ (n - 1 - s)) = 2 ^ n := by
  rw [← Nat.pow_succ', ← Nat.pow_add]
  exact congrArg (2 ^ ·) (by omega)

theorem stage_congr_site {n : ℕ} (s : Fin n) {f g : ℕ → β} (hfg : ∀ j, j < 2 ^ n → f j = g j) {idx : ℕ}
    (hidx : idx < 2 ^ n) :
    stage addβ act m (2 ^ (n - 1 - s.val)) f idx = stage addβ act m (2 ^ (n - 1 - s.val)) g idx := by
  rw [← two_pow_split s.isLt] at hfg hidx
  exact stage_congr hfg hidx

theorem kronMult_congr (addβ : β → β → β) (act : C α → β → β) (n : ℕ) (us : Fin n → M2 α) {f g : ℕ → β}
    (hfg : ∀ j, j < 2 ^ n → f j = g j) {idx : ℕ} (hidx : idx < 2 ^ n) :
    kronMult addβ act n us f idx = kronMult addβ act n us g idx := by
  unfold kronMult
  rw [Fin.foldr_eq_finRange_foldr, Fin.foldr_eq_finRange_foldr]
  induction List.finRange n generalizing idx with
  | nil => exact hfg idx hidx
  | cons s L ih => exact stage_congr_site s (fun j => ih) hidx

end KronLoop

open KronLoop

variable {β : Type} [Inhabited β]
variable {α : Type} [Add α] [Mul α] [Neg α] [Sub α] [Zero α] [One α]

theorem stageLoop_eq_stage (addβ : β → β → β) (act : C α → β → β) (m : M2 α) (r l : ℕ) (hr : 0 < r) (y : List β)
    (hlen : y.length = l * (2 * r)) (idx : ℕ) (hidx : idx < y.length) :
    (stageLoop addβ act m r l y).getD idx default = stage addβ act m r (fun j => y.getD j default) idx := by
  obtain ⟨k, i, hk, hi, hp⟩ := exists_pair (hlen ▸ hidx)
  rw [stageLoop, (inv_outer addβ act m r y l hlen.ge).2 k i hi idx hp, if_pos (Or.inl hk)]

/-- `_kron_mult` with the code's loops is the stage form; with `kronMult_dense`, the dense tensor-product operator -/
theorem kronMultLoop_eq (addβ : β → β → β) (act : C α → β → β) (n : ℕ) (us : Fin n → M2 α) (x : List β)
    (hx : x.length = 2 ^ n) (idx : ℕ) (hidx : idx < 2 ^ n) :
    (kronMultLoop addβ act n us x).getD idx default = kronMult addβ act n us (fun j => x.getD j default) idx := by
  unfold kronMultLoop kronMult
  rw [Fin.foldr_eq_finRange_foldr, Fin.foldr_eq_finRange_foldr]
  -- length and values together: the step for the values needs the length of the list the earlier stages left
  suffices h : ∀ L : List (Fin n),
      (L.foldr (fun s y => stageLoop addβ act (us s) (2 ^ (n - 1 - s.val)) (2 ^ s.val) y) x).length = 2 ^ n ∧
      ∀ idx, idx < 2 ^ n →
        (L.foldr (fun s y => stageLoop addβ act (us s) (2 ^ (n - 1 - s.val)) (2 ^ s.val) y) x).getD idx default
          = L.foldr (fun s y => stage addβ act (us s) (2 ^ (n - 1 - s.val)) y) (fun j => x.getD j default) idx from
    (h _).2 idx hidx
  intro L
  induction L with
  | nil => exact ⟨hx, fun _ _ => rfl⟩
  | cons s L ih =>
    obtain ⟨hl, hv⟩ := ih
    have hlen := hl.trans (two_pow_split s.isLt).symm
    exact ⟨(stageLoop_length _ _ _ hlen).trans hl, fun idx hidx =>
      (stageLoop_eq_stage _ _ _ _ _ (Nat.two_pow_pos _) _ hlen idx (hl ▸ hidx)).trans (stage_congr_site s hv hidx)⟩

/-! ### `rotate_rho`: the loops on a matrix -/

theorem kronMult_col (n : ℕ) (us : Fin n → M2 α) (x : ℕ → Row α) (i c : ℕ) :
    kronMult addRow actRow n us x i c = kronMult C.add C.mul n us (fun i' => x i' c) i := by
  unfold kronMult
  rw [Fin.foldr_eq_finRange_foldr, Fin.foldr_eq_finRange_foldr]
  induction List.finRange n generalizing i with
  | nil => rfl
  | cons s L ih =>
    show stage C.add C.mul (us s) _ (fun i' => L.foldr _ x i' c) i = _
    rw [funext ih]
    rfl

theorem rotateRhoL_eq (n : ℕ) (us : Fin n → M2 α) (ρ : List (Row α)) (hρ : ρ.length = 2 ^ n)
    (i j : ℕ) (hi : i < 2 ^ n) (hj : j < 2 ^ n) :
    (rotateRhoL n us ρ).getD i default j = rotateRho n us (fun a b => ρ.getD a default b) i j := by
  unfold rotateRhoL rotateRho
  simp only []
  rw [kronMultLoop_eq addRow actRow n us _ (by simp) i hi, kronMult_col, kronMult_col]
  -- the conjugate-transposed intermediate is a list of `2^n` rows read off the first loop result: it is the stage form's
  -- intermediate below `2^n` only
  refine kronMult_congr C.add C.mul n us (fun k hk => ?_) hi
  rw [List.getD_eq_getElem?_getD, List.getElem?_map, List.getElem?_range hk]
  simp only [Option.map_some, Option.getD_some]
  rw [kronMultLoop_eq addRow actRow n us ρ hρ j hj]

end QV
