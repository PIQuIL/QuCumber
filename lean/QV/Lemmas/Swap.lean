/-
QV.Lemmas.Swap — helper lemmas for C09 (SWAP / second Rényi entropy):
 * region combinatorics: `combine`, the replica-exchange involution on pairs, `glue` of a configuration of a
   region with one of its complement (Mathlib's `Equiv.piEquivPiSubtypeProd`);
 * the purity `tr ρ_A²` as a double sum over pairs of full configurations;
 * the bound `tr ρ_A² ≤ (tr ρ)²` for Gram-form (positive semidefinite) ρ;
 * `torch.roll` pairing and the heap run of `SWAP.apply`.
-/
import Mathlib.Data.Complex.Basic
import Mathlib.Data.Complex.BigOperators
import Mathlib.Algebra.BigOperators.Field
import Mathlib.Algebra.Order.BigOperators.Group.Finset
import Mathlib.Data.Nat.ModEq
import Mathlib.Logic.Equiv.Prod
import Mathlib.Data.Fintype.BigOperators
import Mathlib.Data.List.FinRange
import QV.Lemmas.Observables

namespace QV.Obs
open QV Finset
open scoped ComplexConjugate

variable {n : ℕ}

/-! ### Regions -/

theorem combine_self (σ : Cfg n) (A : Fin n → Bool) : combine σ σ A = σ := by
  funext j; simp [combine]

theorem swapRows_involutive (A : Fin n → Bool) :
    Function.Involutive (fun x : Cfg n × Cfg n => swapRows A x.1 x.2) := by
  rintro ⟨s1, s2⟩
  apply Prod.ext <;> funext j <;> by_cases h : A j <;> simp [swapRows, combine, h]

def swapEquiv (A : Fin n → Bool) : Equiv.Perm (Cfg n × Cfg n) := (swapRows_involutive A).toPerm _

@[simp] theorem swapEquiv_apply (A : Fin n → Bool) (x : Cfg n × Cfg n) :
    swapEquiv A x = (combine x.2 x.1 A, combine x.1 x.2 A) := rfl

theorem sum_swapRows {M : Type*} [AddCommMonoid M] (A : Fin n → Bool) (f : Cfg n → Cfg n → M) :
    ∑ s1, ∑ s2, f (combine s2 s1 A) (combine s1 s2 A) = ∑ s1, ∑ s2, f s1 s2 := by
  rw [← Fintype.sum_prod_type', ← Fintype.sum_prod_type']
  exact Equiv.sum_comp (swapEquiv A) fun x => f x.1 x.2

theorem combine_compl (σ τ : Cfg n) (A : Fin n → Bool) :
    combine σ τ (fun j => !A j) = combine τ σ A := by
  funext j; by_cases h : A j <;> simp [combine, h]

theorem combine_empty (σ τ : Cfg n) : combine σ τ (fun _ => false) = τ := by
  funext j; simp [combine]

theorem combine_full (σ τ : Cfg n) : combine σ τ (fun _ => true) = σ := by
  funext j; simp [combine]

abbrev CfgIn (A : Fin n → Bool) := {j : Fin n // A j = true} → Bool
/-- `¬ A j = true` rather than `A j = false`: the complement subtype as `Equiv.piEquivPiSubtypeProd` produces it -/
abbrev CfgOut (A : Fin n → Bool) := {j : Fin n // ¬ A j = true} → Bool

def splitEquiv (A : Fin n → Bool) : Cfg n ≃ CfgIn A × CfgOut A :=
  Equiv.piEquivPiSubtypeProd (fun j => A j = true) (fun _ => Bool)

def glue (A : Fin n → Bool) (a : CfgIn A) (g : CfgOut A) : Cfg n := (splitEquiv A).symm (a, g)

theorem glue_apply (A : Fin n → Bool) (a : CfgIn A) (g : CfgOut A) (j : Fin n) :
    glue A a g j = if h : A j = true then a ⟨j, h⟩ else g ⟨j, h⟩ := rfl

theorem combine_glue (A : Fin n → Bool) (a b : CfgIn A) (g d : CfgOut A) :
    combine (glue A a d) (glue A b g) A = glue A a g := by
  funext j
  by_cases h : A j = true <;> simp [combine, glue_apply, h]

theorem sum_split {M : Type*} [AddCommMonoid M] (A : Fin n → Bool) (f : Cfg n → M) :
    ∑ s, f s = ∑ a : CfgIn A, ∑ g : CfgOut A, f (glue A a g) := by
  rw [← Fintype.sum_prod_type' (f := fun a g => f (glue A a g))]
  exact (Equiv.sum_comp (splitEquiv A).symm f).symm

/-- **`tr ρ_A²` as a sum over pairs of full configurations.**  With `ρ_A(a,b) = Σ_g R(a⊔g, b⊔g)` the
partial trace over the complement of `A`:
`Σ_{a,b} ρ_A(a,b) ρ_A(b,a) = Σ_{s₁,s₂} R(s₁', s₁) · R(s₂', s₂)` where `(s₁', s₂')` are `s₁, s₂` with region
`A` exchanged. -/
theorem purity_pairs (A : Fin n → Bool) (R : Cfg n → Cfg n → ℂ) :
    ∑ a : CfgIn A, ∑ b : CfgIn A, (∑ g : CfgOut A, R (glue A a g) (glue A b g))
        * (∑ d : CfgOut A, R (glue A b d) (glue A a d))
      = ∑ s1 : Cfg n, ∑ s2 : Cfg n, R (combine s2 s1 A) s1 * R (combine s1 s2 A) s2 := by
  -- with `s₁ = b⊔g`, `s₂ = a⊔d` the exchanged pair is `(a⊔g, b⊔d)`
  simp only [sum_split A, combine_glue, Finset.sum_mul_sum]
  rw [Finset.sum_comm]
  exact Finset.sum_congr rfl fun b _ => Finset.sum_comm

/-! ### The purity bound for Gram-form states -/

/-- If `R = Σ_k |v_k⟩⟨v_k|` (equivalently: `R` positive semidefinite) then `Re tr ρ_A² ≤ (tr R)²`, in the pair-sum
form of `purity_pairs`. -/
theorem purity_pairs_le {K : Type} [Fintype K] (v : K → Cfg n → ℂ) (A : Fin n → Bool) (R : Cfg n → Cfg n → ℂ)
    (hR : ∀ σ σ', R σ σ' = ∑ k, v k σ * conj (v k σ')) :
    (∑ s1, ∑ s2, R (combine s2 s1 A) s1 * R (combine s1 s2 A) s2).re ≤ (∑ s, R s s).re ^ 2 := by
  let q : Cfg n → ℝ := fun s => ∑ k, Complex.normSq (v k s)
  have hT : (∑ s, R s s).re = ∑ s, q s := by
    simp only [hR, Complex.mul_conj, ← Complex.ofReal_sum, Complex.ofReal_re, q]
  -- `2 Re (w · conj u) ≤ |w|² + |u|²` with `w = v_k x · v_l y`, `u = v_k s₁ · v_l s₂`, summed over `k`, `l`
  have key : ∀ x y s1 s2, 2 * (R x s1 * R y s2).re ≤ q x * q y + q s1 * q s2 := by
    intro x y s1 s2
    simp only [hR, q]
    rw [Finset.sum_mul_sum, Finset.sum_mul_sum, Finset.sum_mul_sum, Complex.re_sum, Finset.mul_sum,
      ← Finset.sum_add_distrib]
    refine Finset.sum_le_sum fun k _ => ?_
    rw [Complex.re_sum, Finset.mul_sum, ← Finset.sum_add_distrib]
    refine Finset.sum_le_sum fun l _ => ?_
    have h := Complex.normSq_nonneg (v k x * v l y - v k s1 * v l s2)
    rw [Complex.normSq_sub, Complex.normSq_mul, Complex.normSq_mul, map_mul] at h
    rw [mul_mul_mul_comm]
    linarith
  -- the exchange of region `A` permutes the pairs, so both halves of the bound sum to `(tr R)²`
  have hsum : ∑ s1, ∑ s2, (q (combine s2 s1 A) * q (combine s1 s2 A) + q s1 * q s2) = 2 * (∑ s, q s) ^ 2 := by
    simp only [Finset.sum_add_distrib]
    rw [sum_swapRows A fun a b => q a * q b, ← Finset.sum_mul_sum]
    ring
  have h2 := Finset.sum_le_sum fun s1 (_ : s1 ∈ Finset.univ) =>
    Finset.sum_le_sum fun s2 (_ : s2 ∈ Finset.univ) => key (combine s2 s1 A) (combine s1 s2 A) s1 s2
  simp only [hsum, ← Finset.mul_sum, ← Complex.re_sum] at h2
  rw [hT]
  linarith

/-! ### `torch.roll` pairing -/

theorem rollIdx_val (B : ℕ) (i : Fin B) :
    (rollIdx B i).val = if i.val = 0 then B - 1 else i.val - 1 := by
  have hi := i.isLt
  show (i.val + (B - 1)) % B = _
  split
  · next h => rw [h, Nat.zero_add, Nat.mod_eq_of_lt (Nat.sub_lt (Fin.pos i) Nat.one_pos)]
  · next h =>
    rw [show i.val + (B - 1) = (i.val - 1) + B by omega, Nat.add_mod_right,
      Nat.mod_eq_of_lt ((Nat.sub_le _ _).trans_lt hi)]

theorem rollIdx_int (B : ℕ) (i : Fin B) : ((rollIdx B i).val : ℤ) = ((i.val : ℤ) - 1) % (B : ℤ) := by
  show (((i.val + (B - 1)) % B : ℕ) : ℤ) = _
  rw [Int.natCast_mod, Nat.cast_add, Nat.cast_sub (Fin.pos i), Nat.cast_one,
    ← Int.add_emod_right ((i.val : ℤ) - 1)]
  congr 1
  ring

theorem rollIdx_ne (B : ℕ) (hB : 2 ≤ B) (i : Fin B) : rollIdx B i ≠ i := by
  intro h
  have hv := congrArg Fin.val h
  rw [rollIdx_val] at hv
  have hi := i.isLt
  split at hv <;> omega

theorem rollIdx_injective (B : ℕ) : Function.Injective (rollIdx B) := fun i j h =>
  Fin.ext ((Nat.ModEq.add_right_cancel' (B - 1) (congrArg Fin.val h)).eq_of_lt_of_lt i.isLt j.isLt)

theorem rollIdx_bijective (B : ℕ) : Function.Bijective (rollIdx B) :=
  Finite.injective_iff_bijective.1 (rollIdx_injective B)

theorem roll1_length {β : Type} (l : List β) : (roll1 l).length = l.length := by
  simp [roll1]

theorem roll1_getElem {β : Type} (l : List β) (i : ℕ) (h : i < l.length) :
    (roll1 l)[i]'(by rw [roll1_length]; exact h) = l[(rollIdx l.length ⟨i, h⟩).val] := by
  simp [roll1]

theorem roll1_perm {β : Type} (l : List β) : (roll1 l).Perm l := by
  have h := Equiv.Perm.ofFn_comp_perm (Equiv.ofBijective _ (rollIdx_bijective l.length))
    (fun i : Fin l.length => l[i.val])
  have h2 : List.ofFn (fun i : Fin l.length => l[i.val]) = l := List.ofFn_getElem
  rw [h2] at h
  exact h

/-! ### Heap run of `SWAP.apply` -/

section heap
set_option linter.unusedSectionVars false
variable {α : Type} [Add α] [Mul α] [Neg α] [Sub α] [Div α] [Zero α] [One α] [Transc α]

theorem swap_zip (S : ImpState α n) (A : Fin n → Bool) :
    ∀ (l l' : List (Cfg n)),
    (List.zipWith C.mul
        (List.zipWith S.weight (List.zipWith (fun r1 r2 => combine r2 r1 A) l l') l)
        (List.zipWith S.weight (List.zipWith (fun r2 t => combine t r2 A) l' l) l')).map (fun w => w.1)
      = List.zipWith (swapApply S A) l l' := by
  intro l
  induction l with
  | nil => intro l'; simp
  | cons a l ih =>
    intro l'
    cases l' with
    | nil => simp
    | cons b l' =>
      simp only [List.zipWith_cons_cons, List.map_cons, ih l']
      rfl

theorem swapRun_spec (S : ImpState α n) (A : Fin n → Bool) (h : THeap n) (sid : ℕ) (hs : sid < h.next) :
    Frame h (swapRun S A h sid).1 ∧
      (swapRun S A h sid).2 = List.zipWith (swapApply S A) (h.cells sid) (roll1 (h.cells sid)) := by
  -- frame: three allocations (the rolled batch, the two clones), then the two writes of `swap`, both to the clones
  refine ⟨((((Frame.refl h).alloc _).alloc _).alloc _).write (Nat.le_succ _) _ |>.write (Nat.le_add_right _ 2) _, ?_⟩
  have e1 : sid ≠ h.next := by omega
  have e2 : sid ≠ h.next + 1 := by omega
  have e3 : sid ≠ h.next + 1 + 1 := by omega
  have e4 : h.next ≠ h.next + 1 + 1 := by omega
  rw [← swap_zip]
  simp only [swapRun, swapInPlace, THeap.clone, THeap.alloc, THeap.write, e1, e2, e3, e4, if_false, if_true,
    Nat.succ_ne_self, Nat.left_eq_add, one_ne_zero]

end heap

end QV.Obs
