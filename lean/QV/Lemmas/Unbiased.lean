/-
QV.Lemmas.Unbiased — helper lemmas for the composition "sampler theorems (C05) ∘ estimator theorems (C08, C09) ∘
streaming statistics (C13)": linearity of `Prog.expect`, stationarity in expectation form, the mean of quantities with a
common expectation, product measures (invariance under a product kernel, one- and two-coordinate marginals), the
probabilistic sampling loop `Stats.drawsProg` versus the recorded loop `Stats.draws`.
-/
import Mathlib.Algebra.BigOperators.Field
import Mathlib.Data.Fintype.BigOperators
import Mathlib.Tactic.Ring
import Mathlib.Tactic.FieldSimp
import QV.Model.StatsProg
import QV.Lemmas.Prob
import QV.Lemmas.CDChain
import QV.Lemmas.Stats

namespace QV
open Finset

namespace Prog
variable {β γ : Type}

theorem expect_const (m : Prog ℝ β) (c : ℝ) : m.expect (fun _ => c) = c := by
  induction m with
  | ret b => rfl
  | flip p k ih => simp only [expect, ih]; ring

theorem expect_add (m : Prog ℝ β) (f g : β → ℝ) :
    m.expect (fun b => f b + g b) = m.expect f + m.expect g := by
  induction m with
  | ret b => rfl
  | flip p k ih => simp only [expect, ih]; ring

theorem expect_div_const (m : Prog ℝ β) (g : β → ℝ) (d : ℝ) :
    m.expect (fun b => g b / d) = m.expect g / d := by
  induction m with
  | ret b => rfl
  | flip p k ih => simp only [expect, ih]; ring

/-- stationarity in expectation form; `hinv` says that `π` is invariant under the kernel `v ↦ law (prog v)` -/
theorem expect_stationary {V : Type} [Fintype V] [DecidableEq V] (π : V → ℝ) (prog : V → Prog ℝ V)
    (hinv : ∀ w, ∑ v, π v * (prog v).law w = π w) (f : V → ℝ) :
    ∑ v, π v * (prog v).expect f = ∑ w, π w * f w := by
  simp only [expect_eq_sum, Finset.mul_sum]
  rw [Finset.sum_comm]
  refine Finset.sum_congr rfl (fun w _ => ?_)
  rw [← hinv w, Finset.sum_mul]
  refine Finset.sum_congr rfl (fun v _ => ?_)
  ring

end Prog

/-- the mean of `M ≥ 1` quantities with a common `μ`-weighted sum `c` has `μ`-weighted sum `c` (linearity only) -/
theorem weighted_mean_of_common {W : Type} [Fintype W] {M : ℕ} (hM : 1 ≤ M) (μ : W → ℝ) (F : Fin M → W → ℝ) (c : ℝ)
    (h : ∀ b, ∑ w, μ w * F b w = c) : ∑ w, μ w * ((∑ b, F b w) / M) = c := by
  have hM' : (M : ℝ) ≠ 0 := Nat.cast_ne_zero.2 (by omega)
  simp only [← mul_div_assoc, Finset.mul_sum]
  rw [← Finset.sum_div, Finset.sum_comm]
  simp only [h]
  rw [Finset.sum_const, Finset.card_univ, Fintype.card_fin, nsmul_eq_mul, mul_div_cancel_left₀ _ hM']

/-! ### product measures -/

section product
variable {V : Type} [Fintype V] [DecidableEq V]

omit [DecidableEq V] in
theorem prod_invariant {M : ℕ} (π : V → ℝ) (K : V → V → ℝ) (hinv : ∀ w, ∑ v, π v * K v w = π w)
    (ws : Fin M → V) :
    ∑ vs : Fin M → V, (∏ b, π (vs b)) * ∏ b, K (vs b) (ws b) = ∏ b, π (ws b) := by
  simp only [← Finset.prod_mul_distrib, ← Fintype.prod_sum fun b v => π v * K v (ws b), hinv]

/-- `sum_prod_marginal` (QV.Lemmas.CDChain, one weight per coordinate) with the same weight on every coordinate -/
theorem sum_prod_marginal1 {M : ℕ} (q : V → ℝ) (hq : ∑ w, q w = 1) (m : Fin M) (f : V → ℝ) :
    ∑ ws : Fin M → V, (∏ b, q (ws b)) * f (ws m) = ∑ w, q w * f w :=
  sum_prod_marginal (fun _ w => q w) (fun _ => hq) m f

omit [DecidableEq V] in
/-- Two different coordinates of an i.i.d. vector are independent, for product test functions.  `φ (ws i) * ψ (ws j)` is written as
a product over ALL coordinates (factor 1 away from `i`, `j`), so that the whole summand is a product over coordinates and
`Fintype.prod_sum` factorises the sum; `hij` makes the two non-trivial factors sit at different coordinates. -/
theorem sum_prod_pair {M : ℕ} (q : V → ℝ) (hq : ∑ w, q w = 1) (i j : Fin M) (hij : i ≠ j) (φ ψ : V → ℝ) :
    ∑ ws : Fin M → V, (∏ b, q (ws b)) * (φ (ws i) * ψ (ws j)) = (∑ w, q w * φ w) * ∑ w, q w * ψ w := by
  have h : ∀ ws : Fin M → V, φ (ws i) * ψ (ws j)
      = ∏ b, (if b = i then φ (ws b) else 1) * (if b = j then ψ (ws b) else 1) := fun ws => by
    rw [Finset.prod_mul_distrib, Finset.prod_ite_eq' univ i, Finset.prod_ite_eq' univ j, if_pos (mem_univ _),
      if_pos (mem_univ _)]
  have hone : ∀ b : Fin M, ∑ w, q w * ((if b = i then φ w else 1) * (if b = j then ψ w else 1))
      = (if b = i then ∑ w, q w * φ w else 1) * (if b = j then ∑ w, q w * ψ w else 1) := by
    intro b
    by_cases hbi : b = i
    · have hbj : b ≠ j := fun h => hij (hbi.symm.trans h)
      simp only [if_pos hbi, if_neg hbj, mul_one]
    · by_cases hbj : b = j
      · simp only [if_neg hbi, if_pos hbj, one_mul]
      · simp only [if_neg hbi, if_neg hbj, mul_one, hq]
  simp only [h, ← Finset.prod_mul_distrib,
    ← Fintype.prod_sum fun b w => q w * ((if b = i then φ w else 1) * (if b = j then ψ w else 1)), hone]
  rw [Finset.prod_mul_distrib, Finset.prod_ite_eq' univ i, Finset.prod_ite_eq' univ j, if_pos (mem_univ _),
    if_pos (mem_univ _)]

/-- two-coordinate marginal: any test function of the pair, by linearity from the indicators of single pairs -/
theorem sum_prod_marginal2 {M : ℕ} (q : V → ℝ) (hq : ∑ w, q w = 1) (i j : Fin M) (hij : i ≠ j)
    (g : V → V → ℝ) :
    ∑ ws : Fin M → V, (∏ b, q (ws b)) * g (ws i) (ws j) = ∑ a, ∑ c, q a * q c * g a c := by
  have hg : ∀ ws : Fin M → V, g (ws i) (ws j)
      = ∑ a, ∑ c, g a c * ((if ws i = a then 1 else 0) * (if ws j = c then 1 else 0)) := fun ws => by
    simp only [mul_ite, mul_one, mul_zero, Finset.sum_ite_eq, mem_univ, if_true]
  simp only [hg, Finset.mul_sum, mul_left_comm _ (g _ _)]
  rw [Finset.sum_comm]
  refine Finset.sum_congr rfl fun a _ => ?_
  rw [Finset.sum_comm]
  refine Finset.sum_congr rfl fun c _ => ?_
  rw [← Finset.mul_sum, sum_prod_pair q hq i j hij (fun w => if w = a then 1 else 0) (fun w => if w = c then 1 else 0)]
  simp only [mul_ite, mul_one, mul_zero, Finset.sum_ite_eq', mem_univ, if_true]
  ring

end product

/-! ### the sampling loop: recorded (`draws`) versus probabilistic (`drawsProg`) -/

namespace Stats
variable {σ : Type}

/-- on the recorded sampler of an execution, the states `draws` sees are the recorded ones, in order -/
theorem draws_recEnv (c : ℕ) (sts : List σ) (dflt : σ) (b s : ℕ) (rem i : ℕ) (ch : Option σ) :
    (draws (recEnv c sts dflt) c b s rem i ch).map (·.2) = (List.range' i rem).map (fun j => sts.getD j dflt) := by
  induction rem generalizing i ch with
  | zero => rfl
  | succ n ih =>
    simp only [draws, List.map_cons, List.range'_succ]
    rw [ih (i + 1)]
    rfl

theorem draws_recEnv_all (c : ℕ) (sts : List σ) (dflt : σ) (b s : ℕ) (ch : Option σ) :
    (draws (recEnv c sts dflt) c b s sts.length 0 ch).map (·.2) = sts := by
  rw [draws_recEnv]
  apply List.ext_getElem
  · simp
  · intro j h1 h2
    simp only [List.getElem_map, List.getElem_range', Nat.zero_add, Nat.one_mul]
    simp [List.getD_eq_getElem?_getD, h2]

theorem drawsProg_expect_congr (sampleK : ℕ → σ → Prog ℝ σ) (b s : ℕ) (rem i : ℕ) (st : σ)
    (g g' : List σ → ℝ) (h : ∀ l, l.length = rem → g l = g' l) :
    (drawsProg sampleK b s rem i st).expect g = (drawsProg sampleK b s rem i st).expect g' := by
  induction rem generalizing i st g g' with
  | zero => exact h [] rfl
  | succ n ih =>
    simp only [drawsProg, Prog.expect_bind, Prog.expect_map]
    congr 1
    funext st'
    exact ih (i + 1) st' _ _ (fun l hl => h (st' :: l) (by simp [hl]))

/-- **linearity over the loop under a stationary start**: if `μ` is invariant under every call `sampleK k`, then for a
start drawn from `μ` the expected SUM of a per-draw quantity `G` over the `rem` draws is `rem` times its `μ`-average
(no independence between the draws is needed, and none holds: the chains continue). -/
theorem drawsProg_expect_sum [Fintype σ] [DecidableEq σ] (sampleK : ℕ → σ → Prog ℝ σ) (μ : σ → ℝ)
    (hinv : ∀ k w, ∑ v, μ v * (sampleK k v).law w = μ w) (G : σ → ℝ) (b s : ℕ) (rem i : ℕ) :
    ∑ st, μ st * (drawsProg sampleK b s rem i st).expect (fun l => (l.map G).sum)
      = rem * ∑ st, μ st * G st := by
  induction rem generalizing i with
  | zero => simp [drawsProg, Prog.expect]
  | succ n ih =>
    have hstep : ∀ st, (drawsProg sampleK b s (n + 1) i st).expect (fun l => (l.map G).sum)
        = (sampleK (gibbsK b s i) st).expect (fun st' =>
            G st' + (drawsProg sampleK b s n (i + 1) st').expect (fun l => (l.map G).sum)) := by
      intro st
      simp only [drawsProg, Prog.expect_bind, Prog.expect_map, List.map_cons, List.sum_cons]
      congr 1
      funext st'
      rw [Prog.expect_add, Prog.expect_const]
    simp only [hstep]
    rw [Prog.expect_stationary μ (sampleK (gibbsK b s i)) (hinv _)]
    simp only [mul_add, Finset.sum_add_distrib]
    rw [ih (i + 1)]
    push_cast
    ring

end Stats
end QV
