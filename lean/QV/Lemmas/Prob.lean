/-
QV.Lemmas.Prob — helper lemmas for finite probabilistic programs (`QV.Model.Prob`):
monad laws, replay (`run`) versus `paths`, `expect` and its indicator case `law` (of `bind`, `map`, `flipVec`/`flipMat`,
batches of independent programs, `iter`), the abstract reversibility argument for two-block Gibbs kernels, and what detailed
balance gives for a stochastic matrix and its powers.
-/
import Mathlib.Algebra.BigOperators.Fin
import Mathlib.Algebra.BigOperators.Ring.Finset
import Mathlib.Data.Fintype.BigOperators
import Mathlib.Data.Fin.Tuple.Basic
import Mathlib.Data.Matrix.Mul
import QV.Model.Prob
import QV.Lemmas.Basic

namespace QV
open Finset

namespace Prog
variable {α β γ δ : Type}

/-! ### monad laws (any carrier) -/

theorem bind_assoc (m : Prog α β) (f : β → Prog α γ) (g : γ → Prog α δ) :
    (m.bind f).bind g = m.bind (fun b => (f b).bind g) := by
  induction m with
  | ret b => rfl
  | flip p k ih => simp only [bind]; congr 1; funext t; exact ih t

@[simp] theorem ret_bind (b : β) (f : β → Prog α γ) : (ret b : Prog α β).bind f = f b := rfl

@[simp] theorem bind_ret (m : Prog α β) : m.bind ret = m := by
  induction m with
  | ret b => rfl
  | flip p k ih => simp only [bind]; congr 1; funext t; exact ih t

theorem iter_add (step : β → Prog α β) (k₁ k₂ : ℕ) (v : β) :
    (iter step k₁ v).bind (iter step k₂) = iter step (k₁ + k₂) v := by
  induction k₁ generalizing v with
  | zero => simp [iter]
  | succ k ih =>
    rw [Nat.succ_add]
    simp only [iter, bind_assoc]
    congr 1; funext u; exact ih u

theorem map_map (f : β → γ) (g : γ → δ) (m : Prog α β) : (m.map f).map g = m.map (g ∘ f) := by
  simp only [map, bind_assoc]
  rfl

/-! ### replay versus paths (any carrier) -/

theorem run_map (f : β → γ) (m : Prog α β) (ds : List Bool) :
    (m.map f).run ds = (m.run ds).map (fun x => (f x.1, x.2)) := by
  induction m generalizing ds with
  | ret b => rfl
  | flip p k ih =>
    cases ds with
    | nil => rfl
    | cons d ds =>
      have ih' := ih d ds
      simp only [map] at ih'
      simp only [map, bind, run, ih']
      cases (k d).run ds <;> rfl

theorem run_of_mem_paths (m : Prog α β) :
    ∀ x ∈ m.paths, ∀ rest : List Bool, m.run (x.2.2 ++ rest) = some (x.1, x.2.1, rest) := by
  induction m with
  | ret b => intro x hx rest; simp only [paths, List.mem_singleton] at hx; subst hx; rfl
  | flip p k ih =>
    intro x hx rest
    simp only [paths, List.mem_append, List.mem_map] at hx
    rcases hx with ⟨y, hy, rfl⟩ | ⟨y, hy, rfl⟩
    · simp only [List.cons_append, run, ih true y hy rest]
    · simp only [List.cons_append, run, ih false y hy rest]

theorem mem_paths_of_run (m : Prog α β) :
    ∀ (ds : List Bool) (b : β) (ps : List α) (rest : List Bool), m.run ds = some (b, ps, rest) →
      ∃ used, ds = used ++ rest ∧ (b, ps, used) ∈ m.paths := by
  induction m with
  | ret b0 =>
    intro ds b ps rest h
    cases h
    exact ⟨[], rfl, List.mem_singleton.2 rfl⟩
  | flip p k ih =>
    intro ds b ps rest h
    cases ds with
    | nil => cases h
    | cons d ds =>
      rw [run] at h
      cases hr : (k d).run ds with
      | none => rw [hr] at h; cases h
      | some y =>
        rw [hr] at h
        cases h
        obtain ⟨used, rfl, hmem⟩ := ih d ds _ _ _ hr
        refine ⟨d :: used, rfl, ?_⟩
        simp only [paths, List.mem_append, List.mem_map]
        cases d
        · exact Or.inr ⟨_, hmem, rfl⟩
        · exact Or.inl ⟨_, hmem, rfl⟩

theorem mem_paths_of_run_nil (m : Prog α β) {ds : List Bool} {b : β} {ps : List α} (h : m.run ds = some (b, ps, [])) :
    (b, ps, ds) ∈ m.paths := by
  obtain ⟨used, hds, hmem⟩ := mem_paths_of_run m ds b ps [] h
  rwa [hds, List.append_nil]

theorem paths_probs_length (m : Prog α β) : ∀ x ∈ m.paths, x.2.1.length = x.2.2.length := by
  induction m with
  | ret b => intro x hx; simp only [paths, List.mem_singleton] at hx; subst hx; rfl
  | flip p k ih =>
    intro x hx
    simp only [paths, List.mem_append, List.mem_map] at hx
    rcases hx with ⟨y, hy, rfl⟩ | ⟨y, hy, rfl⟩ <;> simp [ih _ y hy]

theorem paths_map (f : β → γ) (m : Prog α β) :
    (m.map f).paths = m.paths.map (fun y => (f y.1, y.2)) := by
  induction m with
  | ret b => rfl
  | flip p k ih =>
    have ih' : ∀ t, ((k t).bind fun b => ret (f b)).paths = (k t).paths.map (fun y => (f y.1, y.2)) := ih
    simp only [map, bind, paths, ih', List.map_append, List.map_map]
    rfl

/-! ### law and expectation over ℝ

Laws of composed programs are computed through `expect`: a test function passes through `bind` (`expect_bind`) with no
`Fintype` / `DecidableEq` on the intermediate type, where `law_bind` needs both; `law_eq_of_expect` returns to `law`. -/

theorem expect_bind (m : Prog ℝ β) (f : β → Prog ℝ γ) (g : γ → ℝ) :
    (m.bind f).expect g = m.expect (fun b => (f b).expect g) := by
  induction m with
  | ret b => rfl
  | flip p k ih => simp only [bind, expect, ih]

theorem expect_map (f : β → γ) (m : Prog ℝ β) (g : γ → ℝ) : (m.map f).expect g = m.expect (fun b => g (f b)) := by
  rw [map, expect_bind]
  rfl

theorem law_eq_expect [DecidableEq β] (m : Prog ℝ β) (x : β) :
    m.law x = m.expect (fun b => if b = x then 1 else 0) := by
  induction m with
  | ret b => rfl
  | flip p k ih => simp only [law, expect, ih]

theorem expect_eq_sum [Fintype β] [DecidableEq β] (m : Prog ℝ β) (g : β → ℝ) :
    m.expect g = ∑ b, m.law b * g b := by
  induction m with
  | ret b => simp only [expect, law, ite_mul, one_mul, zero_mul, Finset.sum_ite_eq, Finset.mem_univ, if_true]
  | flip p k ih =>
    simp only [expect, law, ih, Finset.mul_sum, ← Finset.sum_add_distrib]
    refine Finset.sum_congr rfl (fun b _ => ?_)
    ring

theorem law_eq_of_expect [Fintype β] [DecidableEq β] (m : Prog ℝ β) (w : β → ℝ)
    (h : ∀ g, m.expect g = ∑ x, w x * g x) (x : β) : m.law x = w x := by
  rw [law_eq_expect, h]
  simp only [mul_ite, mul_one, mul_zero, Finset.sum_ite_eq', Finset.mem_univ, if_true]

theorem law_bind [Fintype β] [DecidableEq β] [DecidableEq γ] (m : Prog ℝ β) (f : β → Prog ℝ γ) (x : γ) :
    (m.bind f).law x = ∑ b, m.law b * (f b).law x := by
  rw [law_eq_expect, expect_bind, expect_eq_sum]
  simp only [law_eq_expect]

/-- no hypothesis `0 ≤ p ≤ 1` on the probabilities presented: a `flip` has mass `p + (1 - p)` for any real `p`; only the
sign of a law depends on the range. -/
theorem sum_law [Fintype β] [DecidableEq β] (m : Prog ℝ β) : ∑ x, m.law x = 1 := by
  induction m with
  | ret b => simp only [law, Finset.sum_ite_eq, Finset.mem_univ, if_true]
  | flip p k ih =>
    simp only [law, Finset.sum_add_distrib, ← Finset.mul_sum, ih]
    ring

theorem law_eq_sum_paths [DecidableEq β] (m : Prog ℝ β) (x : β) :
    m.law x = ((m.paths.filter (fun y => y.1 = x)).map (fun y => weight y.2.1 y.2.2)).sum := by
  induction m with
  | ret b =>
    simp only [law, paths, List.filter_cons, List.filter_nil, decide_eq_true_eq]
    split <;> simp only [List.map_cons, List.map_nil, List.sum_cons, List.sum_nil, weight, add_zero]
  | flip p k ih =>
    rw [law, paths, List.filter_append, List.map_append, List.sum_append, List.filter_map, List.filter_map,
      List.map_map, List.map_map, ih, ih, ← List.sum_map_mul_left, ← List.sum_map_mul_left]
    rfl

theorem bern_nonneg {p : ℝ} (h0 : 0 ≤ p) (h1 : p ≤ 1) (t : Bool) : 0 ≤ bern p t := by
  cases t
  · exact sub_nonneg.2 h1
  · exact h0

theorem sum_bern (p : ℝ) (f : Bool → ℝ) : ∑ t, bern p t * f t = p * f true + (1 - p) * f false :=
  Fintype.sum_bool _

/-- the induction step shared by `expect_flipVec` (head = one entry) and `expect_flipMat` (head = one row): a head with
weights `wh` consed onto a tail with weights `wt` -/
theorem expect_cons {A : Type} [Fintype A] {k : ℕ} (hd : Prog ℝ A) (tl : Prog ℝ (Fin k → A)) (wh : A → ℝ)
    (wt : (Fin k → A) → ℝ) (hh : ∀ g, hd.expect g = ∑ a, wh a * g a) (ht : ∀ g, tl.expect g = ∑ r, wt r * g r)
    (g : (Fin (k + 1) → A) → ℝ) :
    (hd.bind fun a => tl.bind fun r => ret (fun i => Fin.cases a r i : Fin (k + 1) → A)).expect g
      = ∑ x : Fin (k + 1) → A, wh (x 0) * wt (fun i => x i.succ) * g x := by
  simp only [expect_bind, hh, ht, expect]
  rw [← (Fin.consEquiv fun _ : Fin (k + 1) => A).sum_comp, Fintype.sum_prod_type]
  simp only [Fin.consEquiv_apply, Fin.cons_zero, Fin.cons_succ, mul_assoc, Finset.mul_sum]
  rfl

theorem expect_flipVec (m : ℕ) (p : Fin m → ℝ) (g : (Fin m → Bool) → ℝ) :
    (flipVec m p).expect g = ∑ x : Fin m → Bool, (∏ i, bern (p i) (x i)) * g x := by
  induction m with
  | zero =>
    rw [Fintype.sum_unique, Finset.univ_eq_empty, Finset.prod_empty, one_mul]
    exact congrArg g (Subsingleton.elim _ _)
  | succ m ih =>
    refine (expect_cons (flip (p 0) ret) (flipVec m fun i => p i.succ) (bern (p 0)) _
      (fun g => (sum_bern _ _).symm) (ih _) g).trans ?_
    simp only [Fin.prod_univ_succ]

theorem law_flipVec (m : ℕ) (p : Fin m → ℝ) (x : Fin m → Bool) :
    (flipVec m p).law x = ∏ i, bern (p i) (x i) :=
  law_eq_of_expect _ _ (expect_flipVec m p) x

theorem expect_flipMat (B m : ℕ) (p : Fin B → Fin m → ℝ) (g : (Fin B → Fin m → Bool) → ℝ) :
    (flipMat B m p).expect g = ∑ X : Fin B → Fin m → Bool, (∏ b, ∏ i, bern (p b i) (X b i)) * g X := by
  induction B with
  | zero =>
    rw [Fintype.sum_unique, Finset.univ_eq_empty, Finset.prod_empty, one_mul]
    exact congrArg g (Subsingleton.elim _ _)
  | succ B ih =>
    refine (expect_cons (flipVec m (p 0)) (flipMat B m fun b => p b.succ) _ _ (expect_flipVec m (p 0)) (ih _) g).trans ?_
    simp only [Fin.prod_univ_succ]

theorem law_flipMat (B m : ℕ) (p : Fin B → Fin m → ℝ) (X : Fin B → Fin m → Bool) :
    (flipMat B m p).law X = ∏ b, ∏ i, bern (p b i) (X b i) :=
  law_eq_of_expect _ _ (expect_flipMat B m p) X

theorem law_flipMat_rows (B m : ℕ) (p : Fin B → Fin m → ℝ) (X : Fin B → Fin m → Bool) :
    (flipMat B m p).law X = ∏ b, (flipVec m (p b)).law (X b) := by
  simp only [law_flipMat, law_flipVec]

/-- independence is kept by `bind`. The step is `Fintype.prod_sum`: a product over `b` of sums over `u : β` is the sum over
all `us : Fin B → β` of the products. -/
theorem law_bind_batch {B : ℕ} [Fintype β] [DecidableEq β] [DecidableEq γ] (mB : Prog ℝ (Fin B → β))
    (m : Fin B → Prog ℝ β) (fB : (Fin B → β) → Prog ℝ (Fin B → γ)) (f : Fin B → β → Prog ℝ γ)
    (hm : ∀ us, mB.law us = ∏ b, (m b).law (us b))
    (hf : ∀ us ws, (fB us).law ws = ∏ b, (f b (us b)).law (ws b)) (ws : Fin B → γ) :
    (mB.bind fB).law ws = ∏ b, ((m b).bind (f b)).law (ws b) := by
  simp only [law_bind, hm, hf, ← Finset.prod_mul_distrib]
  exact (Fintype.prod_sum fun b u => (m b).law u * (f b u).law (ws b)).symm

/-- row = current state, column = next state (row-stochastic: distributions act from the left, `π ᵥ* P`) -/
noncomputable def kernelOf [DecidableEq β] (step : β → Prog ℝ β) : Matrix β β ℝ :=
  Matrix.of fun v w => (step v).law w

theorem law_iter [Fintype β] [DecidableEq β] (step : β → Prog ℝ β) (k : ℕ) (v w : β) :
    (iter step k v).law w = (kernelOf step ^ k) v w := by
  induction k generalizing v with
  | zero => simp [iter, law, Matrix.one_apply]
  | succ k ih =>
    rw [pow_succ', Matrix.mul_apply]
    simp only [iter, law_bind, ih, kernelOf, Matrix.of_apply]

theorem law_iter_batch {B : ℕ} [Fintype β] [DecidableEq β] (step : β → Prog ℝ β)
    (stepB : (Fin B → β) → Prog ℝ (Fin B → β))
    (hstep : ∀ vs ws, (stepB vs).law ws = ∏ b, (step (vs b)).law (ws b)) (k : ℕ)
    (vs ws : Fin B → β) :
    (iter stepB k vs).law ws = ∏ b, (iter step k (vs b)).law (ws b) := by
  induction k generalizing vs ws with
  | zero =>
    simp only [iter, law]
    rw [Finset.prod_ite_zero]
    simp only [funext_iff, Finset.mem_univ, forall_const, Finset.prod_const_one]
  | succ k ih => exact law_bind_batch _ _ _ _ (hstep vs) ih ws

end Prog

/-! ### abstract two-block Gibbs kernel -/

section kernel
variable {V Hd : Type} [Fintype Hd]

/-- If `J v h = π v · pH v h = m h · pV h v` (both conditionals are the exact conditionals of the joint
weight `J`), then the kernel `P v v' = Σ_h pH v h · pV h v'` is reversible w.r.t. `π`. -/
theorem kernel_detailed_balance (J : V → Hd → ℝ) (π : V → ℝ) (m : Hd → ℝ) (pH : V → Hd → ℝ)
    (pV : Hd → V → ℝ) (hH : ∀ v h, J v h = π v * pH v h) (hV : ∀ v h, J v h = m h * pV h v)
    (v v' : V) :
    π v * ∑ h, pH v h * pV h v' = π v' * ∑ h, pH v' h * pV h v := by
  rw [Finset.mul_sum, Finset.mul_sum]
  refine Finset.sum_congr rfl (fun h _ => ?_)
  rw [← mul_assoc, ← hH, hV, ← mul_assoc, ← hH, hV]
  ring

end kernel

section matrix
open Matrix

theorem vecMul_eq_of_detailed_balance {V : Type} [Fintype V] (π : V → ℝ) (P : Matrix V V ℝ)
    (hdb : ∀ v w, π v * P v w = π w * P w v) (hrow : ∀ v, ∑ w, P v w = 1) : π ᵥ* P = π := by
  funext w
  simp only [Matrix.vecMul, dotProduct, hdb _ w, ← Finset.mul_sum, hrow, mul_one]

theorem vecMul_pow_of_invariant {V : Type} [Fintype V] [DecidableEq V] (π : V → ℝ)
    (P : Matrix V V ℝ) (hP : π ᵥ* P = π) (k : ℕ) : π ᵥ* P ^ k = π := by
  induction k with
  | zero => simp
  | succ k ih => rw [pow_succ, ← Matrix.vecMul_vecMul, ih, hP]

theorem sum_mul_mulVec_of_invariant {V : Type} [Fintype V] (π : V → ℝ) (P : Matrix V V ℝ) (hP : π ᵥ* P = π)
    (f : V → ℝ) : ∑ v, π v * ∑ w, P v w * f w = ∑ w, π w * f w := by
  change π ⬝ᵥ (P *ᵥ f) = π ⬝ᵥ f
  rw [Matrix.dotProduct_mulVec, hP]

theorem detailed_balance_pow {V : Type} [Fintype V] [DecidableEq V] (π : V → ℝ)
    (P : Matrix V V ℝ) (hP : ∀ v w, π v * P v w = π w * P w v) (k : ℕ) :
    ∀ v w, π v * (P ^ k) v w = π w * (P ^ k) w v := by
  induction k with
  | zero =>
    intro v w
    by_cases hvw : v = w
    · subst hvw; rfl
    · rw [pow_zero, Matrix.one_apply_ne hvw, Matrix.one_apply_ne (Ne.symm hvw), mul_zero, mul_zero]
  | succ k ih =>
    intro v w
    have e1 : (P ^ (k + 1)) v w = ∑ u, P v u * (P ^ k) u w := by rw [pow_succ', Matrix.mul_apply]
    have e2 : (P ^ (k + 1)) w v = ∑ u, (P ^ k) w u * P u v := by rw [pow_succ, Matrix.mul_apply]
    rw [e1, e2, Finset.mul_sum, Finset.mul_sum]
    refine Finset.sum_congr rfl fun u _ => ?_
    calc π v * (P v u * (P ^ k) u w) = (π v * P v u) * (P ^ k) u w := by ring
      _ = P u v * (π u * (P ^ k) u w) := by rw [hP]; ring
      _ = π w * ((P ^ k) w u * P u v) := by rw [ih]; ring

end matrix

end QV
