/-
QV.Lemmas.Grouping — `NeuralStateBase.gradient` accumulates a batch one unique basis at a time (`np.unique`): records folded
with an `add` group by group (groups = distinct keys), then over the groups, and seen through an additive real functional, give
the plain sum over the batch (`grouped_additive`). For real summands that is `sum_groups_of` of QV.Lemmas.Basic, to which
`foldl_additive` reduces the folds.
-/
import Mathlib.Algebra.BigOperators.Group.List.Basic
import Mathlib.Data.List.Nodup
import QV.Lemmas.GradLin

namespace QV
open Grads
variable {n h a : ℕ}

theorem foldr_insert_nodup {κ : Type} [BEq κ] [LawfulBEq κ] (l : List κ) : (l.foldr List.insert []).Nodup := by
  induction l with
  | nil => simp
  | cons x xs ih =>
    rw [List.foldr_cons]
    by_cases hx : x ∈ xs.foldr List.insert []
    · rw [List.insert_of_mem hx]; exact ih
    · rw [List.insert_of_not_mem hx]; exact List.nodup_cons.mpr ⟨hx, ih⟩

theorem mem_foldr_insert {κ : Type} [BEq κ] [LawfulBEq κ] (l : List κ) (x : κ) :
    x ∈ l.foldr List.insert [] ↔ x ∈ l := by
  induction l with
  | nil => simp
  | cons y ys ih => simp [List.mem_insert_iff, ih]

theorem foldl_additive {β : Type} (add : β → β → β) (φ : β → ℝ) (hadd : ∀ x y, φ (add x y) = φ x + φ y)
    (l : List β) (acc : β) : φ (l.foldl add acc) = φ acc + (l.map φ).sum := by
  induction l generalizing acc with
  | nil => simp
  | cons x xs ih => rw [List.foldl_cons, ih, hadd, List.map_cons, List.sum_cons, add_assoc]

/-- grouped accumulation of per-sample records (as `NeuralStateBase.gradient` does, one unique basis at a time: each group
folded from `zero`, then the group totals folded from `zero`), seen through an additive functional, is the plain sum over the
batch. The gradient theorems use it with `φ = (·.pair d)` on `RBM` and `PRBM` records. -/
theorem grouped_additive {β ι κ : Type} [BEq κ] [LawfulBEq κ] (add : β → β → β) (zero : β) (φ : β → ℝ)
    (hadd : ∀ x y, φ (add x y) = φ x + φ y) (hzero : φ zero = 0) (D : List ι) (key : ι → κ) (f : ι → β) :
    φ (((((D.map key).foldr List.insert []).map (fun u => D.filter (fun s => key s == u))).map
        (fun g => (g.map f).foldl add zero)).foldl add zero)
      = (D.map (fun s => φ (f s))).sum := by
  have hsum : ∀ l : List β, φ (l.foldl add zero) = (l.map φ).sum := fun l => by
    rw [foldl_additive add φ hadd, hzero, zero_add]
  rw [hsum, List.map_map, List.map_map, ← sum_groups_of D key (fun s => φ (f s)) _ (foldr_insert_nodup _)
    fun s hs => (mem_foldr_insert _ _).mpr (List.mem_map_of_mem hs)]
  congr 1
  refine List.map_congr_left (fun u _ => ?_)
  simp only [Function.comp, hsum, List.map_map]
  rfl

theorem pair_sumRBM (l : List (RBM ℝ n h)) (d : RBM ℝ n h) :
    (sumRBM l).pair d = (l.map (fun x => x.pair d)).sum := by
  rw [sumRBM, foldl_additive RBM.add (·.pair d) (RBM.pair_add · · d), RBM.pair_zero, zero_add]

theorem pair_sumPRBM (l : List (PRBM ℝ n h a)) (d : PRBM ℝ n h a) :
    (sumPRBM l).pair d = (l.map (fun x => x.pair d)).sum := by
  rw [sumPRBM, foldl_additive PRBM.add (·.pair d) (PRBM.pair_add · · d), PRBM.pair_zero, zero_add]

end QV
