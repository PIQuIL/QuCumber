/-
QV.Lemmas.MetricsSpectrum — the mixed fidelity on the spectrum the model hands over (C10.5): the model's `fidProd` is the
matrix product over `ℂ` (`matC`, `matC_fidProd`, used by C10); and, standing alone, the self-fidelity of a trace-one PSD
matrix over `Fin N` from the roots of the characteristic polynomial of `R·R` (`fidelityMixed_self`; C10 itself goes through
`C10_fid_mixed_self_uhlmann`, which states it for any finite index type).
-/
import QV.Lemmas.Uhlmann

namespace QV
namespace C10L
open Matrix Metrics
open scoped ComplexOrder

variable {N : ℕ}

/-- the root fidelity of `R` with itself is `tr R` (`rootFidelity_self`), so the code's value is `(tr R)² = 1` -/
theorem fidelityMixed_self (R : Matrix (Fin N) (Fin N) ℂ) (hR : R.PosSemidef) (htr : R.trace = 1)
    (eig : List (C ℝ)) (heig : ((eig.map toC : List ℂ) : Multiset ℂ) = (R * R).charpoly.roots) :
    fidelityMixed eig = 1 := by
  obtain ⟨r, -, hr, -, h⟩ := exists_rootFidelity R R hR hR
  rw [rootFidelity_self R hR, htr] at hr
  rw [h eig heig, Complex.ofReal_eq_one.mp hr.symm, one_pow]

/-- a model matrix (indexed by `ℕ`) as an `N × N` complex matrix -/
noncomputable def matC (N : ℕ) (M : ℕ → ℕ → C ℝ) : Matrix (Fin N) (Fin N) ℂ :=
  Matrix.of fun i j => toC (M i.val j.val)

/-- the matrix handed to `np.linalg.eigvals` is `target · (ρ/Z)` -/
theorem matC_fidProd (N : ℕ) (T rho : ℕ → ℕ → C ℝ) (Z : ℝ) :
    matC N (fidProd N T rho Z) = matC N T * matC N (fun i j => ((rho i j).1 / Z, (rho i j).2 / Z)) := by
  ext i j
  simp only [matC, fidProd, Matrix.of_apply, Matrix.mul_apply, toC_eq, QV.toC_sum, QV.toC_mul]

end C10L
end QV
