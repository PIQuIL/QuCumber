/-
QV.Lemmas.MetricsCompose — glue lemmas for composing C10 with C04 (dense Kronecker rotations): dictionaries with `Z ↦ 1`,
the fast-path operator of an all-`Z` basis, the lookup in `create_dict(**kw)` and the example dictionary `exKw` of the
non-vacuity examples, re-indexing by a permutation of the positions (`space[perm]`).
-/
import QV.Props.C04
import QV.Lemmas.Metrics

namespace QV
namespace C10L
open Finset Metrics QV.Props
variable {n : ℕ}


theorem usOf_Z (d : Char → M2 ℝ) (hZ : m2c (d 'Z') = 1) (b : Basis n) :
    ∀ j, rotOf b j = false → m2c (usOf d b j) = 1 := by
  intro j hj
  have : b.get j = 'Z' := by simpa [rotOf] using hj
  simp only [usOf, this, hZ]

/-- on an all-`Z` basis (`rot_sites.size == 0`) the fast-path operator is the identity -/
theorem fastK_one (us : Fin n → M2 ℝ) {b : Basis n} (h : anyRot b = false) : fastK us (rotOf b) = 1 :=
  fastK_of_not_rot _ _ fun j => by simpa using List.any_eq_false.mp h j (List.mem_finRange j)

/-! ### dictionaries given as Python association lists (`Metrics.dictFn`, `Metrics.userDict`) -/

theorem dictFn_createDict_nil : dictFn (Unitaries.createDict ([] : Unitaries.UDict ℝ)) = defaultDict := by
  funext c
  simp only [dictFn, Unitaries.createDict, defaultDict, List.nil_append, List.lookup_cons, List.lookup_nil]
  cases c == 'X' <;> cases c == 'Y' <;> cases c == 'Z' <;> rfl

/-- `create_dict(**kw)` read at a letter: the user's FIRST entry for it, else the default matrix -/
theorem userDict_eq (kw : Unitaries.UDict ℝ) (c : Char) : userDict kw c = (kw.lookup c).getD (defaultDict c) := by
  rw [← dictFn_createDict_nil]
  simp only [userDict, dictFn, Unitaries.createDict, List.lookup_append, List.nil_append]
  cases kw.lookup c <;> rfl

/-- … so whatever holds of every registered entry for `c` and of the default holds of the lookup -/
theorem userDict_cases (kw : Unitaries.UDict ℝ) (c : Char) :
    (∃ e ∈ kw, e.1 = c ∧ userDict kw c = e.2) ∨ userDict kw c = defaultDict c := by
  rw [userDict_eq]
  cases h : kw.lookup c with
  | none => exact Or.inr rfl
  | some m =>
    obtain ⟨l₁, l₂, rfl, -⟩ := List.lookup_eq_some_iff.mp h
    exact Or.inl ⟨(c, m), by simp, rfl, rfl⟩

section exkw
open Matrix
/-- a Hadamard-extended dictionary with an S-type letter and an OVERRIDDEN `Y`:
`create_dict(H = [[1,1],[1,-1]]/√2, S = diag(1, i), Y = [[0,1],[1,0]])` -/
noncomputable def exKw : Unitaries.UDict ℝ :=
  [('H', Unitaries.dX), ('S', fun r c => (if r == c then (if r then (0, 1) else (1, 0)) else (0, 0))),
   ('Y', fun r c => ((if r == c then 0 else 1), 0))]

theorem exKw_unitary : ∀ e ∈ exKw, (m2c e.2)ᴴ * m2c e.2 = 1 := by
  intro e he
  simp only [exKw, List.mem_cons, List.not_mem_nil, or_false] at he
  rcases he with rfl | rfl | rfl
  · exact C04_dX_unitary
  all_goals
    funext r c
    rw [Matrix.mul_apply, Fintype.sum_bool]
    cases r <;> cases c <;> simp [m2c, Matrix.conjTranspose_apply, Complex.ext_iff]

theorem exKw_Z : ∀ e ∈ exKw, e.1 = 'Z' → m2c e.2 = 1 := by
  intro e he hz
  simp only [exKw, List.mem_cons, List.not_mem_nil, or_false] at he
  rcases he with rfl | rfl | rfl <;> simp at hz

end exkw

/-- a vector over the first `N` positions re-indexed by a permutation of the positions (`v[perm]`) -/
def reidx {β : Type} (N : ℕ) (π : Equiv.Perm (Fin N)) (v : ℕ → β) : ℕ → β :=
  fun k => if hk : k < N then v (π ⟨k, hk⟩).val else v k

theorem reidx_val {β : Type} (N : ℕ) (π : Equiv.Perm (Fin N)) (v : ℕ → β) (k : Fin N) :
    reidx N π v k.val = v (π k).val := by
  simp [reidx, k.isLt]


end C10L
end QV
