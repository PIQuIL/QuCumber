/-
QV.Lemmas.CplxTensor — helper lemmas for the complex-tensor kernel model (C15): row-major indexing,
entries of `build`, real/imaginary planes (`reT`, `imT`, and the closing `make_complex` of an operation: `cat2_spec`),
broadcasting (axis by axis on padded shapes, then restated from the right: `bidx_spec`), sums, equations of the real torch
primitives (`bop`, `einsumR`, `dotR`, `matmulR`), that every index an `einsum` term reads is valid (`valid_opIdx`), `matmul` for
all rank combinations (`matmul_core`), a complex tensor combined with a real one or with its own planes (`bop_planes`,
`zip_planes`, `map_cplx`), the decoding `dec` of real pairs into ℂ (the same function as `toC` of QV.Lemmas.Cplx, whose
homomorphism lemmas it reuses), the scaled modulus / inverse / quotient / sigmoid formulas of fix F17 in ℂ, and the shape of
what `scalar_mult` returns (`scalarMult_shape`, for the `out=` test).
-/
import Mathlib.Algebra.BigOperators.Fin
import Mathlib.Data.List.Forall2
import Mathlib.Data.List.GetD
import Mathlib.Analysis.Complex.Norm
import Mathlib.Analysis.Complex.Trigonometric
import QV.Model.Cplx
import QV.Lemmas.Basic
import QV.Lemmas.Cplx
namespace QV.Cplx
open List
set_option linter.unusedSectionVars false

def Valid (s idx : List Nat) : Prop := List.Forall₂ (fun i d => i < d) idx s

@[simp] theorem valid_nil : Valid [] [] := List.Forall₂.nil
@[simp] theorem valid_cons {d i : Nat} {s idx : List Nat} : Valid (d :: s) (i :: idx) ↔ i < d ∧ Valid s idx := by
  simp [Valid]
theorem valid_nil_iff {idx : List Nat} : Valid [] idx ↔ idx = [] := by
  unfold Valid; exact List.forall₂_nil_right_iff
theorem Valid.length {s idx : List Nat} (h : Valid s idx) : idx.length = s.length := List.Forall₂.length_eq h

theorem flatten_lt {s idx : List Nat} (h : Valid s idx) : flatten s idx < numel s := by
  induction h with
  | nil => simp [flatten, numel]
  | @cons i d idx s hid _ ih =>
    simp only [flatten, numel]
    calc i * numel s + flatten s idx < i * numel s + numel s := by omega
      _ = (i + 1) * numel s := by ring
      _ ≤ d * numel s := Nat.mul_le_mul_right _ hid

theorem unflatten_flatten {s idx : List Nat} (h : Valid s idx) : unflatten s (flatten s idx) = idx := by
  induction h with
  | nil => simp [unflatten]
  | @cons i d idx s hid hv ih =>
    have hlt := flatten_lt hv
    have hpos : 0 < numel s := by omega
    simp only [flatten, unflatten]
    rw [Nat.mul_comm i, Nat.mul_add_div hpos, Nat.mul_add_mod, Nat.div_eq_of_lt hlt, Nat.mod_eq_of_lt hlt, ih]
    simp

theorem valid_unflatten {s : List Nat} {o : Nat} (h : o < numel s) : Valid s (unflatten s o) := by
  induction s generalizing o with
  | nil => simp [unflatten]
  | cons d s ih =>
    simp only [unflatten, valid_cons]
    simp only [numel] at h
    have hpos : 0 < numel s := by
      rcases Nat.eq_zero_or_pos (numel s) with h0 | h0
      · simp [h0] at h
      · exact h0
    refine ⟨?_, ih (Nat.mod_lt _ hpos)⟩
    rw [Nat.div_lt_iff_lt_mul hpos]; exact h

theorem flatten_unflatten {s : List Nat} {o : Nat} (h : o < numel s) : flatten s (unflatten s o) = o := by
  induction s generalizing o with
  | nil => simp [numel] at h; simp [flatten, h]
  | cons d s ih =>
    simp only [numel] at h
    have hpos : 0 < numel s := by
      rcases Nat.eq_zero_or_pos (numel s) with h0 | h0
      · simp [h0] at h
      · exact h0
    simp only [unflatten, flatten, ih (Nat.mod_lt _ hpos)]
    exact Nat.div_add_mod' o (numel s)

@[simp] theorem ok_bind {ε α β : Type} (a : α) (f : α → Except ε β) : (Except.ok a >>= f) = f a := rfl
@[simp] theorem error_bind {ε α β : Type} (e : ε) (f : α → Except ε β) : (Except.error e >>= f) = Except.error e := rfl
@[simp] theorem pure_eq_ok {ε α : Type} (a : α) : (pure a : Except ε α) = Except.ok a := rfl

theorem bind_eq_ok {ε α β : Type} {x : Except ε α} {f : α → Except ε β} {b : β} :
    (x >>= f) = .ok b ↔ ∃ a, x = .ok a ∧ f a = .ok b := by
  cases x with
  | error e => exact ⟨nofun, fun ⟨_, h, _⟩ => nomatch h⟩
  | ok a => exact ⟨fun h => ⟨a, rfl, h⟩, fun ⟨_, h, h'⟩ => by cases h; exact h'⟩

theorem getD_take {α : Type} {l : List α} {i n : Nat} (d : α) (h : i < n) : (l.take n).getD i d = l.getD i d := by
  rw [List.getD_eq_getElem?_getD, List.getElem?_take_of_lt h, ← List.getD_eq_getElem?_getD]

theorem getD_zipWith {α β γ : Type} (f : α → β → γ) {l₁ : List α} {l₂ : List β} {i : Nat} (d₁ : α) (d₂ : β) (d : γ)
    (h₁ : i < l₁.length) (h₂ : i < l₂.length) :
    (List.zipWith f l₁ l₂).getD i d = f (l₁.getD i d₁) (l₂.getD i d₂) := by
  rw [List.getD_eq_getElem _ _ (by rw [List.length_zipWith]; exact lt_min h₁ h₂), List.getElem_zipWith,
    List.getD_eq_getElem _ _ h₁, List.getD_eq_getElem _ _ h₂]

section entries
variable {α : Type} [Zero α]

@[simp] theorem build_shape (s : List Nat) (f : List Nat → α) : (build s f).shape = s := rfl
@[simp] theorem build_length (s : List Nat) (f : List Nat → α) : (build s f).data.length = numel s := by
  simp [build]

theorem at_build {s idx : List Nat} (f : List Nat → α) (h : Valid s idx) : (build s f).at idx = f idx := by
  have hlt := flatten_lt h
  simp only [Tensor.at, build]
  rw [List.getD_eq_getElem _ _ (by simpa using hlt)]
  simp [unflatten_flatten h]

def WF (t : Tensor α) : Prop := t.data.length = numel t.shape

theorem wf_build (s : List Nat) (f : List Nat → α) : WF (build s f) := by simp [WF]

theorem at_map (f : α → α) (t : Tensor α) (hw : WF t) {idx : List Nat} (h : Valid t.shape idx) :
    (t.map f).at idx = f (t.at idx) := by
  have hlt : flatten t.shape idx < t.data.length := by rw [hw]; exact flatten_lt h
  simp only [Tensor.at, Tensor.map]
  rw [List.getD_eq_getElem _ _ (by simpa using hlt), List.getD_eq_getElem _ _ hlt]
  simp

theorem at_zip (f : α → α → α) (a b : Tensor α) (hs : b.shape = a.shape) (ha : WF a) (hb : WF b)
    {idx : List Nat} (h : Valid a.shape idx) : (a.zip f b).at idx = f (a.at idx) (b.at idx) := by
  have hlt := flatten_lt h
  simp only [Tensor.at, Tensor.zip, hs]
  exact getD_zipWith f 0 0 0 (ha.symm ▸ hlt) (by rw [hb, hs]; exact hlt)

/-- the library's complex tensor: a real tensor whose leading axis, of length 2, holds the real and the imaginary plane;
`s` is the shape WITHOUT that axis -/
def IsCplx (x : Tensor α) (s : List Nat) : Prop := x.shape = 2 :: s ∧ WF x

def centry (x : Tensor α) (idx : List Nat) : C α := (x.at (0 :: idx), x.at (1 :: idx))

/-- `reT x s`, `imT x s`: what `real x`, `imag x` return on a complex tensor (`real_eq`, `imag_eq`), as slices of the data -/
def reT (x : Tensor α) (s : List Nat) : Tensor α := ⟨s, x.data.take (numel s)⟩
def imT (x : Tensor α) (s : List Nat) : Tensor α := ⟨s, (x.data.drop (numel s)).take (numel s)⟩

theorem IsCplx.length {x : Tensor α} {s : List Nat} (h : IsCplx x s) : x.data.length = 2 * numel s := by
  have := h.2; unfold WF at this; rw [this, h.1]; rfl

theorem real_eq {x : Tensor α} {s : List Nat} (h : IsCplx x s) : real x = .ok (reT x s) := by
  unfold real; rw [h.1]; rfl
theorem imag_eq {x : Tensor α} {s : List Nat} (h : IsCplx x s) : imag x = .ok (imT x s) := by
  unfold imag; rw [h.1]; rfl

@[simp] theorem reT_shape (x : Tensor α) (s : List Nat) : (reT x s).shape = s := rfl
@[simp] theorem imT_shape (x : Tensor α) (s : List Nat) : (imT x s).shape = s := rfl
theorem reT_wf {x : Tensor α} {s : List Nat} (h : IsCplx x s) : WF (reT x s) := by
  have := h.length
  show (x.data.take (numel s)).length = numel s
  rw [List.length_take]; omega
theorem imT_wf {x : Tensor α} {s : List Nat} (h : IsCplx x s) : WF (imT x s) := by
  have := h.length
  show ((x.data.drop (numel s)).take (numel s)).length = numel s
  rw [List.length_take, List.length_drop]; omega

theorem reT_at {x : Tensor α} {s idx : List Nat} (h : IsCplx x s) (hv : Valid s idx) :
    (reT x s).at idx = (centry x idx).1 := by
  simp only [Tensor.at, reT, centry, h.1, flatten, Nat.zero_mul, Nat.zero_add]
  exact getD_take 0 (flatten_lt hv)

theorem imT_at {x : Tensor α} {s idx : List Nat} (h : IsCplx x s) (hv : Valid s idx) :
    (imT x s).at idx = (centry x idx).2 := by
  simp only [Tensor.at, imT, centry, h.1, flatten, Nat.one_mul]
  rw [getD_take 0 (flatten_lt hv), List.getD_eq_getElem?_getD, List.getElem?_drop, ← List.getD_eq_getElem?_getD]

theorem cat2_eq {a b : Tensor α} (hs : a.shape = b.shape) : cat2 a b = .ok ⟨2 :: a.shape, a.data ++ b.data⟩ := by
  simp [cat2, hs]

theorem isCplx_cat {a b : Tensor α} (hs : b.shape = a.shape) (ha : WF a) (hb : WF b) :
    IsCplx (⟨2 :: a.shape, a.data ++ b.data⟩ : Tensor α) a.shape := by
  refine ⟨rfl, ?_⟩
  show (a.data ++ b.data).length = 2 * numel a.shape
  rw [List.length_append, (ha : a.data.length = _), (hb : b.data.length = _), hs, two_mul]

theorem centry_cat {a b : Tensor α} (hs : b.shape = a.shape) (ha : WF a) {idx : List Nat}
    (hv : Valid a.shape idx) :
    centry (⟨2 :: a.shape, a.data ++ b.data⟩ : Tensor α) idx = (a.at idx, b.at idx) := by
  have hlt := flatten_lt hv
  unfold WF at ha
  simp only [centry, Tensor.at, flatten, Nat.zero_mul, Nat.zero_add, Nat.one_mul]
  rw [List.getD_append _ _ _ _ (by omega), List.getD_append_right _ _ _ _ (by omega), ha, hs, Nat.add_sub_cancel_left]

end entries
/-! ### broadcasting -/

/-- index map for operands already padded to the rank of the result -/
def bidxEq (src idx : List Nat) : List Nat := List.zipWith (fun d i => if d = 1 then 0 else i) src idx

theorem bdim_iff {a b c : Nat} : bdim a b = some c ↔ (a = b ∨ a = 1 ∨ b = 1) ∧ c = if a = 1 then b else a := by
  unfold bdim
  by_cases hab : a = b
  · subst hab; simp; exact eq_comm
  · by_cases ha : a = 1
    · subst ha; simp [hab]; exact eq_comm
    · by_cases hb : b = 1
      · subst hb; simp [hab]; exact eq_comm
      · simp [hab, ha, hb]

theorem bdim_valid {a b d i : Nat} (h : bdim a b = some d) (hi : i < d) :
    (if a = 1 then 0 else i) < a ∧ (if b = 1 then 0 else i) < b := by
  obtain ⟨hc, rfl⟩ := bdim_iff.1 h
  split_ifs at hi ⊢ <;> omega

theorem bshapeEq_cons_eq_some {x y : Nat} {a b r : List Nat} : bshapeEq (x :: a) (y :: b) = some r ↔
    ∃ d r', bdim x y = some d ∧ bshapeEq a b = some r' ∧ r = d :: r' := by
  rw [bshapeEq]
  split
  · next d r' hd hr => simp [hd, hr, eq_comm]
  · next hn =>
    refine ⟨nofun, fun ⟨d, r', hd, hr, _⟩ => (hn d r' hd hr).elim⟩

theorem bshapeEq_valid : ∀ {a b r idx : List Nat}, bshapeEq a b = some r → Valid r idx →
    Valid a (bidxEq a idx) ∧ Valid b (bidxEq b idx)
  | [], [], _, _, h, hv => by cases h; cases hv; exact ⟨valid_nil, valid_nil⟩
  | [], _ :: _, _, _, h, _ => nomatch h
  | _ :: _, [], _, _, h, _ => nomatch h
  | x :: a, y :: b, _, idx, h, hv => by
    obtain ⟨d, r', hd, hr, rfl⟩ := bshapeEq_cons_eq_some.1 h
    obtain _ | ⟨i, idx⟩ := idx
    · cases hv
    · rw [valid_cons] at hv
      have hb := bdim_valid hd hv.1
      have := bshapeEq_valid hr hv.2
      exact ⟨valid_cons.2 ⟨hb.1, this.1⟩, valid_cons.2 ⟨hb.2, this.2⟩⟩

theorem bshapeEq_length : ∀ {a b r : List Nat}, bshapeEq a b = some r → a.length = r.length ∧ b.length = r.length
  | [], [], _, h => by cases h; exact ⟨rfl, rfl⟩
  | [], _ :: _, _, h => nomatch h
  | _ :: _, [], _, h => nomatch h
  | x :: a, y :: b, _, h => by
    obtain ⟨d, r', hd, hr, rfl⟩ := bshapeEq_cons_eq_some.1 h
    have := bshapeEq_length hr
    exact ⟨congrArg (· + 1) this.1, congrArg (· + 1) this.2⟩
theorem bidxEq_padL (k : Nat) (s idx : List Nat) (hl : idx.length = k + s.length) :
    bidxEq (List.replicate k 1 ++ s) idx = List.replicate k 0 ++ bidx s idx := by
  induction k generalizing idx with
  | zero => simp [bidxEq, bidx, hl]
  | succ k ih =>
    cases idx with
    | nil => simp at hl; omega
    | cons i idx =>
      have hl' : idx.length = k + s.length := by simp at hl; omega
      have := ih idx hl'
      simp only [List.replicate_succ, List.cons_append, bidxEq, List.zipWith_cons_cons, if_true] at this ⊢
      rw [this]
      simp only [bidx, List.length_cons]
      have : idx.length + 1 - s.length = (idx.length - s.length) + 1 := by omega
      rw [this, List.drop_succ_cons]

theorem valid_padL {k : Nat} {s j : List Nat} :
    Valid (List.replicate k 1 ++ s) (List.replicate k 0 ++ j) ↔ Valid s j := by
  induction k with
  | zero => simp
  | succ k ih => simp [List.replicate_succ, ih]

theorem padL_length {n : Nat} {s : List Nat} (h : s.length ≤ n) : (padL n s).length = n := by
  rw [padL, List.length_append, List.length_replicate]; omega

theorem broadcastShape_eq_ok {sx sy r : List Nat} : broadcastShape sx sy = .ok r ↔
    bshapeEq (padL (max sx.length sy.length) sx) (padL (max sx.length sy.length) sy) = some r := by
  unfold broadcastShape
  simp only
  split
  · next r' hr => rw [hr]; exact ⟨fun h => by cases h; rfl, fun h => by cases h; rfl⟩
  · next hn => rw [hn]; exact ⟨nofun, nofun⟩

theorem broadcast_length {sx sy r : List Nat} (h : broadcastShape sx sy = .ok r) :
    r.length = max sx.length sy.length := by
  rw [← (bshapeEq_length (broadcastShape_eq_ok.1 h)).1, padL_length (le_max_left _ _)]

theorem broadcast_valid {sx sy r idx : List Nat} (h : broadcastShape sx sy = .ok r) (hv : Valid r idx) :
    Valid sx (bidx sx idx) ∧ Valid sy (bidx sy idx) := by
  have hb := bshapeEq_valid (broadcastShape_eq_ok.1 h) hv
  have hl := broadcast_length h
  have hil := hv.length
  rw [padL, padL, bidxEq_padL _ _ _ (by omega), valid_padL, bidxEq_padL _ _ _ (by omega), valid_padL] at hb
  exact hb

/-- along an axis of length `d`, a valid position `i` is read as itself (if `d = 1` it is `0` anyway) -/
theorem ite_one_eq_self_of_lt {i d : Nat} (h : i < d) : (if d = 1 then 0 else i) = i := by
  split_ifs with h1
  · omega
  · rfl

theorem bidx_self {s idx : List Nat} (hv : Valid s idx) : bidx s idx = idx := by
  rw [bidx, hv.length, Nat.sub_self, List.drop_zero]
  induction hv with
  | nil => rfl
  | cons hid _ ih => rw [List.zipWith_cons_cons, ih, ite_one_eq_self_of_lt hid]

/-- a real tensor of shape `s` broadcast against the complex `2 :: s` (`z / scale`): the complex axis is dropped -/
theorem bidx_tail {s idx : List Nat} (c : Nat) (hv : Valid s idx) : bidx s (c :: idx) = idx := by
  have hl := hv.length
  have : bidx s (c :: idx) = bidx s idx := by
    simp only [bidx, List.length_cons, hl]
    rw [show s.length + 1 - s.length = 1 by omega]; simp
  rw [this, bidx_self hv]

theorem bdim_self (a : Nat) : bdim a a = some a := by simp [bdim]
theorem bdim_one_right (a : Nat) : bdim a 1 = some a := by
  unfold bdim; by_cases h : a = 1 <;> simp [h]

theorem bdim_one_left (a : Nat) : bdim 1 a = some a := by
  unfold bdim; by_cases h : 1 = a <;> simp [h]

theorem bshapeEq_self (s : List Nat) : bshapeEq s s = some s := by
  induction s with
  | nil => rfl
  | cons d s ih => simp [bshapeEq, bdim_self, ih]

theorem broadcastShape_self (s : List Nat) : broadcastShape s s = .ok s := by
  simp [broadcastShape, padL, bshapeEq_self]

theorem broadcastShape_cons_tail (d : Nat) (s : List Nat) : broadcastShape (d :: s) s = .ok (d :: s) := by
  have h1 : padL (max (d :: s).length s.length) (d :: s) = d :: s := by simp [padL]
  have h2 : padL (max (d :: s).length s.length) s = 1 :: s := by
    simp only [padL, List.length_cons]
    rw [show max (s.length + 1) s.length - s.length = 1 by omega]; rfl
  unfold broadcastShape
  simp only [h1, h2, bshapeEq, bdim_one_right, bshapeEq_self]

theorem bshapeEq_ones (s : List Nat) : bshapeEq s (List.replicate s.length 1) = some s := by
  induction s with
  | nil => rfl
  | cons d s ih => simp [List.replicate_succ, bshapeEq, bdim_one_right, ih]

theorem broadcastShape_nil_right (s : List Nat) : broadcastShape s [] = .ok s := by
  simp [broadcastShape, padL, bshapeEq_ones]

theorem bshapeEq_ones_left (s : List Nat) : bshapeEq (List.replicate s.length 1) s = some s := by
  induction s with
  | nil => rfl
  | cons d s ih => simp [List.replicate_succ, bshapeEq, bdim_one_left, ih]

theorem broadcastShape_nil_left (s : List Nat) : broadcastShape [] s = .ok s := by
  simp [broadcastShape, padL, bshapeEq_ones_left]

theorem bidx_nil (idx : List Nat) : bidx [] idx = [] := by simp [bidx]

/-! ### broadcasting: the right-aligned specification -/

/-- axis length `k` positions from the RIGHT, missing axes count as length 1 (the textbook statement of
broadcasting) -/
def rdim (s : List Nat) (k : Nat) : Nat := s.reverse.getD k 1
def ridx (idx : List Nat) (k : Nat) : Nat := idx.reverse.getD k 0

theorem bshapeEq_getD : ∀ {a b r : List Nat}, bshapeEq a b = some r →
    ∀ i, i < r.length → bdim (a.getD i 1) (b.getD i 1) = some (r.getD i 1)
  | [], [], _, h, _, hi => by cases h; cases hi
  | [], _ :: _, _, h, _, _ => nomatch h
  | _ :: _, [], _, h, _, _ => nomatch h
  | x :: a, y :: b, _, h, i, hi => by
    obtain ⟨d, r', hd, hr, rfl⟩ := bshapeEq_cons_eq_some.1 h
    cases i with
    | zero => exact hd
    | succ i => exact bshapeEq_getD hr i (Nat.lt_of_succ_lt_succ hi)

theorem bshapeEq_of_getD : ∀ {a b r : List Nat}, a.length = r.length → b.length = r.length →
    (∀ i, i < r.length → bdim (a.getD i 1) (b.getD i 1) = some (r.getD i 1)) → bshapeEq a b = some r
  | [], [], [], _, _, _ => rfl
  | _ :: _, _ :: _, d :: r, h1, h2, h3 =>
    bshapeEq_cons_eq_some.2 ⟨d, r, h3 0 (Nat.succ_pos _), bshapeEq_of_getD (Nat.succ.inj h1) (Nat.succ.inj h2)
      (fun i hi => h3 (i + 1) (Nat.succ_lt_succ hi)), rfl⟩
  | [], _, _ :: _, h1, _, _ => nomatch h1
  | _ :: _, _, [], h1, _, _ => nomatch h1
  | _, [], _ :: _, _, h2, _ => nomatch h2
  | _, _ :: _, [], _, h2, _ => nomatch h2

theorem bshapeEq_iff {a b r : List Nat} : bshapeEq a b = some r ↔
    a.length = r.length ∧ b.length = r.length ∧ ∀ i, i < r.length → bdim (a.getD i 1) (b.getD i 1) = some (r.getD i 1) :=
  ⟨fun h => ⟨(bshapeEq_length h).1, (bshapeEq_length h).2, bshapeEq_getD h⟩, fun h => bshapeEq_of_getD h.1 h.2.1 h.2.2⟩
theorem rdim_of_lt {l : List Nat} {k : Nat} (h : k < l.length) : rdim l k = l.getD (l.length - 1 - k) 1 := by
  unfold rdim; exact congrFun (List.getD_reverse k h) 1
theorem rdim_of_ge {l : List Nat} {k : Nat} (h : l.length ≤ k) : rdim l k = 1 := by
  unfold rdim; exact List.getD_eq_default _ _ (by simpa using h)

theorem rdim_padL (n : Nat) (s : List Nat) (k : Nat) : rdim (padL n s) k = rdim s k := by
  unfold rdim padL
  rw [List.reverse_append, List.reverse_replicate]
  by_cases hk : k < s.length
  · rw [List.getD_append _ _ _ _ (by simpa using hk)]
  · have hk' : s.reverse.length ≤ k := by simpa using hk
    rw [List.getD_append_right _ _ _ _ hk', List.getD_eq_default s.reverse 1 hk']
    by_cases h2 : k - s.reverse.length < n - s.length
    · rw [List.getD_replicate _ h2]
    · rw [List.getD_eq_default _ _ (by simpa using h2)]

/-- `P 1 1 1` covers the positions beyond the common length, where `rdim` reads the default `1` -/
theorem forall_getD_iff_rdim {a b r : List Nat} (ha : a.length = r.length) (hb : b.length = r.length)
    (P : Nat → Nat → Nat → Prop) (h1 : P 1 1 1) :
    (∀ i, i < r.length → P (a.getD i 1) (b.getD i 1) (r.getD i 1)) ↔ ∀ k, P (rdim a k) (rdim b k) (rdim r k) := by
  -- position `k` from the right is position `length - 1 - k` from the left
  have key : ∀ k, k < r.length → (P (rdim a k) (rdim b k) (rdim r k) ↔
      P (a.getD (r.length - 1 - k) 1) (b.getD (r.length - 1 - k) 1) (r.getD (r.length - 1 - k) 1)) := fun k hk => by
    rw [rdim_of_lt (ha.symm ▸ hk), rdim_of_lt (hb.symm ▸ hk), rdim_of_lt hk, ha, hb]
  constructor
  · intro h k
    by_cases hk : k < r.length
    · exact (key k hk).2 (h _ (by omega))
    · have hk := not_lt.1 hk
      rw [rdim_of_ge (ha.symm ▸ hk), rdim_of_ge (hb.symm ▸ hk), rdim_of_ge hk]; exact h1
  · intro h i hi
    have := (key (r.length - 1 - i) (by omega)).1 (h _)
    rwa [Nat.sub_sub_self (Nat.le_sub_one_of_lt hi)] at this
/-- **the broadcast index map is the right-aligned one**: the operand is read, `k` positions from the right, at
position 0 if its axis there has length 1, otherwise at the result's own index component. -/
theorem bidx_spec {sx idx : List Nat} (hl : sx.length ≤ idx.length) :
    (bidx sx idx).length = sx.length ∧
    ∀ k, k < sx.length → ridx (bidx sx idx) k = if rdim sx k = 1 then 0 else ridx idx k := by
  have hdl : sx.length = (idx.drop (idx.length - sx.length)).length := by rw [List.length_drop]; omega
  refine ⟨by rw [bidx, List.length_zipWith, ← hdl, min_self], fun k hk => ?_⟩
  -- reversal commutes with `zipWith` and turns the `drop` into a `take`
  rw [ridx, bidx, List.reverse_zipWith hdl, List.reverse_drop, Nat.sub_sub_self hl,
    getD_zipWith _ 1 0 0 (by simpa using hk) (by simp; omega), getD_take 0 hk]
  rfl

/-! ### entrywise operations under broadcasting; assembling a complex tensor from two planes -/
section bopl
variable {α : Type} [Zero α]

theorem bop_eq (f : α → α → α) (x y : Tensor α) {r : List Nat} (h : broadcastShape x.shape y.shape = .ok r) :
    bop f x y = .ok (build r (fun idx => f (x.at (bidx x.shape idx)) (y.at (bidx y.shape idx)))) := by
  simp [bop, h]

theorem bop_err (f : α → α → α) (x y : Tensor α) {e : PyErr} (h : broadcastShape x.shape y.shape = .error e) :
    bop f x y = .error e := by
  simp [bop, h]

theorem broadcastShape_err {sx sy : List Nat} {e : PyErr} (h : broadcastShape sx sy = .error e) : e = .RuntimeError := by
  unfold broadcastShape at h
  simp only at h
  split at h
  · cases h
  · simp only [Except.error.injEq] at h; exact h.symm

@[simp] theorem zip_shape (f : α → α → α) (a b : Tensor α) : (a.zip f b).shape = a.shape := rfl
@[simp] theorem map_shape (f : α → α) (a : Tensor α) : (a.map f).shape = a.shape := rfl

theorem wf_zip (f : α → α → α) (a b : Tensor α) (hs : b.shape = a.shape) (ha : WF a) (hb : WF b) : WF (a.zip f b) := by
  unfold WF at *
  simp [Tensor.zip, ha, hb, hs]

theorem wf_map (f : α → α) (a : Tensor α) (ha : WF a) : WF (a.map f) := by
  unfold WF at *
  simpa [Tensor.map] using ha

theorem at_zip_build (f : α → α → α) (s : List Nat) (g h : List Nat → α) {idx : List Nat} (hv : Valid s idx) :
    ((build s g).zip f (build s h)).at idx = f (g idx) (h idx) := by
  rw [at_zip f (build s g) (build s h) rfl (wf_build _ _) (wf_build _ _) (by simpa using hv), at_build _ hv, at_build _ hv]

theorem wf_zip_build (f : α → α → α) (s : List Nat) (g h : List Nat → α) : WF ((build s g).zip f (build s h)) :=
  wf_zip f (build s g) (build s h) rfl (wf_build _ _) (wf_build _ _)

/-- how the closing `make_complex(re, im)` of an operation is discharged: `P` is the entry formula the caller wants to see -/
theorem cat2_spec {a b : Tensor α} {s : List Nat} (P : List Nat → C α) (hsa : a.shape = s) (hsb : b.shape = s)
    (ha : WF a) (hb : WF b) (h : ∀ idx, Valid s idx → (a.at idx, b.at idx) = P idx) :
    ∃ z, cat2 a b = .ok z ∧ IsCplx z s ∧ ∀ idx, Valid s idx → centry z idx = P idx := by
  subst hsa
  refine ⟨⟨2 :: a.shape, a.data ++ b.data⟩, by simp [cat2, hsb], isCplx_cat hsb ha hb, fun idx hv => ?_⟩
  rw [centry_cat hsb ha hv, h idx hv]

theorem makeComplex_some (x y : Tensor α) : makeComplex x (some y) = cat2 x y := rfl

end bopl
/-! ### sums of pairs -/
section sums
variable {R : Type} [CommRing R]

/-- `C.add` is the `+` of `R × R`, so `C.sum` is a `Finset` sum of pairs -/
theorem csum_eq (n : ℕ) (f : Fin n → C R) : C.sum n f = (∑ i, (f i).1, ∑ i, (f i).2) := by
  have h : C.sum n f = ∑ i, f i := (foldl_add_eq n f 0).trans (zero_add _)
  rw [h]; exact Prod.ext Prod.fst_sum Prod.snd_sum

theorem lsum_eq_sum (l : List R) : lsum l = l.sum := List.sum_eq_foldl.symm

/-- `|z|²` as the code forms it, `Re(z · conj z)` -/
theorem mul_conj_re (z : C R) : (C.mul z (C.conj z)).1 = C.normSq z := by
  simp only [C.mul, C.conj, C.normSq, mul_neg, sub_neg_eq_add]

end sums

/-! ### shapes split as `batch ++ matrix`, views -/

theorem numel_append (a b : List Nat) : numel (a ++ b) = numel a * numel b := by
  induction a with
  | nil => simp [numel]
  | cons d a ih => simp [numel, ih, Nat.mul_assoc]

theorem valid_append {b j : List Nat} : ∀ {a i : List Nat}, i.length = a.length →
    (Valid (a ++ b) (i ++ j) ↔ Valid a i ∧ Valid b j)
  | [], [], _ => by simp
  | _ :: a, x :: i, hl => by
    rw [List.cons_append, List.cons_append, valid_cons, valid_cons, valid_append (Nat.succ.inj hl), and_assoc]

theorem flatten_append {b j : List Nat} : ∀ {a i : List Nat}, i.length = a.length →
    flatten (a ++ b) (i ++ j) = flatten a i * numel b + flatten b j
  | [], [], _ => by show flatten b j = 0 * numel b + flatten b j; rw [Nat.zero_mul, Nat.zero_add]
  | _ :: a, x :: i, hl => by
    rw [List.cons_append, List.cons_append, flatten, flatten, flatten_append (Nat.succ.inj hl), numel_append,
      Nat.add_mul, Nat.mul_assoc, Nat.add_assoc]

/-- `torch.matmul` turns a vector operand into a `k×1` (here) or `1×k` (next lemma) matrix and removes the axis from the
result; an axis of length 1 moves no entry -/
theorem flatten_append_one_right {b bi : List Nat} (hl : bi.length = b.length) (m i : Nat) :
    flatten (b ++ [m]) (bi ++ [i]) = flatten (b ++ [m, 1]) (bi ++ [i, 0]) := by
  rw [flatten_append hl, flatten_append hl]
  simp only [flatten, numel, Nat.mul_one, Nat.add_zero]

theorem flatten_append_one_left {b bi : List Nat} (hl : bi.length = b.length) (p j : Nat) :
    flatten (b ++ [p]) (bi ++ [j]) = flatten (b ++ [1, p]) (bi ++ [0, j]) := by
  rw [flatten_append hl, flatten_append hl]
  simp only [flatten, numel, Nat.mul_one, Nat.one_mul, Nat.zero_mul, Nat.add_zero, Nat.zero_add]

theorem splitMat_cons3 (d e f : Nat) (t : List Nat) :
    splitMat (d :: e :: f :: t) = (splitMat (e :: f :: t)).map (fun r => (d :: r.1, r.2.1, r.2.2)) := by
  simp [splitMat]

theorem splitMat_append (b : List Nat) (m k : Nat) : splitMat (b ++ [m, k]) = some (b, m, k) := by
  induction b with
  | nil => simp [splitMat]
  | cons d b ih =>
    cases b with
    | nil => simp [splitMat]
    | cons e b' =>
      obtain ⟨f, t, ht⟩ : ∃ f t, b' ++ [m, k] = f :: t := by
        cases b' with
        | nil => exact ⟨m, [k], rfl⟩
        | cons f b'' => exact ⟨f, b'' ++ [m, k], rfl⟩
      simp only [List.cons_append] at ih ⊢
      rw [ht] at ih ⊢
      rw [splitMat_cons3, ih]
      simp

section views
variable {α : Type} [Zero α]

theorem zip_build (f : α → α → α) (s : List Nat) (g h : List Nat → α) :
    (build s g).zip f (build s h) = build s (fun idx => f (g idx) (h idx)) := by
  simp [Tensor.zip, build, List.zipWith_map_left, List.zipWith_map_right, List.zipWith_self]

theorem at_view (t : Tensor α) {s' idx' idx : List Nat} (h : flatten s' idx' = flatten t.shape idx) :
    (⟨s', t.data⟩ : Tensor α).at idx' = t.at idx := by
  simp [Tensor.at, h]

end views
/-! ### einsum -/

theorem mem_allIdx {s idx : List Nat} : idx ∈ allIdx s ↔ Valid s idx := by
  induction s generalizing idx with
  | nil => simp [allIdx, valid_nil_iff]
  | cons d s ih =>
    simp only [allIdx, List.mem_flatMap, List.mem_range, List.mem_map]
    constructor
    · rintro ⟨i, hi, t, ht, rfl⟩; exact valid_cons.2 ⟨hi, ih.1 ht⟩
    · intro h
      cases idx with
      | nil => cases h
      | cons i t => rw [valid_cons] at h; exact ⟨i, h.1, t, ih.2 h.2, rfl⟩

theorem nodup_allIdx (s : List Nat) : (allIdx s).Nodup := by
  induction s with
  | nil => simp [allIdx]
  | cons d s ih =>
    simp only [allIdx]
    rw [List.nodup_flatMap]
    refine ⟨fun i _ => ih.map (fun a b h => by simpa using h), ?_⟩
    refine List.Nodup.pairwise_of_forall_ne List.nodup_range ?_
    intro i _ j _ hij
    simp only [Function.onFun, List.disjoint_left, List.mem_map]
    rintro t ⟨a, _, rfl⟩ ⟨b, _, hb⟩
    simp at hb; exact hij hb.1.symm

theorem mem_dedup {xs : List Nat} {l : Nat} : l ∈ dedup xs ↔ l ∈ xs := by
  induction xs with
  | nil => simp [dedup]
  | cons x xs ih =>
    simp only [dedup, List.mem_cons, List.mem_filter, ih, bne_iff_ne, ne_eq]
    by_cases h : l = x <;> simp [h]

theorem nodup_dedup (xs : List Nat) : (dedup xs).Nodup := by
  induction xs with
  | nil => simp [dedup]
  | cons x xs ih =>
    simp only [dedup, List.nodup_cons, List.mem_filter, bne_self_eq_false, Bool.false_eq_true, and_false,
      not_false_eq_true, true_and]
    exact ih.filter _

theorem mem_sumLabels {eq : EinEq} {l : Nat} : l ∈ sumLabels eq ↔ (l ∈ eq.a ∨ l ∈ eq.b) ∧ l ∉ eq.out := by
  simp [sumLabels, mem_dedup]

theorem opIdx_nil (env : List (Nat × Nat)) : opIdx [] [] env = [] := rfl

theorem opIdx_cons (l d : Nat) (ls s : List Nat) (env : List (Nat × Nat)) :
    opIdx (l :: ls) (d :: s) env = (if d = 1 then 0 else envVal env l) :: opIdx ls s env := rfl

theorem envVal_cons (l v l' : Nat) (env : List (Nat × Nat)) :
    envVal ((l, v) :: env) l' = if l' = l then v else envVal env l' := by
  unfold envVal
  rw [List.lookup_cons]
  by_cases h : l' = l
  · rw [h, beq_self_eq_true, if_pos rfl]; rfl
  · rw [beq_false_of_ne h, if_neg h]

theorem operandOk_iff {ls s : List Nat} : operandOk ls s = true ↔
    ls.length = s.length ∧ ∀ p ∈ ls.zip s, labelDim ls s p.1 = some p.2 := by
  simp [operandOk, List.all_eq_true]

theorem einOk_iff {eq : EinEq} {sa sb : List Nat} : einOk eq sa sb = true ↔
    operandOk eq.a sa = true ∧ operandOk eq.b sb = true ∧ (∀ l ∈ eq.a ++ eq.b, (labelSize eq sa sb l).isSome)
      ∧ nodupB eq.out = true ∧ ∀ l ∈ eq.out, l ∈ eq.a ++ eq.b := by
  simp [einOk, List.all_eq_true, and_assoc]
  intro _ _
  constructor
  · rintro ⟨h1, h2, h3⟩; exact ⟨fun l hl => hl.elim (h1 l) (h2 l), h3⟩
  · rintro ⟨h1, h3⟩; exact ⟨fun x hx => h1 x (Or.inl hx), fun x hx => h1 x (Or.inr hx), h3⟩

theorem envVal_zip_lt (size : Nat → Nat) : ∀ {ks vs : List Nat}, Valid (ks.map size) vs → ∀ {l : Nat}, l ∈ ks →
    envVal (ks.zip vs) l < size l
  | k :: ks, v :: vs, hv, l, hl => by
    rw [List.map_cons, valid_cons] at hv
    rw [envVal, List.zip_cons_cons, List.lookup_cons]
    by_cases h : l = k
    · subst h; simpa using hv.1
    · rw [beq_false_of_ne h]
      exact envVal_zip_lt size hv.2 ((List.mem_cons.1 hl).resolve_left h)

theorem envVal_lt (size : Nat → Nat) {out sl idx sidx : List Nat} (ho : Valid (out.map size) idx)
    (hs : Valid (sl.map size) sidx) {l : Nat} (hl : l ∈ out ∨ l ∈ sl) :
    envVal (out.zip idx ++ sl.zip sidx) l < size l := by
  have hlen : out.length = idx.length := by simpa using ho.length.symm
  rw [← List.zip_append hlen]
  refine envVal_zip_lt size ?_ (List.mem_append.2 hl)
  rw [List.map_append, valid_append (by simpa using ho.length)]
  exact ⟨ho, hs⟩

/-- the length of a label is the length of any axis carrying it that is not a broadcast axis -/
theorem labelSize_of_dim {eq : EinEq} {sa sb : List Nat} {l d : Nat}
    (hd : labelDim eq.a sa l = some d ∨ labelDim eq.b sb l = some d)
    (hs : (labelSize eq sa sb l).isSome) (h1 : d ≠ 1) : (labelSize eq sa sb l).getD 0 = d := by
  unfold labelSize at hs ⊢
  rcases ha : labelDim eq.a sa l with _ | da <;> rcases hb : labelDim eq.b sb l with _ | db <;>
    simp only [ha, hb] at hd hs ⊢
  · -- no operand carries the label
    cases hs
  · -- only one of them does: its length is that axis
    simpa using hd
  · simpa using hd
  · -- both do: `bdim` picks the axis that is not `1`
    simp only [Option.some.injEq] at hd
    obtain ⟨r, hr⟩ := Option.isSome_iff_exists.1 hs
    obtain ⟨hc, rfl⟩ := bdim_iff.1 hr
    rw [hr, Option.getD_some]
    split_ifs <;> omega

theorem valid_map_zip (g : Nat × Nat → Nat) : ∀ {ls s : List Nat}, ls.length = s.length →
    (∀ p ∈ ls.zip s, g p < p.2) → Valid s ((ls.zip s).map g)
  | [], [], _, _ => valid_nil
  | l :: _, d :: _, hl, h =>
    valid_cons.2 ⟨h (l, d) (by simp), valid_map_zip g (Nat.succ.inj hl) fun p hp => h p (by simp [hp])⟩

theorem valid_opIdx_of {ls s : List Nat} {env : List (Nat × Nat)} (hl : ls.length = s.length)
    (h : ∀ p ∈ ls.zip s, p.2 ≠ 1 → envVal env p.1 < p.2) : Valid s (opIdx ls s env) :=
  valid_map_zip _ hl fun p hp => by
    by_cases h1 : p.2 = 1
    · simp [h1]
    · simpa only [h1, if_false] using h p hp h1

theorem valid_opIdx {eq : EinEq} {sa sb idx sidx : List Nat} (hok : einOk eq sa sb = true)
    (ho : Valid (eq.out.map (fun l => (labelSize eq sa sb l).getD 0)) idx)
    (hs : Valid ((sumLabels eq).map (fun l => (labelSize eq sa sb l).getD 0)) sidx) :
    Valid sa (opIdx eq.a sa (eq.out.zip idx ++ (sumLabels eq).zip sidx)) ∧
    Valid sb (opIdx eq.b sb (eq.out.zip idx ++ (sumLabels eq).zip sidx)) := by
  obtain ⟨ha, hb, hsz, _, _⟩ := einOk_iff.1 hok
  rw [operandOk_iff] at ha hb
  -- a label of an operand is assigned a value below the length of each of its non-broadcast axes
  have key : ∀ l d, l ∈ eq.a ∨ l ∈ eq.b → labelDim eq.a sa l = some d ∨ labelDim eq.b sb l = some d → d ≠ 1 →
      envVal (eq.out.zip idx ++ (sumLabels eq).zip sidx) l < d := fun l d hl hd h1 => by
    have := envVal_lt (fun l => (labelSize eq sa sb l).getD 0) ho hs
      ((em (l ∈ eq.out)).imp_right fun h => mem_sumLabels.2 ⟨hl, h⟩)
    rwa [labelSize_of_dim hd (hsz l (List.mem_append.2 hl)) h1] at this
  exact ⟨valid_opIdx_of ha.1 fun p hp => key p.1 p.2 (.inl (List.of_mem_zip hp).1) (.inl (ha.2 p hp)),
    valid_opIdx_of hb.1 fun p hp => key p.1 p.2 (.inr (List.of_mem_zip hp).1) (.inr (hb.2 p hp))⟩

section einsumR
variable {α : Type} [Add α] [Mul α] [Zero α]

theorem einsumR_eq {eq : EinEq} {x y : Tensor α} {sa sb : List Nat} (hsx : x.shape = sa) (hsy : y.shape = sb)
    (hok : einOk eq sa sb = true) :
    einsumR eq x y = .ok (build (eq.out.map (fun l => (labelSize eq sa sb l).getD 0)) (fun idx =>
      lsum ((allIdx ((sumLabels eq).map (fun l => (labelSize eq sa sb l).getD 0))).map (fun sidx =>
        x.at (opIdx eq.a sa (eq.out.zip idx ++ (sumLabels eq).zip sidx))
          * y.at (opIdx eq.b sb (eq.out.zip idx ++ (sumLabels eq).zip sidx)))))) := by
  subst hsx; subst hsy
  unfold einsumR
  rw [if_pos hok]

theorem einsumR_err {eq : EinEq} {x y : Tensor α} {sa sb : List Nat} (hsx : x.shape = sa) (hsy : y.shape = sb)
    (hok : einOk eq sa sb = false) : einsumR eq x y = .error .RuntimeError := by
  subst hsx; subst hsy
  unfold einsumR
  rw [if_neg (by simp [hok])]

theorem dotR_eq {x y : Tensor α} {n : Nat} (hx : x.shape = [n]) (hy : y.shape = [n]) :
    dotR x y = .ok ⟨[], [sumFin n (fun c => x.at [c.val] * y.at [c.val])]⟩ := by
  unfold dotR; rw [hx, hy]; exact if_pos rfl

theorem dotR_err {x y : Tensor α} {n m : Nat} (hx : x.shape = [n]) (hy : y.shape = [m]) (h : n ≠ m) :
    dotR x y = .error .RuntimeError := by
  unfold dotR; rw [hx, hy]; exact if_neg h

end einsumR

section einsumC
variable {R : Type} [CommRing R]

def cpairSum (l : List (C R)) : C R := ((l.map Prod.fst).sum, (l.map Prod.snd).sum)

theorem list_sum_map_sub {ι : Type} (L : List ι) (f g : ι → R) :
    (L.map f).sum - (L.map g).sum = (L.map (fun a => f a - g a)).sum := by
  induction L with
  | nil => simp
  | cons a L ih => simp only [List.map_cons, List.sum_cons, ← ih]; ring

end einsumC

/-- the summation range of an `einsum` with exactly one contracted label, as `Fin n` (`einsum_single_label` of C15) -/
theorem sum_allIdx_singleton (F : List ℕ → ℂ) (n : ℕ) : ((allIdx [n]).map F).sum = ∑ i : Fin n, F [i.val] := by
  have h : allIdx [n] = (List.range n).map (fun i => [i]) := by
    simp only [allIdx, List.map_cons, List.map_nil]
    exact List.flatMap_pure_eq_map _ _
  rw [h, List.map_map]
  clear h
  induction n with
  | zero => rfl
  | succ n ih => rw [List.range_succ, List.map_append, List.sum_append, ih, Fin.sum_univ_castSucc]; simp

/-! ### `torch.matmul` in explicit form -/
section matmulR
variable {α : Type} [Add α] [Mul α] [Zero α]

/-- `torch.matmul` on real operands of ranks ≥ 1 whose promoted shapes are `xb ++ [m, k]`, `yb ++ [k', p]` -/
theorem matmulR_eq {x y : Tensor α} {sx sy xb yb : List Nat} {m k k' p : Nat}
    (hsx : x.shape = sx) (hsy : y.shape = sy)
    (hxs : (if sx.length == 1 then 1 :: sx else sx) = xb ++ [m, k])
    (hys : (if sy.length == 1 then sy ++ [1] else sy) = yb ++ [k', p]) :
    matmulR x y = if k ≠ k' then .error .RuntimeError else
      (broadcastShape xb yb).map fun bs =>
        ⟨bs ++ (if sx.length == 1 then [] else [m]) ++ (if sy.length == 1 then [] else [p]),
          (build (bs ++ [m, p]) (fun idx =>
            sumFin k (fun c =>
              (⟨xb ++ [m, k], x.data⟩ : Tensor α).at (bidx xb (idx.take bs.length) ++ [idx.getD bs.length 0, c.val])
              * (⟨yb ++ [k', p], y.data⟩ : Tensor α).at
                  (bidx yb (idx.take bs.length) ++ [c.val, idx.getD (bs.length + 1) 0])))).data⟩ := by
  subst hsx; subst hsy
  unfold matmulR
  split
  · rename_i h; rw [h] at hxs; simp at hxs
  · rename_i h _; rw [h] at hys; simp at hys
  · simp only [hxs, hys, splitMat_append]
    by_cases hk : k ≠ k'
    · rw [if_pos hk, if_pos hk]
    · rw [if_neg hk, if_neg hk]
      cases broadcastShape xb yb <;> rfl

theorem zip_view (f : α → α → α) (S' S : List Nat) (g h : List Nat → α) :
    (⟨S', (build S g).data⟩ : Tensor α).zip f ⟨S', (build S h).data⟩
      = ⟨S', (build S (fun idx => f (g idx) (h idx))).data⟩ := by
  rw [← zip_build]; rfl

theorem cat2_views {S S' : List Nat} (G1 G2 : List Nat → α) (hn : numel S' = numel S) :
    ∃ z, cat2 (⟨S', (build S G1).data⟩ : Tensor α) ⟨S', (build S G2).data⟩ = .ok z ∧ IsCplx z S' ∧
      ∀ idx' idx, Valid S' idx' → Valid S idx → flatten S' idx' = flatten S idx → centry z idx' = (G1 idx, G2 idx) := by
  refine Exists.imp (fun z h => ⟨h.1, h.2.1, fun idx' idx hv' hv hf => ?_⟩)
    (cat2_spec (s := S') _ rfl rfl (by simp [WF, hn]) (by simp [WF, hn]) fun _ _ => rfl)
  rw [h.2.2 idx' hv', at_view (build S G1) (by simpa using hf), at_view (build S G2) (by simpa using hf),
    at_build _ hv, at_build _ hv]

/-- complex entry of a promoted (re-shaped) operand -/
def pentry (s : List Nat) (x : Tensor α) (sx : List Nat) (idx : List Nat) : C α :=
  ((⟨s, (reT x sx).data⟩ : Tensor α).at idx, (⟨s, (imT x sx).data⟩ : Tensor α).at idx)

/-- a promoted operand shows the entries of the operand: same data, same row-major offset -/
theorem pentry_eq {x : Tensor α} {s sx idx' idx : List Nat} (hx : IsCplx x sx) (hv : Valid sx idx)
    (hf : flatten s idx' = flatten sx idx) : pentry s x sx idx' = centry x idx := by
  unfold pentry
  rw [at_view (reT x sx) hf, at_view (imT x sx) hf, reT_at hx hv, imT_at hx hv]

theorem matmulR_err_scalar {x y : Tensor α} (h : x.shape = [] ∨ y.shape = []) :
    matmulR x y = .error .RuntimeError := by
  unfold matmulR
  split
  · rfl
  · rfl
  · rename_i h1 h2; rcases h with h | h
    · exact absurd h (by simpa using h1)
    · exact absurd h (by simpa using h2)

end matmulR

section matmulC
open Finset
variable {R : Type} [CommRing R]

/-- `(rr − ii, ri + ir)` of `matmul` / `einsum`: the four real contractions are the pair sum of the complex products -/
theorem sum_mul_pair (k : ℕ) (X Y : Fin k → C R) :
    (sumFin k (fun c => (X c).1 * (Y c).1) - sumFin k (fun c => (X c).2 * (Y c).2),
     sumFin k (fun c => (X c).1 * (Y c).2) + sumFin k (fun c => (X c).2 * (Y c).1))
      = C.sum k (fun c => C.mul (X c) (Y c)) := by
  simp only [sumFin_eq, csum_eq, C.mul, Finset.sum_sub_distrib, Finset.sum_add_distrib]

/-- `(rr + ii, ri − ir)` of `inner_prod`: the same with the LEFT factor conjugated -/
theorem sum_conj_mul_pair (k : ℕ) (X Y : Fin k → C R) :
    (sumFin k (fun c => (X c).1 * (Y c).1) + sumFin k (fun c => (X c).2 * (Y c).2),
     sumFin k (fun c => (X c).1 * (Y c).2) - sumFin k (fun c => (X c).2 * (Y c).1))
      = C.sum k (fun c => C.mul (C.conj (X c)) (Y c)) := by
  simp only [sumFin_eq, csum_eq, C.mul, C.conj, neg_mul, sub_neg_eq_add, ← sub_eq_add_neg, Finset.sum_sub_distrib,
    Finset.sum_add_distrib]

/-- `matmul` on complex operands of any ranks ≥ 1, in terms of the promoted operands (`xb ++ [m, k]`, `yb ++ [k, p]`:
a vector becomes a `1×k` resp. `k×1` matrix): the result has shape `so` (batch axes, then `m` and `p` unless they belong
to a promoted vector), and the entry at `idx'` is the one the full batched product has at the index `bi ++ [i, j]` with
the same row-major offset -/
theorem matmul_core {x y : Tensor R} {sx sy xb yb bs so : List Nat} {m k p : Nat}
    (hx : IsCplx x sx) (hy : IsCplx y sy)
    (hxs : (if sx.length == 1 then 1 :: sx else sx) = xb ++ [m, k])
    (hys : (if sy.length == 1 then sy ++ [1] else sy) = yb ++ [k, p])
    (hb : broadcastShape xb yb = .ok bs)
    (hso : bs ++ (if sx.length == 1 then [] else [m]) ++ (if sy.length == 1 then [] else [p]) = so)
    (hn : numel so = numel (bs ++ [m, p])) :
    ∃ z, matmul x y = .ok z ∧ IsCplx z so ∧
      ∀ idx' bi i j, Valid so idx' → Valid bs bi → i < m → j < p →
        flatten so idx' = flatten (bs ++ [m, p]) (bi ++ [i, j]) →
        centry z idx' = C.sum k (fun c => C.mul (pentry (xb ++ [m, k]) x sx (bidx xb bi ++ [i, c.val]))
          (pentry (yb ++ [k, p]) y sy (bidx yb bi ++ [c.val, j]))) := by
  subst hso
  unfold matmul
  rw [real_eq hx, real_eq hy, imag_eq hx, imag_eq hy]
  simp only [ok_bind]
  rw [matmulR_eq (x := reT x sx) (y := reT y sy) (sx := sx) (sy := sy) rfl rfl hxs hys,
    matmulR_eq (x := imT x sx) (y := imT y sy) (sx := sx) (sy := sy) rfl rfl hxs hys,
    matmulR_eq (x := reT x sx) (y := imT y sy) (sx := sx) (sy := sy) rfl rfl hxs hys,
    matmulR_eq (x := imT x sx) (y := reT y sy) (sx := sx) (sy := sy) rfl rfl hxs hys]
  simp only [ne_eq, not_true_eq_false, if_false, hb, Except.map, ok_bind, makeComplex_some]
  rw [zip_view, zip_view]
  refine Exists.imp (fun z h => ⟨h.1, h.2.1, fun idx' bi i j hv' hbi hi hj hf => ?_⟩) (cat2_views _ _ hn)
  have hl := hbi.length
  have hv : Valid (bs ++ [m, p]) (bi ++ [i, j]) := by
    rw [valid_append hl]; exact ⟨hbi, by simp [hi, hj]⟩
  rw [h.2.2 idx' (bi ++ [i, j]) hv' hv hf]
  have e1 : (bi ++ [i, j]).take bs.length = bi := by rw [← hl, List.take_left' rfl]
  have e2 : (bi ++ [i, j]).getD bs.length 0 = i := by
    rw [← hl, List.getD_append_right _ _ _ _ le_rfl, Nat.sub_self]; rfl
  have e3 : (bi ++ [i, j]).getD (bs.length + 1) 0 = j := by
    rw [← hl, List.getD_append_right _ _ _ _ (Nat.le_add_right _ 1), Nat.add_sub_cancel_left]; rfl
  simp only [e1, e2, e3]
  exact sum_mul_pair k (fun c => pentry (xb ++ [m, k]) x sx (bidx xb bi ++ [i, c.val]))
    (fun c => pentry (yb ++ [k, p]) y sy (bidx yb bi ++ [c.val, j]))
end matmulC

/-! ### complex tensors given entrywise; the planes of a complex tensor combined -/
section cbuild
variable {α : Type} [Zero α]

theorem isCplx_build (s : List Nat) (f : List Nat → α) : IsCplx (build (2 :: s) f) s := ⟨rfl, wf_build _ _⟩

theorem centry_build {s idx : List Nat} (f : List Nat → α) (hv : Valid s idx) :
    centry (build (2 :: s) f) idx = (f (0 :: idx), f (1 :: idx)) := by
  simp only [centry]
  rw [at_build _ (by simp [hv]), at_build _ (by simp [hv])]

end cbuild

section planes
variable {α : Type} [Zero α]

/-- a complex tensor `(2 :: s)` combined (broadcast) with a real tensor of its tensor shape `s` (`z / scale`,
`conj(z) / denominator`): both planes are combined entrywise with the real tensor -/
theorem bop_planes (f : α → α → α) {z sc : Tensor α} {s : List Nat} (hz : IsCplx z s) (hs : sc.shape = s) :
    ∃ w, bop f z sc = .ok w ∧ IsCplx w s ∧
      ∀ idx, Valid s idx → centry w idx = (f (centry z idx).1 (sc.at idx), f (centry z idx).2 (sc.at idx)) := by
  rw [bop_eq f z sc (r := 2 :: s) (by rw [hz.1, hs]; exact broadcastShape_cons_tail 2 s)]
  refine ⟨_, rfl, isCplx_build _ _, fun idx hv => ?_⟩
  have hv0 : Valid (2 :: s) (0 :: idx) := by simp [hv]
  have hv1 : Valid (2 :: s) (1 :: idx) := by simp [hv]
  rw [centry_build _ hv]
  simp only [hz.1, hs, bidx_self hv0, bidx_self hv1, bidx_tail _ hv]
  rfl

/-- the two planes of a complex tensor combined entrywise (`torch.hypot(real x, imag x)`, `torch.max(|re|, |im|)`) -/
theorem zip_planes (f : α → α → α) {x : Tensor α} {s : List Nat} (hx : IsCplx x s) :
    ((reT x s).zip f (imT x s)).shape = s ∧ WF ((reT x s).zip f (imT x s)) ∧
    ∀ idx, Valid s idx → ((reT x s).zip f (imT x s)).at idx = f (centry x idx).1 (centry x idx).2 := by
  refine ⟨rfl, wf_zip f (reT x s) (imT x s) rfl (reT_wf hx) (imT_wf hx), fun idx hv => ?_⟩
  rw [at_zip f (reT x s) (imT x s) rfl (reT_wf hx) (imT_wf hx) (by simpa using hv), reT_at hx hv, imT_at hx hv]

/-- entrywise map of a complex tensor (`x / scale` with a 0-d `scale`) -/
theorem map_cplx (f : α → α) {x : Tensor α} {s : List Nat} (hx : IsCplx x s) :
    IsCplx (x.map f) s ∧ ∀ idx, Valid s idx → centry (x.map f) idx = (f (centry x idx).1, f (centry x idx).2) := by
  refine ⟨⟨hx.1, wf_map _ _ hx.2⟩, fun idx hv => ?_⟩
  simp only [centry]
  rw [at_map f x hx.2 (by rw [hx.1]; simp [hv]), at_map f x hx.2 (by rw [hx.1]; simp [hv])]

end planes

/-! ### decoding into ℂ -/

/-- the same function as `QV.toC` (`dec_eq_toC`); the lemmas below are those of `toC` under the names the C15 theorems use -/
def dec (p : C ℝ) : ℂ := ⟨p.1, p.2⟩

@[simp] theorem dec_re (p : C ℝ) : (dec p).re = p.1 := rfl
@[simp] theorem dec_im (p : C ℝ) : (dec p).im = p.2 := rfl

theorem dec_eq_toC : dec = toC := rfl

theorem dec_injective : Function.Injective dec := toC_injective
theorem dec_one : dec (C.one : C ℝ) = 1 := toC_one
theorem dec_mul (a b : C ℝ) : dec (C.mul a b) = dec a * dec b := toC_mul a b
theorem dec_add (a b : C ℝ) : dec (C.add a b) = dec a + dec b := toC_add a b
theorem dec_sub (a b : C ℝ) : dec (C.sub a b) = dec a - dec b := toC_sub a b
theorem dec_neg (a : C ℝ) : dec (C.neg a) = - dec a := toC_neg a
theorem dec_conj (a : C ℝ) : dec (C.conj a) = (starRingEnd ℂ) (dec a) := toC_conj a
theorem dec_pair_zero (x : ℝ) : dec (x, 0) = (x : ℂ) := toC_ofReal x
theorem dec_normSq (a : C ℝ) : C.normSq a = Complex.normSq (dec a) := normSq_eq a
theorem dec_sum (n : ℕ) (f : Fin n → C ℝ) : dec (C.sum n f) = ∑ i, dec (f i) := toC_sum n f
theorem dec_eq_zero {a : C ℝ} : dec a = 0 ↔ a = (0, 0) := dec_injective.eq_iff' rfl
theorem dec_div_real (p : C ℝ) (s : ℝ) : dec (p.1 / s, p.2 / s) = dec p / (s : ℂ) := toC_div_real p s

/-- numpy's complex quotient (`C.div`); at `b = 0` both sides are `0` -/
theorem dec_div (a b : C ℝ) : dec (C.div a b) = dec a / dec b := toC_div' a b

theorem dec_cpairSum (l : List (C ℝ)) : dec (cpairSum l) = (l.map dec).sum := by
  induction l with
  | nil => rfl
  | cons a l ih => rw [List.map_cons, List.sum_cons, ← ih]; rfl

theorem dec_expC (z : C ℝ) : dec (expC z) = Complex.exp (dec z) := by
  apply Complex.ext
  · simp [expC, Complex.exp_re]
  · simp [expC, Complex.exp_im]

theorem dec_one_add_expC (z : C ℝ) : dec (1 + (expC z).1, (expC z).2) = 1 + Complex.exp (dec z) := by
  rw [← dec_expC]; apply Complex.ext <;> simp

/-- the logistic function as coded after F17_sigmoid (`1/(1+e^{-z})` for `Re z > 0`, `e^z/(1+e^z)` otherwise) is
`e^z / (1 + e^z)` (at the poles `1 + e^z = 0` both sides are `0` over ℝ) -/
theorem dec_sigC (z : C ℝ) : dec (sigC z) = Complex.exp (dec z) / (1 + Complex.exp (dec z)) := by
  unfold sigC
  split_ifs with hpos
  · have h3 : 1 + (Complex.exp (dec z))⁻¹ = (1 + Complex.exp (dec z)) / Complex.exp (dec z) := by
      rw [add_div, div_self (Complex.exp_ne_zero _), one_div, add_comm]
    rw [dec_div, dec_one_add_expC, dec_neg, Complex.exp_neg, dec_one, h3, one_div, inv_div]
  · rw [dec_div, dec_one_add_expC, dec_expC]

theorem eq_zero_of_max_abs {a b : ℝ} (h : ¬ 0 < max |a| |b|) : a = 0 ∧ b = 0 :=
  ⟨abs_nonpos_iff.1 ((le_max_left _ _).trans (not_lt.1 h)), abs_nonpos_iff.1 ((le_max_right _ _).trans (not_lt.1 h))⟩

theorem hypot_eq (a b : ℝ) : hypot a b = Real.sqrt (a * a + b * b) := by
  unfold hypot
  simp only [transc_max, transc_abs, transc_sqrt]
  split_ifs with hm
  · -- `m = √(m·m)`, and a product of roots is the root of the product
    rw [← Real.sqrt_mul_self hm.le, ← Real.sqrt_mul (mul_self_nonneg _), Real.sqrt_mul_self hm.le]
    congr 1
    field_simp
  · obtain ⟨rfl, rfl⟩ := eq_zero_of_max_abs hm
    simp

theorem hypot_mul_self (a b : ℝ) : hypot a b * hypot a b = a * a + b * b := by
  rw [hypot_eq, Real.mul_self_sqrt (add_nonneg (mul_self_nonneg a) (mul_self_nonneg b))]

theorem hypot_eq_norm (z : C ℝ) : hypot z.1 z.2 = ‖dec z‖ := by
  rw [hypot_eq, Complex.norm_def, Complex.normSq_apply]; rfl

theorem max_abs_pos {z : C ℝ} (h : dec z ≠ 0) : 0 < max |z.1| |z.2| := by
  by_contra hm
  obtain ⟨h1, h2⟩ := eq_zero_of_max_abs hm
  exact h (Complex.ext h1 h2)

/-- the components scaled by the larger one (`m`: positive, dominates both moduli, is one of them) lie in `[-1, 1]` and the
sum of their squares in `[1, 2]`: nothing the division / modulus code forms from them since F17 can overflow or underflow -/
theorem scaled_bounds {a b m : ℝ} (hm : 0 < m) (ha : |a| ≤ m) (hb : |b| ≤ m) (hc : m = |a| ∨ m = |b|) :
    |a / m| ≤ 1 ∧ |b / m| ≤ 1 ∧ 1 ≤ a / m * (a / m) + b / m * (b / m) ∧ a / m * (a / m) + b / m * (b / m) ≤ 2 := by
  have ha1 : |a / m| ≤ 1 := by rwa [abs_div, abs_of_pos hm, div_le_one hm]
  have hb1 : |b / m| ≤ 1 := by rwa [abs_div, abs_of_pos hm, div_le_one hm]
  have h1 : ∀ {c : ℝ}, m = |c| → c / m * (c / m) = 1 := fun h => by
    rw [div_mul_div_comm, ← abs_mul_abs_self, ← h, div_self (mul_pos hm hm).ne']
  refine ⟨ha1, hb1, ?_, (add_le_add (abs_le_one_iff_mul_self_le_one.1 ha1)
    (abs_le_one_iff_mul_self_le_one.1 hb1)).trans_eq one_add_one_eq_two⟩
  rcases hc with h | h
  · rw [h1 h]; exact le_add_of_nonneg_right (mul_self_nonneg _)
  · rw [h1 h]; exact le_add_of_nonneg_left (mul_self_nonneg _)

/-- the inverse as the code computes it since F17: `w = z/s`, `conj(w) / Re(w·conj w) / s` (any non-zero scale `s`) -/
theorem dec_inv_scaled (z : C ℝ) (s : ℝ) (hs : s ≠ 0) :
    dec ((C.conj (z.1 / s, z.2 / s)).1 / (C.mul (z.1 / s, z.2 / s) (C.conj (z.1 / s, z.2 / s))).1 / s,
         (C.conj (z.1 / s, z.2 / s)).2 / (C.mul (z.1 / s, z.2 / s) (C.conj (z.1 / s, z.2 / s))).1 / s) = (dec z)⁻¹ := by
  rw [mul_conj_re]
  -- the pair is `C.inv (z/s)` with both components divided by `s`
  refine (dec_div_real (C.inv (z.1 / s, z.2 / s)) s).trans ?_
  rw [dec_eq_toC, toC_inv', toC_div_real, inv_div, div_div_cancel_left' (Complex.ofReal_ne_zero.2 hs)]

/-- the quotient as the code computes it since F17: `(a/s)·conj(b/s)` divided by `hypot(b/s)²` (any non-zero `s`) -/
theorem dec_div_scaled (a b : C ℝ) (s : ℝ) (hs : s ≠ 0) :
    dec ((C.mul (a.1 / s, a.2 / s) (C.conj (b.1 / s, b.2 / s))).1 / (hypot (b.1 / s) (b.2 / s) * hypot (b.1 / s) (b.2 / s)),
         (C.mul (a.1 / s, a.2 / s) (C.conj (b.1 / s, b.2 / s))).2 / (hypot (b.1 / s) (b.2 / s) * hypot (b.1 / s) (b.2 / s)))
      = dec a / dec b := by
  rw [hypot_mul_self]
  -- the pair is `C.div (a/s) (b/s)`
  refine (dec_div (a.1 / s, a.2 / s) (b.1 / s, b.2 / s)).trans ?_
  rw [dec_div_real, dec_div_real, div_div_div_cancel_right₀ (Complex.ofReal_ne_zero.2 hs)]

/-! ### the shape `scalar_mult` requires of an `out=` buffer -/
section outshape
variable {α : Type} [Add α] [Mul α] [Sub α] [Zero α]

theorem resultShape_eq {x y : Tensor α} {sx sy r : List Nat} (hx : IsCplx x sx) (hy : IsCplx y sy)
    (hb : broadcastShape sx sy = .ok r) : resultShape x y = .ok (2 :: r) := by
  unfold resultShape
  rw [real_eq hx, real_eq hy]
  simp only [ok_bind, reT_shape, hb, pure_eq_ok]

theorem resultShape_err {x y : Tensor α} {sx sy : List Nat} {e : PyErr} (hx : IsCplx x sx) (hy : IsCplx y sy)
    (hb : broadcastShape sx sy = .error e) : resultShape x y = .error .RuntimeError := by
  unfold resultShape
  rw [real_eq hx, real_eq hy]
  simp only [ok_bind, reT_shape, hb, error_bind, broadcastShape_err hb]

theorem cat2_shape {a b z : Tensor α} (h : cat2 a b = .ok z) : z.shape = 2 :: a.shape := by
  unfold cat2 at h
  split at h <;> cases h
  rfl

theorem bop_shape {f : α → α → α} {x y w : Tensor α} (h : bop f x y = .ok w) :
    broadcastShape x.shape y.shape = .ok w.shape := by
  unfold bop at h
  split at h <;> cases h
  assumption

/-- whatever the operands (well-formed or not): when `scalar_mult` returns, the value has exactly the shape
`(2, *broadcast_shapes(real(x).shape, real(y).shape))` -/
theorem scalarMult_shape {x y z : Tensor α} {rs : List Nat} (h : resultShape x y = .ok rs)
    (hz : scalarMult x y = .ok z) : z.shape = rs := by
  simp only [resultShape, scalarMult, bind_eq_ok, pure_eq_ok, Except.ok.injEq] at h hz
  obtain ⟨xr, hxr, yr, hyr, r, hr, rfl⟩ := h
  obtain ⟨_, hxr', _, hyr', rr, hrr, _, _, _, _, ii, _, _, _, _, _, hz⟩ := hz
  rw [hxr] at hxr'; rw [hyr] at hyr'; cases hxr'; cases hyr'
  -- the real-real product already has the broadcast shape; `cat2` puts the complex axis in front
  rw [bop_shape hrr] at hr; cases hr
  exact (cat2_shape hz : _)

end outshape

end QV.Cplx
