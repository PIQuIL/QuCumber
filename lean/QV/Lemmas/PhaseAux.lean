/-
QV.Lemmas.PhaseAux — helper lemmas for C20.6: the phase aux-bias gradient entries vanish and a zero
coordinate with zero gradients is a fixed point of the SGD and Adam update rules (any field).
-/
import Mathlib.Algebra.Field.Basic
import QV.Lemmas.Basic
import QV.Model.PhaseAux

namespace QV.PhaseAux
open QV

theorem foldl_invariant {σ β : Type} (f : σ → β → σ) (Inv : σ → Prop) (P : β → Prop)
    (hstep : ∀ s b, Inv s → P b → Inv (f s b)) (l : List β) (hl : ∀ b ∈ l, P b) (s : σ) (hs : Inv s) :
    Inv (l.foldl f s) := by
  induction l generalizing s with
  | nil => exact hs
  | cons b r ih =>
    exact ih (fun x hx => hl x (List.mem_cons_of_mem _ hx)) _ (hstep s b hs (hl b List.mem_cons_self))

variable {α : Type} [Field α]

theorem phGradsAux_eq_zero (sig : C α) : phGradsAux sig = ((0 : α), (0 : α)) := by
  simp [phGradsAux, gammaGradAux, piGradAux, C.add, C.mul, C.I]

theorem rotatedAux_eq_zero (N B : ℕ) (U : Fin N → Fin N → Fin B → C α) (inv : Fin B → α)
    (g : Fin N → Fin N → Fin B → C α) (hg : ∀ i j b, g i j b = ((0 : α), (0 : α))) :
    rotatedAux N B U inv g = 0 := by
  simp only [rotatedAux, hg, mul_zero, sumFin_eq, Finset.sum_const_zero, sub_zero, neg_zero]

theorem batchGradAux_eq_zero (cs : List α) (bs : α) (hc : ∀ c ∈ cs, c = 0) : batchGradAux cs bs = 0 := by
  -- adding zeros to the accumulator `0` leaves it `0`
  rw [batchGradAux, foldl_invariant _ (· = 0) (· = 0) (fun _ _ hs hb => by rw [hs, hb, add_zero]) cs hc 0 rfl, zero_div]

/-- The momentum buffer belongs to the invariant: a non-zero buffer moves `p` under a zero gradient. With `p = 0`
weight decay adds `wd * p = 0`, so the buffer and the update are products with zero. -/
theorem sgdStep_zero (c : SGDCfg α) (s : SGDState α) (hp : s.p = 0) (hb : s.buf = none ∨ s.buf = some 0) :
    (sgdStep c s 0).p = 0 ∧ ((sgdStep c s 0).buf = none ∨ (sgdStep c s 0).buf = some 0) := by
  cases hm : c.hasMomentum <;> rcases hb with hb | hb <;>
    simp only [sgdStep, hm, hp, hb, mul_zero, zero_mul, add_zero, ite_self, Bool.false_eq_true, if_false, if_true,
      or_true, true_or, and_self]

theorem sgdRun_zero (c : SGDCfg α) (gs : List α) (hg : ∀ g ∈ gs, g = 0) (s : SGDState α) (hp : s.p = 0)
    (hb : s.buf = none ∨ s.buf = some 0) : (sgdRun c s gs).p = 0 :=
  (foldl_invariant (sgdStep c) (fun s => s.p = 0 ∧ (s.buf = none ∨ s.buf = some 0)) (· = 0)
    (fun s g hs (h0 : g = 0) => by rw [h0]; exact sgdStep_zero c s hs.1 hs.2) gs hg s ⟨hp, hb⟩).1

variable [Transc α]

theorem adamStep_zero (c : AdamCfg α) (s : AdamState α) (hp : s.p = 0) (hm : s.m = 0) :
    (adamStep c s 0).p = 0 ∧ (adamStep c s 0).m = 0 := by
  simp only [adamStep, hp, hm, mul_zero, add_zero, ite_self, sub_zero, zero_div, and_self]

theorem adamRun_zero (c : AdamCfg α) (gs : List α) (hg : ∀ g ∈ gs, g = 0) (s : AdamState α) (hp : s.p = 0)
    (hm : s.m = 0) : (adamRun c s gs).p = 0 :=
  (foldl_invariant (adamStep c) (fun s => s.p = 0 ∧ s.m = 0) (· = 0)
    (fun s g hs (h0 : g = 0) => by rw [h0]; exact adamStep_zero c s hs.1 hs.2) gs hg s ⟨hp, hm⟩).1

end QV.PhaseAux
