/-
QV.Lemmas.Hilbert — the row map of `generate_hilbert_space` is a bijection
`Fin (2^n) ≃ (Fin n → Bool)` with inverse `idxOf`; sums over rows are sums over bit-vectors; the row as the code computes it
(masks, reversal) and the `matmul` index are the big-endian bit list and its digit sum; the size guard of
`generate_hilbert_space` as one `if`.
-/
import Mathlib.Data.Fintype.BigOperators
import Mathlib.Data.Fintype.Pi
import Mathlib.Data.Nat.Bitwise
import Mathlib.Algebra.BigOperators.Fin
import Mathlib.Data.List.OfFn
import Mathlib.Tactic.Ring
import Mathlib.Data.List.FinRange
import QV.Lemmas.Index

namespace QV
open Finset

/-- row `k` of `generate_hilbert_space(n)`. `k` is any natural number: only its low `n` bits are read (`idxOf_rowBits`). -/
def rowBits (n : ℕ) (k : ℕ) : Fin n → Bool := fun j => spaceBit n k j

theorem rowBits_idxOf {n : ℕ} (σ : Fin n → Bool) : rowBits n (idxOf σ) = σ := funext (spaceBit_idxOf σ)

theorem rowBits_bijective (n : ℕ) :
    Function.Bijective (fun k : Fin (2 ^ n) => rowBits n k.val) := by
  rw [Fintype.bijective_iff_surjective_and_card]
  refine ⟨fun σ => ⟨⟨idxOf σ, idxOf_lt σ⟩, rowBits_idxOf σ⟩, ?_⟩
  rw [Fintype.card_fin, Fintype.card_fun, Fintype.card_bool, Fintype.card_fin]

theorem rowBits_injective (n : ℕ) :
    Function.Injective (fun k : Fin (2 ^ n) => rowBits n k.val) := (rowBits_bijective n).1

theorem idxOf_rowBits (n k : ℕ) : idxOf (rowBits n k) = k % 2 ^ n := by
  -- both sides are below `2^n` and have the same row; rows are injective there
  have h : rowBits n (idxOf (rowBits n k)) = rowBits n (k % 2 ^ n) := by
    rw [rowBits_idxOf]
    funext j
    have hj : n - 1 - j.val < n := by omega
    simp only [rowBits, spaceBit, Nat.testBit_mod_two_pow, hj, decide_true, Bool.true_and]
  exact congrArg Fin.val
    (rowBits_injective n (a₁ := ⟨_, idxOf_lt _⟩) (a₂ := ⟨_, Nat.mod_lt _ (Nat.two_pow_pos n)⟩) h)

noncomputable def rowEquiv (n : ℕ) : Fin (2 ^ n) ≃ (Fin n → Bool) :=
  Equiv.ofBijective _ (rowBits_bijective n)

@[simp] theorem rowEquiv_apply (n : ℕ) (k : Fin (2 ^ n)) : rowEquiv n k = rowBits n k.val := rfl

theorem sum_rows {M : Type*} [AddCommMonoid M] (n : ℕ) (f : (Fin n → Bool) → M) :
    ∑ k : Fin (2 ^ n), f (rowBits n k.val) = ∑ σ : Fin n → Bool, f σ :=
  Fintype.sum_bijective _ (rowBits_bijective n) _ _ (fun _ => rfl)

/-! ### C19: the code's mask-and-reverse row, the size guard, the `matmul` index, and their big-endian meaning -/

@[simp] theorem maskRow_length (s k : ℕ) : (maskRow s k).length = s := by simp [maskRow]

theorem mask_pos_eq_testBit (k i : ℕ) : decide (k &&& (1 <<< i) > 0) = k.testBit i := by
  rw [Nat.one_shiftLeft, Nat.and_two_pow]
  cases h : k.testBit i <;> simp

theorem maskRow_eq_ofFn (s k : ℕ) :
    maskRow s k = List.ofFn (fun j : Fin s => k.testBit (s - 1 - j.val)) := by
  apply List.ext_getElem
  · simp [maskRow]
  · intro i h1 h2
    have hi : i < s := by simpa [maskRow] using h1
    simp only [maskRow, List.getElem_reverse, List.getElem_map, List.getElem_range, List.length_map,
      List.length_range, List.getElem_ofFn, mask_pos_eq_testBit]

theorem maskRow_eq_map_spaceBit (s k : ℕ) : maskRow s k = (List.finRange s).map (spaceBit s k) := by
  rw [maskRow_eq_ofFn, List.ofFn_eq_map]; rfl

theorem spaceGuard_eq (size : Option ℕ) (nv : ℕ) :
    spaceGuard size nv = if 20 < effSize size nv then .error .ValueError else .ok (effSize size nv) := rfl

theorem indexPowers_succ (m : ℕ) : indexPowers (m + 1) = 2 ^ m :: indexPowers m := by
  rw [indexPowers, List.range_succ_eq_map, List.map_cons, List.map_map, Nat.sub_zero, Nat.add_sub_cancel]
  exact congrArg _ (List.map_congr_left fun j _ => by rw [Function.comp, Nat.succ_eq_add_one, Nat.add_sub_add_right])

theorem convertBasisElementToIndex_eq (st : List Bool) : convertBasisElementToIndex st = basisIndexL st := by
  induction st with
  | nil => simp [convertBasisElementToIndex, basisIndexL, indexPowers]
  | cons b rest ih =>
    simp only [convertBasisElementToIndex] at ih ⊢
    simp only [List.length_cons, indexPowers_succ, List.zip_cons_cons, List.map_cons, List.sum_cons,
      basisIndexL, ih]
    cases b <;> simp

theorem basisIndexL_lt (l : List Bool) : basisIndexL l < 2 ^ l.length := by
  induction l with
  | nil => exact Nat.one_pos
  | cons b rest ih =>
    rw [basisIndexL, List.length_cons, Nat.pow_succ, Nat.mul_two]
    cases b
    · rw [if_neg Bool.false_ne_true, Nat.zero_add]
      exact Nat.lt_add_left _ ih
    · rw [if_pos rfl]
      exact Nat.add_lt_add_left ih _

theorem basisIndexL_append (σ τ : List Bool) :
    basisIndexL (σ ++ τ) = basisIndexL σ * 2 ^ τ.length + basisIndexL τ := by
  induction σ with
  | nil => simp [basisIndexL]
  | cons b rest ih =>
    simp only [List.cons_append, basisIndexL, ih, List.length_append, Nat.pow_add]
    split <;> ring

theorem basisIndex_eq_sum {n : ℕ} (σ : Fin n → Bool) :
    basisIndex σ = ∑ j : Fin n, (if σ j then 2 ^ (n - 1 - j.val) else 0) := by
  show basisIndex σ = idxOf σ
  induction n with
  | zero => rfl
  | succ k ih =>
    rw [basisIndex, List.finRange_succ, List.map_cons, basisIndexL, idxOf_succ, List.map_map, List.length_map,
      List.length_finRange]
    exact congrArg _ (ih fun j => σ j.succ)

theorem basisIndexL_ofFn {n : ℕ} (f : Fin n → Bool) : basisIndexL (List.ofFn f) = idxOf f := by
  rw [List.ofFn_eq_map]
  exact basisIndex_eq_sum f

theorem basisIndexL_ofFn_testBit (n k : ℕ) :
    basisIndexL (List.ofFn (fun j : Fin n => k.testBit (n - 1 - j.val))) = k % 2 ^ n :=
  (basisIndexL_ofFn _).trans (idxOf_rowBits n k)

theorem basisIndexL_maskRow (n k : ℕ) : basisIndexL (maskRow n k) = k % 2 ^ n := by
  rw [maskRow_eq_ofFn, basisIndexL_ofFn_testBit]

theorem maskRow_basisIndexL (σ : List Bool) : maskRow σ.length (basisIndexL σ) = σ := by
  have h : basisIndexL σ = idxOf (fun j : Fin σ.length => σ[j.val]) := by rw [← basisIndexL_ofFn, List.ofFn_getElem]
  rw [h, maskRow_eq_ofFn]
  show List.ofFn (rowBits _ (idxOf _)) = σ
  rw [rowBits_idxOf, List.ofFn_getElem]

theorem basisIndexL_set_true (σ : List Bool) (j : ℕ) (hj : j < σ.length) (h0 : σ[j] = false) :
    basisIndexL (σ.set j true) = basisIndexL σ + 2 ^ (σ.length - 1 - j) := by
  induction σ generalizing j with
  | nil => exact absurd hj (Nat.not_lt_zero _)
  | cons b rest ih =>
    cases j with
    | zero =>
      obtain rfl : b = false := h0
      simp only [List.set_cons_zero, basisIndexL, if_true, Bool.false_eq_true, if_false, List.length_cons,
        Nat.add_sub_cancel, Nat.sub_zero, Nat.zero_add, Nat.add_comm]
    | succ j =>
      have e : rest.length + 1 - 1 - (j + 1) = rest.length - 1 - j := by
        rw [Nat.add_sub_cancel, Nat.sub_add_eq, Nat.sub_right_comm]
      rw [List.set_cons_succ, basisIndexL, basisIndexL, List.length_set, ih j (Nat.lt_of_succ_lt_succ hj) h0,
        List.length_cons, e, Nat.add_assoc]

/-- from the list form the code produces to the function form `spaceRow n k` on which the state models (`Wave.*`,
`Density.rhoFull`, C04's rotations) are evaluated -/
theorem rowVec_maskRow {α : Type} [Zero α] [One α] (n k : ℕ) :
    (rowVec n (maskRow n k) : Fin n → α) = spaceRow n k := by
  funext j
  simp only [rowVec, spaceRow, maskRow_eq_map_spaceBit]
  congr 1
  rw [List.getD_eq_getElem?_getD, List.getElem?_map, List.getElem?_eq_getElem (by simp)]
  simp

end QV
