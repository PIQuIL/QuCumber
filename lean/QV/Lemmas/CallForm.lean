/-
Lemmas about `QV.Model.CallForm` (Python's argument binding): a positional prefix in signature order means the same as
the same values given by keyword; the binding gives every parameter the keyword of its name, else its default; every refusal is a
`TypeError`; single steps of the `deprecated_kwarg` renaming.
-/
import QV.Model.CallForm

namespace QV.CallForm
open QV

variable {V : Type}

theorem kwLookup_eq_lookup (kw : List (String × V)) (p : String) : kwLookup kw p = kw.lookup p := by
  induction kw with
  | nil => rfl
  | cons e kw ih =>
    rw [kwLookup, List.lookup_cons, ih]
    by_cases h : e.1 = p
    · rw [if_pos h, h, beq_self_eq_true]
    · rw [if_neg h, beq_false_of_ne (Ne.symm h)]

theorem kwLookup_append (a b : List (String × V)) (p : String) :
    kwLookup (a ++ b) p = match kwLookup a p with | some v => some v | none => kwLookup b p := by
  simp only [kwLookup_eq_lookup, List.lookup_append]
  cases a.lookup p <;> rfl

theorem kwLookup_eq_none_of_not_mem (r : List (String × V)) (p : String) (h : p ∉ r.map Prod.fst) :
    kwLookup r p = none := by
  rw [kwLookup_eq_lookup, List.lookup_eq_none_iff]
  exact fun q hq => bne_iff_ne.2 fun e => h (List.mem_map.2 ⟨q, hq, e.symm⟩)

theorem kwLookup_of_mem (r : List (String × V)) (hr : (r.map Prod.fst).Nodup) (p : String) (v : V) (h : (p, v) ∈ r) :
    kwLookup r p = some v := by
  obtain ⟨s, t, rfl⟩ := List.append_of_mem h
  rw [kwLookup_eq_lookup, List.lookup_eq_some_iff]
  refine ⟨s, t, rfl, fun q hq => bne_iff_ne.2 fun e => ?_⟩
  rw [List.map_append, List.map_cons] at hr
  exact (List.nodup_append.1 hr).2.2 _ (List.mem_map.2 ⟨q, hq, e.symm⟩) _ (List.mem_cons_self ..) rfl

theorem zip_names_nodup (ps : List String) (vs : List V) (hps : ps.Nodup) : ((ps.zip vs).map Prod.fst).Nodup := by
  induction ps generalizing vs with
  | nil => simp
  | cons p ps ih =>
    cases vs with
    | nil => simp
    | cons v vs =>
      simp only [List.nodup_cons] at hps
      simp only [List.zip_cons_cons, List.map_cons, List.nodup_cons]
      refine ⟨fun hmem => ?_, ih vs hps.2⟩
      obtain ⟨⟨q, w⟩, hq, rfl⟩ := List.mem_map.1 hmem
      exact hps.1 (List.of_mem_zip hq).1

theorem kwLookup_zip_of_mem (ps : List String) (vs : List V) (hps : ps.Nodup) (p : String) (v : V)
    (h : (p, v) ∈ ps.zip vs) : kwLookup (ps.zip vs) p = some v :=
  kwLookup_of_mem _ (zip_names_nodup ps vs hps) p v h

theorem kwLookup_zip_of_not_mem (ps : List String) (vs : List V) (p : String) (h : p ∉ ps) :
    kwLookup (ps.zip vs) p = none := by
  apply kwLookup_eq_none_of_not_mem
  intro hmem
  obtain ⟨⟨q, w⟩, hq, rfl⟩ := List.mem_map.1 hmem
  exact h (List.of_mem_zip hq).1

theorem bindParams_congr (dflt : String → Option V) (kw kw' : List (String × V)) (ps : List String) (vs : List V)
    (h : ∀ p ∈ ps, kwLookup kw p = kwLookup kw' p) : bindParams dflt kw ps vs = bindParams dflt kw' ps vs := by
  induction ps generalizing vs with
  | nil => cases vs <;> rfl
  | cons p ps ih =>
    have hp := h p (List.mem_cons_self ..)
    have ih' := fun vs => ih vs (fun q hq => h q (List.mem_cons_of_mem _ hq))
    cases vs with
    | nil => simp only [bindParams, kwOrDefault, hp, ih']
    | cons v vs => simp only [bindParams, hp, ih']

/-- `bindParams_prefix` in the form its induction needs: hypotheses on `take` / `drop` of the signature instead of a split `ps₁ ++ ps₂` -/
theorem bindParams_pos_eq_kw (dflt : String → Option V) (kw kw' : List (String × V)) (ps : List String) (pos : List V)
    (hlen : pos.length ≤ ps.length)
    (h1 : ∀ p ∈ ps.take pos.length, kwLookup kw p = none)
    (h2 : ∀ p v, (p, v) ∈ (ps.take pos.length).zip pos → kwLookup kw' p = some v)
    (h3 : ∀ p ∈ ps.drop pos.length, kwLookup kw p = kwLookup kw' p) :
    bindParams dflt kw ps pos = bindParams dflt kw' ps [] := by
  induction ps generalizing pos with
  | nil =>
    cases pos with
    | nil => rfl
    | cons v vs => simp at hlen
  | cons p ps ih =>
    cases pos with
    | nil => exact bindParams_congr dflt kw kw' _ [] (by simpa using h3)
    | cons v vs =>
      simp only [List.length_cons, List.take_succ_cons, List.drop_succ_cons, List.zip_cons_cons] at h1 h2 h3
      have hk : kwLookup kw p = none := h1 p (List.mem_cons_self ..)
      have hk' : kwLookup kw' p = some v := h2 p v (List.mem_cons_self ..)
      have := ih vs (by simpa using hlen) (fun q hq => h1 q (List.mem_cons_of_mem _ hq))
        (fun q w hq => h2 q w (List.mem_cons_of_mem _ hq)) h3
      simp only [bindParams, hk, kwOrDefault, hk', this]

/-- `hkw` is not a convenience: a keyword repeating a positionally filled parameter is Python's "got multiple values" refusal
(`bindParams_shadow`), while the keyword-only call on the right would accept it. -/
theorem bindParams_prefix (dflt : String → Option V) (ps₁ ps₂ : List String) (hnd : (ps₁ ++ ps₂).Nodup) (vs₁ : List V)
    (hlen : vs₁.length = ps₁.length) (kw : List (String × V)) (hkw : ∀ p ∈ ps₁, kwLookup kw p = none) :
    bindParams dflt kw (ps₁ ++ ps₂) vs₁ = bindParams dflt (ps₁.zip vs₁ ++ kw) (ps₁ ++ ps₂) [] := by
  obtain ⟨hn1, _, hdisj⟩ := List.nodup_append.1 hnd
  have htake : (ps₁ ++ ps₂).take vs₁.length = ps₁ := List.take_left' hlen.symm
  have hdrop : (ps₁ ++ ps₂).drop vs₁.length = ps₂ := List.drop_left' hlen.symm
  apply bindParams_pos_eq_kw
  · simp [hlen]
  · rw [htake]; exact hkw
  · rw [htake]
    intro p v hpv
    rw [kwLookup_append, kwLookup_zip_of_mem ps₁ vs₁ hn1 p v hpv]
  · rw [hdrop]
    intro p hp
    have : p ∉ ps₁ := fun h1 => hdisj p h1 p hp rfl
    rw [kwLookup_append, kwLookup_zip_of_not_mem ps₁ vs₁ p this]

theorem bindParams_error_TypeError (dflt : String → Option V) (kw : List (String × V)) (ps : List String) (vs : List V)
    (e : PyErr) (h : bindParams dflt kw ps vs = .error e) : e = .TypeError := by
  induction ps generalizing vs with
  | nil =>
    cases vs with
    | nil => simp [bindParams] at h
    | cons v vs => simp only [bindParams, Except.error.injEq] at h; exact h.symm
  | cons p ps ih =>
    cases vs with
    | nil =>
      simp only [bindParams] at h
      cases hd : kwOrDefault dflt kw p with
      | none => simp only [hd, Except.error.injEq] at h; exact h.symm
      | some v =>
        cases hr : bindParams dflt kw ps [] with
        | error e' => simp only [hd, hr, Except.error.injEq] at h; subst h; exact ih [] hr
        | ok r => simp [hd, hr] at h
    | cons v vs =>
      simp only [bindParams] at h
      cases hk : kwLookup kw p with
      | some w => simp only [hk, Except.error.injEq] at h; exact h.symm
      | none =>
        cases hr : bindParams dflt kw ps vs with
        | error e' => simp only [hk, hr, Except.error.injEq] at h; subst h; exact ih vs hr
        | ok r => simp [hk, hr] at h

/-- Python's "got multiple values for argument" -/
theorem bindParams_shadow (dflt : String → Option V) (kw : List (String × V)) (ps₁ : List String) (p : String)
    (ps₂ : List String) (vs : List V) (hlen : ps₁.length < vs.length) (w : V) (hk : kwLookup kw p = some w) :
    bindParams dflt kw (ps₁ ++ p :: ps₂) vs = .error .TypeError := by
  induction ps₁ generalizing vs with
  | nil =>
    cases vs with
    | nil => simp at hlen
    | cons v vs => simp only [List.nil_append, bindParams, hk]
  | cons q ps₁ ih =>
    cases vs with
    | nil => simp at hlen
    | cons v vs =>
      have := ih vs (by simpa using hlen)
      simp only [List.cons_append, bindParams, this]
      cases kwLookup kw q <;> rfl

theorem bindParams_kw_spec (dflt : String → Option V) (kw : List (String × V)) (ps : List String) (r : List (String × V))
    (h : bindParams dflt kw ps [] = .ok r) :
    r.map Prod.fst = ps ∧ ∀ p v, (p, v) ∈ r → kwOrDefault dflt kw p = some v := by
  induction ps generalizing r with
  | nil =>
    simp only [bindParams, Except.ok.injEq] at h
    subst h; simp
  | cons p ps ih =>
    simp only [bindParams] at h
    cases hd : kwOrDefault dflt kw p with
    | none => simp [hd] at h
    | some v =>
      cases hr : bindParams dflt kw ps [] with
      | error e => simp [hd, hr] at h
      | ok r' =>
        simp only [hd, hr, Except.ok.injEq] at h
        subst h
        obtain ⟨ih1, ih2⟩ := ih r' hr
        refine ⟨by simp [ih1], fun q w hq => ?_⟩
        rcases List.mem_cons.1 hq with heq | hmem
        · cases heq; exact hd
        · exact ih2 q w hmem

/-- companion of `bindParams_kw_spec`: the keyword form binds every parameter of a duplicate-free signature, to its keyword
else its default -/
theorem bound_bindParams_kw (dflt : String → Option V) (kw : List (String × V)) (ps : List String) (r : List (String × V))
    (hps : ps.Nodup) (h : bindParams dflt kw ps [] = .ok r) (p : String) (hp : p ∈ ps) :
    ∃ v, kwLookup r p = some v ∧ kwOrDefault dflt kw p = some v := by
  obtain ⟨hnames, hvals⟩ := bindParams_kw_spec _ _ _ _ h
  obtain ⟨⟨q, v⟩, hq, rfl⟩ := List.mem_map.1 (hnames ▸ hp)
  exact ⟨v, kwLookup_of_mem r (hnames ▸ hps) q v hq, hvals q v hq⟩

theorem bindParams_kw_ok (dflt : String → Option V) (kw : List (String × V)) (ps : List String)
    (h : ∀ p ∈ ps, (kwOrDefault dflt kw p).isSome) : ∃ r, bindParams dflt kw ps [] = .ok r := by
  induction ps with
  | nil => exact ⟨[], rfl⟩
  | cons p ps ih =>
    obtain ⟨r, hr⟩ := ih (fun q hq => h q (List.mem_cons_of_mem _ hq))
    obtain ⟨v, hv⟩ := Option.isSome_iff_exists.1 (h p (List.mem_cons_self ..))
    exact ⟨(p, v) :: r, by simp only [bindParams, hv, hr]⟩

theorem fitParams_nodup (hasBases : Bool) : (fitParams hasBases).Nodup := by
  have h : (fitParams true).Nodup := by decide +kernel
  cases hasBases
  · -- the signature without `input_bases` is a sublist of the one with it
    exact h.sublist (((List.Sublist.refl _).append (List.nil_sublist _)).append (List.Sublist.refl _))
  · exact h

/-- the keyword form `fit(**kw)` binds every documented parameter to its keyword, else its default, and for the positive state
(`hasBases = false`) additionally `input_bases = None`: `PositiveWaveFunction.fit` overwrites `kwargs["input_bases"]` before delegating
(positive_wavefunction.py:212), which `fitBind` models by appending the pair. -/
theorem bound_fitBind_kw (hasBases : Bool) (kw : List (String × Arg)) (r : List (String × Arg))
    (hr : fitBind hasBases [] kw = .ok r) :
    (∀ p ∈ fitParams hasBases, bound r p = kwOrDefault fitDefault kw p)
    ∧ (hasBases = false → bound r "input_bases" = some Arg.none) := by
  rw [fitBind] at hr
  -- `r` is the binding `r0` of the signature, followed by the forced `input_bases = None` for the positive state
  cases hr0 : bindParams fitDefault kw (fitParams hasBases) [] with
  | error e => rw [hr0] at hr; cases hr
  | ok r0 =>
    rw [hr0] at hr
    cases hr
    refine ⟨fun p hp => ?_, fun hb => ?_⟩
    · obtain ⟨v, h1, h2⟩ := bound_bindParams_kw _ _ _ _ (fitParams_nodup hasBases) hr0 p hp
      rw [h2, bound]
      cases hasBases with
      | true => exact h1
      | false => simp only [Bool.false_eq_true, if_false, kwLookup_append, h1]
    · subst hb
      have hnot : "input_bases" ∉ r0.map Prod.fst := by
        rw [(bindParams_kw_spec _ _ _ _ hr0).1]; decide
      rw [bound]
      simp only [Bool.false_eq_true, if_false, kwLookup_append, kwLookup_eq_none_of_not_mem r0 _ hnot]
      rfl

/-- the statement of `C06_positional_call` / `C07_positional_call` -/
theorem fitBind_positional (hasBases : Bool) (ps₁ ps₂ : List String) (hsig : fitParams hasBases = ps₁ ++ ps₂)
    (vs₁ : List Arg) (hlen : vs₁.length = ps₁.length) (kw : List (String × Arg))
    (hkw : ∀ p ∈ ps₁, kwLookup kw p = none) :
    fitBind hasBases vs₁ kw = fitBind hasBases [] (ps₁.zip vs₁ ++ kw)
    ∧ ∀ r, fitBind hasBases vs₁ kw = .ok r →
        (∀ p v, (p, v) ∈ ps₁.zip vs₁ → bound r p = some v)
        ∧ (∀ p ∈ ps₂, bound r p = kwOrDefault fitDefault kw p)
        ∧ (hasBases = false → bound r "input_bases" = some Arg.none) := by
  have hnd : (ps₁ ++ ps₂).Nodup := hsig ▸ fitParams_nodup hasBases
  have hEq : fitBind hasBases vs₁ kw = fitBind hasBases [] (ps₁.zip vs₁ ++ kw) := by
    simp only [fitBind, hsig, bindParams_prefix fitDefault ps₁ ps₂ hnd vs₁ hlen kw hkw]
  refine ⟨hEq, fun r hr => ?_⟩
  obtain ⟨hlook, hib⟩ := bound_fitBind_kw hasBases _ r (hEq ▸ hr)
  rw [hsig] at hlook
  obtain ⟨hn1, -, hdisj⟩ := List.nodup_append.1 hnd
  refine ⟨fun p v hpv => ?_, fun p hp => ?_, hib⟩
  · rw [hlook p (List.mem_append_left _ (List.of_mem_zip hpv).1), kwOrDefault, kwLookup_append,
      kwLookup_zip_of_mem ps₁ vs₁ hn1 p v hpv]
  · have hnot : p ∉ ps₁ := fun h1 => hdisj p h1 p hp rfl
    rw [hlook p (List.mem_append_right _ hp)]
    simp only [kwOrDefault, kwLookup_append, kwLookup_zip_of_not_mem ps₁ vs₁ p hnot]

/-! ### the `deprecated_kwarg` alias layer -/

theorem kwLookup_eraseKey (kw : List (String × V)) (a p : String) :
    kwLookup (eraseKey kw a) p = if p = a then none else kwLookup kw p := by
  induction kw with
  | nil => simp [eraseKey, kwLookup]
  | cons e kw ih =>
    unfold eraseKey at ih ⊢
    by_cases hq : e.1 = a
    · rw [List.filter_cons_of_neg (by simp [hq]), ih, kwLookup]
      by_cases hp : p = a
      · rw [if_pos hp, if_pos hp]
      · rw [if_neg hp, if_neg hp, if_neg fun h : e.1 = p => hp (h ▸ hq)]
    · rw [List.filter_cons_of_pos (by simp [hq]), kwLookup, kwLookup, ih]
      by_cases hqp : e.1 = p
      · rw [if_pos hqp, if_pos hqp, if_neg (hqp ▸ hq)]
      · rw [if_neg hqp, if_neg hqp]

theorem renameStep_both (kw : List (String × V)) (a t : String) (v w : V)
    (ha : kwLookup kw a = some v) (ht : kwLookup kw t = some w) : renameStep kw a t = .error .TypeError := by
  simp only [renameStep, ha, ht]

theorem renameStep_absent (kw : List (String × V)) (a t : String) (ha : kwLookup kw a = none) :
    renameStep kw a t = .ok kw := by
  simp only [renameStep, ha]

theorem renameStep_moves (kw : List (String × V)) (a t : String) (hat : a ≠ t) (v : V)
    (ha : kwLookup kw a = some v) (ht : kwLookup kw t = none) :
    ∃ kw', renameStep kw a t = .ok kw' ∧
      ∀ p, kwLookup kw' p = if p = a then none else if p = t then some v else kwLookup kw p := by
  refine ⟨eraseKey kw a ++ [(t, v)], by simp only [renameStep, ha, ht], fun p => ?_⟩
  rw [kwLookup_append, kwLookup_eraseKey]
  by_cases hpa : p = a
  · subst hpa
    have : ¬ t = p := fun h => hat h.symm
    simp [kwLookup, this]
  · by_cases hpt : p = t
    · subst hpt; simp [hpa, ht, kwLookup]
    · have : ¬ t = p := fun h => hpt h.symm
      simp only [hpa, hpt, if_false, kwLookup, this]
      cases kwLookup kw p <;> rfl

end QV.CallForm
