/-
QV.Lemmas.DrawCount — what a `Prog` (`QV.Model.Prob`) does on EVERY complete execution (`paths`), not in law: the executions of a
`bind`; "every execution makes exactly `c` draws" (`Draws`) with the counts of `flipVec` (`m`), `flipMat` (`B·m`), `iter`
(`k` times the step's count); what one `flipVec` / `flipMat` call presents and returns (`flatM`: row-major); the
recordings a replay (`run`) accepts; and, on plain lists, a call pattern repeated `k` times. Used by section 10 of C05
(`C05_call_shapes_list`, `C05_call_shapes`, `C05_call_contents`, `C05_replay_length`).
-/
import QV.Model.Prob
import QV.Lemmas.Prob

namespace QV
namespace Prog
variable {α β γ : Type}

theorem paths_bind (m : Prog α β) (f : β → Prog α γ) :
    (m.bind f).paths
      = m.paths.flatMap (fun x => (f x.1).paths.map fun y => (y.1, x.2.1 ++ y.2.1, x.2.2 ++ y.2.2)) := by
  induction m with
  | ret b => simp [bind, paths]
  | flip p k ih =>
    simp only [bind, paths, ih, List.flatMap_append, List.flatMap_map, List.map_flatMap, List.map_map]
    rfl

/-- every complete execution of `m` makes exactly `c` Bernoulli draws (and so presents exactly `c` probabilities) -/
def Draws (m : Prog α β) (c : ℕ) : Prop := ∀ x ∈ m.paths, x.2.2.length = c ∧ x.2.1.length = c

/-- it is enough to count the draws: every execution presents as many probabilities as it makes draws -/
theorem Draws.of_draw_count {m : Prog α β} {c : ℕ} (h : ∀ x ∈ m.paths, x.2.2.length = c) : Draws m c :=
  fun x hx => ⟨h x hx, (paths_probs_length m x hx).trans (h x hx)⟩

theorem draws_ret (b : β) : Draws (ret b : Prog α β) 0 :=
  Draws.of_draw_count fun x hx => by rw [List.mem_singleton.1 hx]; rfl

theorem draws_flip (p : α) (k : Bool → Prog α β) (c : ℕ) (hk : ∀ t, Draws (k t) c) : Draws (flip p k) (c + 1) := by
  refine Draws.of_draw_count fun x hx => ?_
  simp only [paths, List.mem_append, List.mem_map] at hx
  rcases hx with ⟨y, hy, rfl⟩ | ⟨y, hy, rfl⟩ <;> exact congrArg (· + 1) (hk _ y hy).1

theorem draws_bind {m : Prog α β} {f : β → Prog α γ} {c d : ℕ} (hm : Draws m c) (hf : ∀ b, Draws (f b) d) :
    Draws (m.bind f) (c + d) := by
  refine Draws.of_draw_count fun z hz => ?_
  rw [paths_bind] at hz
  simp only [List.mem_flatMap, List.mem_map] at hz
  obtain ⟨x, hx, y, hy, rfl⟩ := hz
  rw [List.length_append, (hm x hx).1, (hf _ y hy).1]

theorem draws_map {m : Prog α β} (f : β → γ) {c : ℕ} (hm : Draws m c) : Draws (m.map f) c := by
  simpa [map] using draws_bind hm fun b => draws_ret (α := α) (f b)

theorem draws_flipVec (m : ℕ) (p : Fin m → α) : Draws (flipVec m p) m := by
  induction m with
  | zero => exact draws_ret _
  | succ m ih => exact draws_flip _ _ m fun t => draws_map _ (ih _)

theorem draws_flipMat (B m : ℕ) (p : Fin B → Fin m → α) : Draws (flipMat B m p) (B * m) := by
  induction B with
  | zero => rw [Nat.zero_mul]; exact draws_ret _
  | succ B ih =>
    rw [show (B + 1) * m = m + B * m by rw [Nat.succ_mul, Nat.add_comm]]
    exact draws_bind (draws_flipVec m (p 0)) fun row => draws_map _ (ih _)

theorem draws_iter {step : β → Prog α β} {c : ℕ} (hs : ∀ v, Draws (step v) c) (k : ℕ) (v : β) :
    Draws (iter step k v) (k * c) := by
  induction k generalizing v with
  | zero => rw [Nat.zero_mul]; exact draws_ret v
  | succ k ih =>
    have := draws_bind (hs v) ih
    rwa [Nat.add_comm, ← Nat.succ_mul] at this

theorem draws_run {m : Prog α β} {c : ℕ} (hm : Draws m c) {ds : List Bool} {b : β} {ps : List α} {rest : List Bool}
    (h : m.run ds = some (b, ps, rest)) : ps.length = c ∧ ds.length = c + rest.length := by
  obtain ⟨used, rfl, hmem⟩ := mem_paths_of_run m ds b ps rest h
  have := hm _ hmem
  simp only at this
  exact ⟨this.2, by simp [this.1]⟩

/-! ### what one `torch.bernoulli` call presents and returns, on every path -/

/-- a `B × m` tensor flattened row-major (the order in which the recorder flattens it) -/
def flatM {δ : Type} {B m : ℕ} (f : Fin B → Fin m → δ) : List δ := (List.ofFn fun b => List.ofFn (f b)).flatten

theorem flatM_length {δ : Type} {B m : ℕ} (f : Fin B → Fin m → δ) : (flatM f).length = B * m := by
  simp [flatM, List.length_flatten, Function.comp_def]

/-- `paths_map` in the `bind … ret` form in which `flipVec` / `flipMat` are written, so that `simp` finds it once they are unfolded -/
theorem paths_bind_ret (m : Prog α β) (f : β → γ) :
    (m.bind fun b => ret (f b)).paths = m.paths.map fun y => (f y.1, y.2) := paths_map f m

theorem paths_flipVec (m : ℕ) (p : Fin m → α) :
    ∀ x ∈ (flipVec m p).paths, x.2.1 = List.ofFn p ∧ x.2.2 = List.ofFn x.1 := by
  induction m with
  | zero => intro x hx; simp only [flipVec, paths, List.mem_singleton] at hx; subst hx; simp
  | succ m ih =>
    intro x hx
    simp only [flipVec, paths, paths_bind_ret, List.mem_append, List.mem_map] at hx
    rcases hx with ⟨y, ⟨z, hz, rfl⟩, rfl⟩ | ⟨y, ⟨z, hz, rfl⟩, rfl⟩ <;>
      simp [List.ofFn_succ, (ih _ z hz).1, (ih _ z hz).2]

theorem paths_flipMat (B m : ℕ) (p : Fin B → Fin m → α) :
    ∀ x ∈ (flipMat B m p).paths, x.2.1 = flatM p ∧ x.2.2 = flatM x.1 := by
  induction B with
  | zero => intro x hx; simp only [flipMat, paths, List.mem_singleton] at hx; subst hx; simp [flatM]
  | succ B ih =>
    intro x hx
    rw [flipMat, paths_bind] at hx
    simp only [paths_bind_ret, List.mem_flatMap, List.mem_map] at hx
    obtain ⟨y, hy, _, ⟨z, hz, rfl⟩, rfl⟩ := hx
    simp [flatM, List.ofFn_succ, (ih _ z hz).1, (ih _ z hz).2, (paths_flipVec m (p 0) y hy).1,
      (paths_flipVec m (p 0) y hy).2]

/-! ### replay succeeds exactly on recordings that are long enough -/

theorem paths_ne_nil (m : Prog α β) : m.paths ≠ [] := by
  induction m with
  | ret b => simp [paths]
  | flip p k ih => simp [paths, ih]

theorem run_isSome_or_short (m : Prog α β) (ds : List Bool) :
    (m.run ds).isSome ∨ ∃ x ∈ m.paths, ds.length < x.2.2.length := by
  induction m generalizing ds with
  | ret b => left; rfl
  | flip p k ih =>
    cases ds with
    | nil =>
      right
      obtain ⟨y, hy⟩ := List.exists_mem_of_ne_nil _ (paths_ne_nil (k true))
      exact ⟨(y.1, p :: y.2.1, true :: y.2.2), by simp only [paths, List.mem_append, List.mem_map]; exact Or.inl ⟨y, hy, rfl⟩,
        by simp⟩
    | cons d ds =>
      rcases ih d ds with hs | ⟨y, hy, hlt⟩
      · left
        obtain ⟨r, hr⟩ := Option.isSome_iff_exists.mp hs
        simp [run, hr]
      · right
        refine ⟨(y.1, p :: y.2.1, d :: y.2.2), ?_, by simpa using hlt⟩
        simp only [paths, List.mem_append, List.mem_map]
        cases d
        · exact Or.inr ⟨y, hy, rfl⟩
        · exact Or.inl ⟨y, hy, rfl⟩

theorem draws_run_isSome {m : Prog α β} {c : ℕ} (hm : Draws m c) (ds : List Bool) : (m.run ds).isSome ↔ c ≤ ds.length := by
  constructor
  · intro hs
    obtain ⟨⟨b, ps, rest⟩, hr⟩ := Option.isSome_iff_exists.mp hs
    have := (draws_run hm hr).2
    omega
  · intro hc
    rcases run_isSome_or_short m ds with hs | ⟨x, hx, hlt⟩
    · exact hs
    · have := (hm x hx).1
      omega

end Prog

/-! ### a call pattern repeated `k` times -/

theorem flatMap_range_const {α : Type} (k : ℕ) (l : List α) :
    ((List.range k).flatMap fun _ => l) = (List.replicate k l).flatten := by
  rw [List.flatMap_def, List.map_const', List.length_range]

theorem sum_map_flatten_replicate {α : Type} (f : α → ℕ) (k : ℕ) (l : List α) :
    (((List.replicate k l).flatten).map f).sum = k * (l.map f).sum := by
  rw [List.map_flatten, List.map_replicate, List.sum_flatten, List.map_replicate, List.sum_replicate, smul_eq_mul]

end QV
