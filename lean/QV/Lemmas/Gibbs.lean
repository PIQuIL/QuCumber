/-
QV.Lemmas.Gibbs — Boltzmann-weight algebra behind the block-Gibbs conditionals:
products of `Bernoulli(sigmoid x_i)` masses, sums of `exp(Σ t_i x_i)` over bit-vectors, closed
forms of `exp(-effEnergy)` for `RBM` / `PRBM`, and the interaction term `yᵀ W x` summed by rows and by columns (the two
groupings in which `prob_h_given_v` and `prob_v_given_h` meet it).
-/
import Mathlib.Algebra.BigOperators.Field
import Mathlib.Analysis.SpecialFunctions.Exp
import QV.Lemmas.Prob

namespace QV
open Finset Prog

theorem bern_sigmoid_factor (x : ℝ) (t : Bool) :
    bern (clamp01 (sigmoid x : ℝ)) t = Real.exp (bit t * x) / (1 + Real.exp x) := by
  rw [clamp01_sigmoid]
  cases t
  · simp [bern, bit, one_sub_sigmoid]
  · simp [bern, bit, sigmoid_eq']

/-- the identity every `C05_cond_*` rests on: Boltzmann weight of a bit-vector = normaliser × product of the masses the sampler
presents (`clamp01 ∘ sigmoid` of the pre-activations) -/
theorem exp_bits_eq_mul_prod_bern (m : ℕ) (x : Fin m → ℝ) (t : Fin m → Bool) :
    Real.exp (∑ i, bit (t i) * x i)
      = (∏ i, (1 + Real.exp (x i))) * ∏ i, bern (clamp01 (sigmoid (x i) : ℝ)) (t i) := by
  simp_rw [bern_sigmoid_factor]
  rw [Finset.prod_div_distrib, mul_div_cancel₀ _ (Finset.prod_pos fun i _ => by positivity).ne', Real.exp_sum]

theorem sum_exp_bits (m : ℕ) (x : Fin m → ℝ) :
    ∑ t : Fin m → Bool, Real.exp (∑ i, bit (t i) * x i) = ∏ i, (1 + Real.exp (x i)) := by
  simp_rw [Real.exp_sum]
  rw [← Fintype.prod_sum (fun (i : Fin m) (b : Bool) => Real.exp (bit b * x i))]
  refine Finset.prod_congr rfl (fun i _ => ?_)
  rw [Fintype.sum_bool, add_comm]
  simp only [bit, if_true, Bool.false_eq_true, if_false, one_mul, zero_mul, Real.exp_zero]

theorem exp_sum_log_one_add_exp (m : ℕ) (x : Fin m → ℝ) :
    Real.exp (∑ i, Real.log (1 + Real.exp (x i))) = ∏ i, (1 + Real.exp (x i)) := by
  rw [Real.exp_sum]
  exact Finset.prod_congr rfl (fun i _ => Real.exp_log (by positivity))

/-- `exp(-E(v)) = e^{b·v} Π_i (1 + e^{c_i + W_i·v})` for `BinaryRBM.effective_energy` -/
theorem RBM.exp_neg_effEnergy {n h : ℕ} (r : RBM ℝ n h) (v : Fin n → ℝ) :
    Real.exp (-(r.effEnergy v)) = Real.exp (∑ j, v j * r.b j) * ∏ i, (1 + Real.exp (r.preact v i)) := by
  simp only [RBM.effEnergy, neg_neg, dot_eq, sumFin_eq, softplus_eq]
  rw [Real.exp_add, exp_sum_log_one_add_exp]

/-- `exp(-E(v))` for `PurificationRBM.effective_energy(v)` (hidden and auxiliary units traced out) -/
theorem PRBM.exp_neg_effEnergy {n h a : ℕ} (r : PRBM ℝ n h a) (v : Fin n → ℝ) :
    Real.exp (-(r.effEnergy v))
      = Real.exp (∑ j, v j * r.b j) * (∏ i, (1 + Real.exp (r.preactH v i)))
          * ∏ k, (1 + Real.exp (r.preactA v k)) := by
  simp only [PRBM.effEnergy, PRBM.visTerm, neg_neg, dot_eq, sumFin_eq, softplus_eq]
  rw [Real.exp_add, Real.exp_add, exp_sum_log_one_add_exp, exp_sum_log_one_add_exp]

/-- `exp(-E(v, a))` for `PurificationRBM.effective_energy(v, a)` (hidden units traced out) -/
theorem PRBM.exp_neg_effEnergyAux {n h a : ℕ} (r : PRBM ℝ n h a) (v : Fin n → ℝ) (aux : Fin a → ℝ) :
    Real.exp (-(r.effEnergyAux v aux))
      = Real.exp (∑ j, v j * r.b j) * (∏ i, (1 + Real.exp (r.preactH v i)))
          * Real.exp (∑ k, aux k * r.d k + ∑ k, ∑ j, aux k * r.U k j * v j) := by
  have e : ∀ k j, v j * r.U k j * aux k = aux k * r.U k j * v j := fun k j => by ring
  simp only [PRBM.effEnergyAux, PRBM.visTerm, neg_neg, dot_eq, sumFin_eq, softplus_eq, e]
  rw [add_assoc, Real.exp_add, Real.exp_add, exp_sum_log_one_add_exp]

section bilinear
variable {ι κ : Type} [Fintype ι] [Fintype κ] (x : κ → ℝ) (y : ι → ℝ) (W : ι → κ → ℝ)

/-- the interaction term `yᵀ W x`, summed row by row -/
theorem sum_mul_sum_rows : ∑ i, y i * ∑ j, x j * W i j = ∑ i, ∑ j, y i * W i j * x j := by
  simp only [Finset.mul_sum]
  exact Finset.sum_congr rfl fun i _ => Finset.sum_congr rfl fun j _ => by ring

/-- … and column by column -/
theorem sum_mul_sum_cols : ∑ j, x j * ∑ i, y i * W i j = ∑ i, ∑ j, y i * W i j * x j := by
  simp only [Finset.mul_sum]
  rw [Finset.sum_comm]
  exact Finset.sum_congr rfl fun i _ => Finset.sum_congr rfl fun j _ => by ring

end bilinear

end QV
