/-
QV.Lemmas.CplxEinsumEq — facts about the elaboration `elabEq` of an `einsum` equation string (C15): subscripts without
ellipsis are kept (`*_map_lab`), the labels an ellipsis is given (`ellLabels`, right-aligned), the implicit output
(`onceLabels`: the labels occurring once, sorted), what `ellCover` accepts (`ellCover_eq_some`) and that an accepted
operand then has one label per axis, why the ellipsis labels are fresh (`lt_foldl_max_succ`).
-/
import Mathlib.Data.List.Sort
import Mathlib.Data.List.Nodup
import QV.Model.Cplx
namespace QV.Cplx
open List

theorem labels_map_lab (l : List Nat) : Tok.labels (l.map Tok.lab) = l := by
  induction l with
  | nil => rfl
  | cons x l ih => simp [Tok.labels, ih]

theorem ellCount_map_lab (l : List Nat) : Tok.ellCount (l.map Tok.lab) = 0 := by
  induction l with
  | nil => rfl
  | cons x l ih => simp [Tok.ellCount, ih]

theorem expandSub_map_lab (base K k : Nat) (l : List Nat) : expandSub base K k (l.map Tok.lab) = l := by
  induction l with
  | nil => rfl
  | cons x l ih => simp [expandSub, ih]

@[simp] theorem ellLabels_length (base K k : Nat) : (ellLabels base K k).length = k := by simp [ellLabels]

theorem expandSub_length (base K k : Nat) (ts : List Tok) :
    (expandSub base K k ts).length = (Tok.labels ts).length + Tok.ellCount ts * k := by
  induction ts with
  | nil => simp [expandSub, Tok.labels, Tok.ellCount]
  | cons t ts ih =>
    cases t with
    | lab l => simp [expandSub, Tok.labels, Tok.ellCount, ih]; omega
    | ell => simp [expandSub, Tok.labels, Tok.ellCount, ih, Nat.add_mul]; omega

theorem expandSub_append (base K k : Nat) (s t : List Tok) :
    expandSub base K k (s ++ t) = expandSub base K k s ++ expandSub base K k t := by
  induction s with
  | nil => rfl
  | cons x s ih => cases x <;> simp [expandSub, ih]

theorem labels_append (s t : List Tok) : Tok.labels (s ++ t) = Tok.labels s ++ Tok.labels t := by
  induction s with
  | nil => rfl
  | cons x s ih => cases x <;> simp [Tok.labels, ih]

theorem ellCount_append (s t : List Tok) : Tok.ellCount (s ++ t) = Tok.ellCount s + Tok.ellCount t := by
  induction s with
  | nil => simp [Tok.ellCount]
  | cons x s ih => cases x <;> simp [Tok.ellCount, ih]; omega

theorem ellLabels_full (base K : Nat) : ellLabels base K K = (List.range K).map (fun i => base + i) := by
  simp [ellLabels]

/-- an ellipsis covering `k ≤ K` axes carries the LAST `k` of the `K` labels: alignment from the right -/
theorem ellLabels_suffix (base : Nat) {K k : Nat} (h : k ≤ K) :
    ellLabels base K k = (ellLabels base K K).drop (K - k) := by
  apply List.ext_getElem
  · simp; omega
  · intro i h1 h2
    simp [ellLabels]
    omega

/-- the label found `j` positions from the right does not depend on `k`: ellipses of different lengths in the two operands
name their common axes alike -/
theorem ellLabels_from_right (base : Nat) {K k j : Nat} (hk : k ≤ K) (hj : j < k) :
    (ellLabels base K k).reverse[j]? = some (base + (K - 1 - j)) := by
  have hl : (ellLabels base K k).length = k := ellLabels_length _ _ _
  rw [List.getElem?_reverse (by rw [hl]; exact hj), hl]
  unfold ellLabels
  rw [List.getElem?_map, List.getElem?_range (by omega)]
  simp only [Option.map_some]
  congr 1
  omega

/-- the model imports no Mathlib and has its own insertion sort; it is Mathlib's, whose `Pairwise` / `Perm` lemmas
`mem_onceLabels` and `onceLabels_sorted` then use -/
theorem sortNat_eq (l : List Nat) : sortNat l = l.insertionSort (· ≤ ·) := by
  have hins : ∀ (x : Nat) (l : List Nat), insertSorted x l = List.orderedInsert (· ≤ ·) x l := by
    intro x l
    induction l with
    | nil => rfl
    | cons y ys ih => simp only [insertSorted, List.orderedInsert_cons, ih]
  induction l with
  | nil => rfl
  | cons x l ih =>
    simp only [sortNat, List.foldr_cons, List.insertionSort_cons] at ih ⊢
    rw [ih, hins]

theorem mem_onceLabels {l : List Nat} {x : Nat} : x ∈ onceLabels l ↔ l.count x = 1 := by
  unfold onceLabels
  rw [sortNat_eq, List.mem_insertionSort, List.mem_filter]
  constructor
  · rintro ⟨_, h⟩; simpa using h
  · intro h
    refine ⟨?_, by simpa using h⟩
    exact List.count_pos_iff.1 (by omega)

theorem nodup_onceFilter (l : List Nat) : (l.filter (fun x => l.count x == 1)).Nodup := by
  rw [List.nodup_iff_count_le_one]
  intro a
  by_cases h : l.count a = 1
  · rw [List.count_filter (by simpa using h)]; omega
  · have : a ∉ l.filter (fun x => l.count x == 1) := by
      rw [List.mem_filter]; rintro ⟨_, h'⟩; exact h (by simpa using h')
    rw [List.count_eq_zero_of_not_mem this]; omega

theorem onceLabels_sorted (l : List Nat) : (onceLabels l).Pairwise (· < ·) := by
  unfold onceLabels
  rw [sortNat_eq]
  have h1 : ((l.filter (fun x => l.count x == 1)).insertionSort (· ≤ ·)).Pairwise (· ≤ ·) :=
    List.pairwise_insertionSort _ _
  have h2 : ((l.filter (fun x => l.count x == 1)).insertionSort (· ≤ ·)).Nodup :=
    (List.perm_insertionSort _ _).nodup_iff.2 (nodup_onceFilter l)
  have h3 := h1.and h2
  exact h3.imp (fun ⟨hle, hne⟩ => lt_of_le_of_ne hle hne)

theorem le_foldl_max (l : List Nat) (init : Nat) : init ≤ l.foldl max init ∧ ∀ x ∈ l, x ≤ l.foldl max init := by
  induction l generalizing init with
  | nil => simp
  | cons y l ih =>
    simp only [List.foldl_cons, List.mem_cons]
    obtain ⟨h1, h2⟩ := ih (max init y)
    refine ⟨le_trans (le_max_left _ _) h1, ?_⟩
    rintro x (rfl | hx)
    · exact le_trans (le_max_right _ _) h1
    · exact h2 x hx

theorem ellCover_eq_some {ts : List Tok} {r k : Nat} : ellCover ts r = some k ↔
    (Tok.ellCount ts = 0 ∧ (Tok.labels ts).length = r ∧ k = 0) ∨
    (Tok.ellCount ts = 1 ∧ (Tok.labels ts).length + k = r) := by
  unfold ellCover
  rcases h : Tok.ellCount ts with _ | _ | n
  · simp only
    split_ifs with h1
    · simp [h1, eq_comm]
    · simp [h1]
  · simp only
    split_ifs with h1
    · simp; omega
    · simp; omega
  · simp

/-- after the ellipsis of an accepted operand is expanded, there is one label per axis -/
theorem expandSub_length_of_ellCover {ts : List Tok} {r k : Nat} (base K : Nat) (hc : ellCover ts r = some k) :
    (expandSub base K k ts).length = r := by
  rw [expandSub_length]
  rcases ellCover_eq_some.1 hc with ⟨h0, h1, h2⟩ | ⟨h0, h1⟩
  · rw [h0, h1, Nat.zero_mul, Nat.add_zero]
  · rw [h0, Nat.one_mul, h1]

/-- the label after the largest one of a list is fresh (the `base` of the ellipsis labels) -/
theorem lt_foldl_max_succ {L : List Nat} {l : Nat} (h : l ∈ L) : l < L.foldl max 0 + 1 :=
  Nat.lt_succ_of_le ((le_foldl_max L 0).2 l h)

end QV.Cplx
