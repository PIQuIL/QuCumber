/-
QV.Lemmas.Batching — helper lemmas about `QV.Model.Batching`, used by C07: `_shuffle_data`'s indexing (`Rows`) and slicing (`slices`),
the zipped batches, the closed form of `shuffleData` on valid inputs, and the views / storages of `epochOnHeap`'s batch references.
-/
import QV.Model.Batching
namespace QV.Batching
open QV

section rows
variable {α : Type}

/-- `ys` are the rows of `xs` at the indices `idx`, in that order. All `idx` are in range: a `none` on the right has no
counterpart in `ys.map some` (`Rows.index_lt`). This is `takeRows … = .ok ys` (`takeRows_ok_iff`) without the `Except`. -/
def Rows (xs : List α) (idx : List Nat) (ys : List α) : Prop := ys.map some = idx.map (fun i => xs[i]?)

theorem takeRows_ok_iff (xs : List α) (idx : List Nat) (ys : List α) :
    takeRows xs idx = .ok ys ↔ Rows xs idx ys := by
  unfold Rows
  induction idx generalizing ys with
  | nil => cases ys <;> simp [takeRows]
  | cons i rest ih =>
    cases ys with
    | nil =>
      simp only [takeRows, getRow, List.map_nil, List.map_cons]
      cases xs[i]? with
      | none => simp
      | some x => cases takeRows xs rest <;> simp
    | cons y ys =>
      simp only [takeRows, getRow, List.map_cons, List.cons.injEq, ← ih]
      cases xs[i]? with
      | none => simp
      | some x => cases takeRows xs rest <;> simp [eq_comm]

theorem takeRows_error (xs : List α) (idx : List Nat) (e : PyErr) (h : takeRows xs idx = .error e) :
    e = .IndexError := by
  induction idx with
  | nil => simp [takeRows] at h
  | cons i rest ih =>
    simp only [takeRows, getRow] at h
    cases hx : xs[i]? with
    | none => rw [hx] at h; cases h; rfl
    | some x =>
      rw [hx] at h
      simp only at h
      cases hr : takeRows xs rest with
      | error e' => rw [hr] at h; simp only at h; cases h; exact ih hr
      | ok zs => rw [hr] at h; cases h

theorem takeRows_exists (xs : List α) (idx : List Nat) (h : ∀ i ∈ idx, i < xs.length) :
    ∃ ys, takeRows xs idx = .ok ys := by
  induction idx with
  | nil => exact ⟨[], rfl⟩
  | cons i rest ih =>
    obtain ⟨zs, hz⟩ := ih (fun j hj => h j (List.mem_cons_of_mem _ hj))
    have hi : i < xs.length := h i (List.mem_cons_self ..)
    refine ⟨xs[i] :: zs, (takeRows_ok_iff _ _ _).mpr ?_⟩
    have := (takeRows_ok_iff _ _ _).mp hz
    simp [Rows, List.getElem?_eq_getElem hi] at this ⊢
    exact this

theorem Rows.length {xs : List α} {idx : List Nat} {ys : List α} (h : Rows xs idx ys) : ys.length = idx.length := by
  have := congrArg List.length h
  simpa using this

theorem Rows.unique {xs : List α} {idx : List Nat} {ys ys' : List α} (h : Rows xs idx ys) (h' : Rows xs idx ys') :
    ys = ys' := (List.map_inj_right fun _ _ => Option.some.inj).1 (h.trans h'.symm)

theorem Rows.slice {xs : List α} {idx : List Nat} {ys : List α} (h : Rows xs idx ys) (a b : Nat) :
    Rows xs ((idx.drop a).take b) ((ys.drop a).take b) := by
  unfold Rows at *
  rw [List.map_take, List.map_drop, h, List.map_take, List.map_drop]

theorem Rows.mem {xs : List α} {idx : List Nat} {ys : List α} (h : Rows xs idx ys) : ∀ y ∈ ys, y ∈ xs := by
  intro y hy
  have : some y ∈ ys.map some := List.mem_map_of_mem hy
  rw [h] at this
  obtain ⟨i, _, hi⟩ := List.mem_map.mp this
  exact List.mem_of_getElem? hi

theorem Rows.index_lt {xs : List α} {idx : List Nat} {ys : List α} (h : Rows xs idx ys) : ∀ i ∈ idx, i < xs.length := by
  intro i hi
  have : xs[i]? ∈ idx.map (fun i => xs[i]?) := List.mem_map_of_mem hi
  rw [← h] at this
  obtain ⟨y, _, hy⟩ := List.mem_map.mp this
  exact (List.getElem?_eq_some_iff.mp hy.symm).1

theorem rows_range (xs : List α) : Rows xs (List.range xs.length) xs := by
  unfold Rows
  apply List.ext_getElem <;> simp

theorem Rows.perm {xs : List α} {perm : List Nat} {ys : List α} (h : Rows xs perm ys)
    (hp : perm.Perm (List.range xs.length)) : ys.Perm xs := by
  have h1 : (ys.map some).Perm (xs.map some) := by
    rw [h, rows_range xs]
    exact hp.map _
  have h2 := h1.filterMap id
  simpa [List.filterMap_map] using h2

theorem perm_mem_lt {N : Nat} {perm : List Nat} (h : perm.Perm (List.range N)) : ∀ i ∈ perm, i < N :=
  fun _ hi => List.mem_range.mp (h.mem_iff.mp hi)

theorem perm_length {N : Nat} {perm : List Nat} (h : perm.Perm (List.range N)) : perm.length = N := by
  simpa using h.length_eq

theorem filterMap_allZ {ρ : Type} (l : List (ρ × List String)) :
    l.filterMap (fun p => if allZ p.2 then some p.1 else none) = (l.filter (fun p => allZ p.2)).map Prod.fst := by
  induction l with
  | nil => rfl
  | cons p l ih =>
    by_cases h : allZ p.2 = true <;> simp [h, ih]

end rows

section slices
variable {α : Type}

/-- `⌈len / B⌉` -/
def ceilDiv (len B : Nat) : Nat := (len + B - 1) / B

/-- the slices `xs[0:B], xs[B:2B], …`: what `sliceBatches B xs` returns for `B ≥ 1` (`sliceBatches_eq`) -/
def slices (B : Nat) (xs : List α) : List (List α) :=
  (batchStarts xs.length B).map (fun st => (xs.drop st).take B)

theorem batchStarts_length (len B : Nat) : (batchStarts len B).length = ceilDiv len B := by
  rw [batchStarts, List.length_map, List.length_range, ceilDiv]

theorem ceilDiv_mul_ge (len B : Nat) (hB : 1 ≤ B) : len ≤ ceilDiv len B * B := by
  have := Nat.lt_mul_div_succ (len + B - 1) hB
  rw [Nat.mul_succ, Nat.mul_comm] at this
  unfold ceilDiv
  omega

theorem ceilDiv_pred_mul_lt (len B : Nat) (hB : 1 ≤ B) (hl : 1 ≤ len) : (ceilDiv len B - 1) * B < len := by
  have := Nat.div_mul_le_self (len + B - 1) B
  unfold ceilDiv
  rw [Nat.sub_mul, Nat.one_mul]
  omega

theorem ceilDiv_mul (nb B : Nat) (hB : 1 ≤ B) : ceilDiv (nb * B) B = nb := by
  unfold ceilDiv
  rw [Nat.add_sub_assoc hB, Nat.mul_comm, Nat.mul_add_div hB, Nat.div_eq_of_lt (by omega), Nat.add_zero]

theorem slices_flatten_take (B : Nat) (xs : List α) (m : Nat) :
    (((List.range m).map (fun j => j * B)).map (fun st => (xs.drop st).take B)).flatten = xs.take (m * B) := by
  induction m with
  | zero => simp
  | succ m ih =>
    rw [List.range_succ, List.map_append, List.map_append, List.flatten_append, ih]
    simp only [List.map_cons, List.map_nil, List.flatten_cons, List.flatten_nil, List.append_nil]
    rw [Nat.succ_mul, List.take_add]

theorem sliceBatches_eq (B : Nat) (xs : List α) (hB : 1 ≤ B) : sliceBatches B xs = .ok (slices B xs) := by
  unfold sliceBatches
  rw [if_neg (by omega)]
  rfl

theorem slices_flatten (B : Nat) (xs : List α) (hB : 1 ≤ B) : (slices B xs).flatten = xs := by
  unfold slices batchStarts
  rw [slices_flatten_take]
  exact List.take_of_length_le (ceilDiv_mul_ge xs.length B hB)

theorem slices_length (B : Nat) (xs : List α) : (slices B xs).length = ceilDiv xs.length B := by
  rw [slices, List.length_map, batchStarts_length]

theorem slices_getElem? {B : Nat} {xs : List α} {j : Nat} {y : List α} (h : (slices B xs)[j]? = some y) :
    j < ceilDiv xs.length B ∧ y = (xs.drop (j * B)).take B := by
  obtain ⟨hj, rfl⟩ := List.getElem?_eq_some_iff.1 h
  rw [slices_length] at hj
  refine ⟨hj, ?_⟩
  simp only [slices, batchStarts, List.getElem_map, List.getElem_range]

theorem slices_getElem_length (B : Nat) (xs : List α) (j : Nat) (hj : j < ceilDiv xs.length B) :
    (((batchStarts xs.length B).map (fun st => (xs.drop st).take B))[j]'(by simpa [batchStarts_length] using hj)).length
      = min B (xs.length - j * B) := by
  simp only [batchStarts, List.getElem_map, List.getElem_range, List.length_take, List.length_drop]

theorem slices_map {β : Type} (f : α → β) (B : Nat) (xs : List α) :
    (batchStarts (xs.map f).length B).map (fun st => ((xs.map f).drop st).take B)
      = ((batchStarts xs.length B).map (fun st => (xs.drop st).take B)).map (List.map f) := by
  simp [List.map_take, List.map_drop]

theorem Rows.getElem?_slices {xs : List α} {idx : List Nat} {ys : List α} (h : Rows xs idx ys) {B j : Nat} {i : List Nat}
    {y : List α} (hi : (slices B idx)[j]? = some i) (hy : (slices B ys)[j]? = some y) : Rows xs i y := by
  rw [(slices_getElem? hi).2, (slices_getElem? hy).2]
  exact h.slice _ _
end slices

section zips
variable {ρ : Type}

theorem zip2_eq (ps ns : List (List ρ)) : zip2 ps ns = (ps.zip ns).map fun x => ⟨x.1, x.2, none⟩ := by
  induction ps generalizing ns with
  | nil => rfl
  | cons p ps ih => cases ns with
    | nil => rfl
    | cons n ns => rw [zip2, ih]; rfl

theorem zip3_eq (ps ns : List (List ρ)) (bs : List (List (List String))) :
    zip3 ps ns bs = ((ps.zip ns).zip bs).map fun x => ⟨x.1.1, x.1.2, some x.2⟩ := by
  induction ps generalizing ns bs with
  | nil => rfl
  | cons p ps ih => cases ns with
    | nil => rfl
    | cons n ns => cases bs with
      | nil => rfl
      | cons b bs => rw [zip3, ih]; rfl

theorem zip2_length (ps ns : List (List ρ)) : (zip2 ps ns).length = min ps.length ns.length := by
  rw [zip2_eq, List.length_map, List.length_zip]

theorem zip3_length (ps ns : List (List ρ)) (bs : List (List (List String))) :
    (zip3 ps ns bs).length = min (min ps.length ns.length) bs.length := by
  rw [zip3_eq, List.length_map, List.length_zip, List.length_zip]

theorem zip2_proj (ps ns : List (List ρ)) (h : ps.length = ns.length) :
    (zip2 ps ns).map (·.pos) = ps ∧ (zip2 ps ns).map (·.neg) = ns ∧ ∀ b ∈ zip2 ps ns, b.bases = none := by
  rw [zip2_eq, List.map_map, List.map_map]
  refine ⟨List.map_fst_zip (Nat.le_of_eq h), List.map_snd_zip (Nat.le_of_eq h.symm), fun b hb => ?_⟩
  obtain ⟨_, _, rfl⟩ := List.mem_map.1 hb
  rfl

theorem zip3_proj (ps ns : List (List ρ)) (bs : List (List (List String))) (h : ps.length = ns.length)
    (h' : ps.length = bs.length) :
    (zip3 ps ns bs).map (·.pos) = ps ∧ (zip3 ps ns bs).map (·.neg) = ns ∧
      (zip3 ps ns bs).map (·.bases) = bs.map some := by
  have hz : (ps.zip ns).length = bs.length := by rw [List.length_zip, ← h, Nat.min_self, h']
  rw [zip3_eq, List.map_map, List.map_map, List.map_map]
  refine ⟨?_, ?_, ?_⟩
  · show List.map (Prod.fst ∘ Prod.fst) _ = ps
    rw [← List.map_map, List.map_fst_zip (Nat.le_of_eq hz), List.map_fst_zip (Nat.le_of_eq h)]
  · show List.map (Prod.snd ∘ Prod.fst) _ = ns
    rw [← List.map_map, List.map_fst_zip (Nat.le_of_eq hz), List.map_snd_zip (Nat.le_of_eq h.symm)]
  · show List.map (some ∘ Prod.snd) _ = bs.map some
    rw [← List.map_map, List.map_snd_zip (Nat.le_of_eq hz.symm)]
end zips

/-! ### reading batches, slices and views -/
theorem getElem?_of_map_eq {α β : Type} {l : List α} {f : α → β} {l' : List β} (h : l.map f = l') {j : Nat} {a : α}
    (hj : l[j]? = some a) : l'[j]? = some (f a) := by
  rw [← h, List.getElem?_map, hj]; rfl

theorem batches_length {ρ : Type} {samples sp : List ρ} {perm : List Nat} {posB : Nat} {out : ShuffleOut ρ}
    (hsp : Rows samples perm sp) (hperm : perm.Perm (List.range samples.length))
    (hpos : out.batches.map (·.pos) = slices posB sp) : out.batches.length = ceilDiv samples.length posB := by
  rw [← List.length_map (f := (·.pos)), hpos, slices_length, hsp.length, perm_length hperm]

theorem rows_get {α : Type} {xs : List α} {idx : List Nat} {ys : List α} (h : Rows xs idx ys) (i p : Nat)
    (hp : idx[i]? = some p) : ∃ y, ys[i]? = some y ∧ xs[p]? = some y := by
  have h1 : (ys.map some)[i]? = (idx.map (fun k => xs[k]?))[i]? := by rw [h]
  rw [List.getElem?_map, List.getElem?_map, hp] at h1
  obtain ⟨y, hy, e⟩ := Option.map_eq_some_iff.1 h1
  exact ⟨y, hy, e.symm⟩

theorem slice_length {α : Type} (B : Nat) (xs : List α) (j : Nat) (y : List α) (hy : (slices B xs)[j]? = some y) :
    j < ceilDiv xs.length B ∧ y.length = min B (xs.length - j * B) ∧ ∀ r ∈ y, r ∈ xs := by
  obtain ⟨hj, rfl⟩ := slices_getElem? hy
  exact ⟨hj, by rw [List.length_take, List.length_drop], fun r hr => List.mem_of_mem_drop (List.mem_of_mem_take hr)⟩

theorem batch_size_arith (N B j : Nat) (hB : 1 ≤ B) (hN : 1 ≤ N) (hj : j < ceilDiv N B) :
    1 ≤ min B (N - j * B) ∧ min B (N - j * B) ≤ B ∧
    (j + 1 < ceilDiv N B → min B (N - j * B) = B) ∧
    (j + 1 = ceilDiv N B → min B (N - j * B) = N - (ceilDiv N B - 1) * B) := by
  have h1 := ceilDiv_pred_mul_lt N B hB hN
  have h2 := ceilDiv_mul_ge N B hB
  -- with `q + 1` slices: `q·B < N ≤ q·B + B`, and only the products `j·B`, `q·B` matter
  obtain ⟨q, hq⟩ : ∃ q, ceilDiv N B = q + 1 := ⟨_, (Nat.sub_add_cancel (Nat.zero_lt_of_lt hj)).symm⟩
  rw [hq] at hj h1 h2 ⊢
  rw [Nat.add_sub_cancel] at h1 ⊢
  rw [Nat.succ_mul] at h2
  have h3 : j * B ≤ q * B := Nat.mul_le_mul_right B (Nat.lt_succ_iff.1 hj)
  refine ⟨Nat.le_min.2 ⟨hB, Nat.sub_pos_of_lt (Nat.lt_of_le_of_lt h3 h1)⟩, Nat.min_le_left _ _, fun h => ?_, fun h => ?_⟩
  · have h4 : (j + 1) * B ≤ q * B := Nat.mul_le_mul_right B (Nat.lt_succ_iff.1 h)
    rw [Nat.succ_mul, Nat.add_comm] at h4
    exact Nat.min_eq_left (Nat.le_sub_of_add_le (Nat.le_of_lt (Nat.lt_of_le_of_lt h4 h1)))
  · cases Nat.succ.inj h
    exact Nat.min_eq_right (Nat.sub_le_iff_le_add'.2 h2)

theorem mem_zipRef2 {ps ns : List View} {r : BatchRef} (h : r ∈ zipRef2 ps ns) :
    r.pos ∈ ps ∧ r.neg ∈ ns ∧ r.bases = none := by
  induction ps generalizing ns with
  | nil => simp [zipRef2] at h
  | cons p ps ih => cases ns with
    | nil => simp [zipRef2] at h
    | cons n ns =>
      simp only [zipRef2, List.mem_cons] at h
      rcases h with rfl | h
      · simp
      · obtain ⟨h1, h2, h3⟩ := ih h
        exact ⟨List.mem_cons_of_mem _ h1, List.mem_cons_of_mem _ h2, h3⟩

theorem mem_zipRef3 {ps ns bs : List View} {r : BatchRef} (h : r ∈ zipRef3 ps ns bs) :
    r.pos ∈ ps ∧ r.neg ∈ ns ∧ ∃ v ∈ bs, r.bases = some v := by
  induction ps generalizing ns bs with
  | nil => simp [zipRef3] at h
  | cons p ps ih => cases ns with
    | nil => simp [zipRef3] at h
    | cons n ns => cases bs with
      | nil => simp [zipRef3] at h
      | cons b bs =>
        simp only [zipRef3, List.mem_cons] at h
        rcases h with rfl | h
        · simp
        · obtain ⟨h1, h2, v, h3, h4⟩ := ih h
          exact ⟨List.mem_cons_of_mem _ h1, List.mem_cons_of_mem _ h2, v, List.mem_cons_of_mem _ h3, h4⟩

theorem mem_viewsOf {storage len B : Nat} {v : View} (h : v ∈ viewsOf storage len B) : v.storage = storage := by
  simp only [viewsOf, List.mem_map] at h
  obtain ⟨_, _, rfl⟩ := h
  rfl

theorem bind_ok {ε α β : Type} {x : Except ε α} {f : α → Except ε β} {r : β} (h : x.bind f = .ok r) :
    ∃ v, x = .ok v ∧ f v = .ok r := by
  cases x with
  | error e => cases h
  | ok v => exact ⟨v, rfl, h⟩

/-- a guard that can only raise does not change what a successful run returns -/
theorem guard_bind_ok {ε α β : Type} {c : Prop} [Decidable c] {x : Except ε α} {k : Except ε β} {r : β}
    (h : (if c then x.bind fun _ => k else k) = .ok r) : k = .ok r := by
  split at h
  · obtain ⟨_, -, h⟩ := bind_ok h
    exact h
  · exact h

/-- batches zipped from views of storages `≥ n` only refer to storages `≥ n` -/
theorem storage_zipRef2 (n i j l₁ l₂ B₁ B₂ : Nat) (hi : n ≤ i) (hj : n ≤ j) :
    ∀ r ∈ zipRef2 (viewsOf i l₁ B₁) (viewsOf j l₂ B₂),
      n ≤ r.pos.storage ∧ n ≤ r.neg.storage ∧ ∀ v, r.bases = some v → n ≤ v.storage := by
  intro r hr
  obtain ⟨h1, h2, h3⟩ := mem_zipRef2 hr
  rw [mem_viewsOf h1, mem_viewsOf h2, h3]
  exact ⟨hi, hj, fun v hv => nomatch hv⟩

theorem storage_zipRef3 (n i j k l₁ l₂ l₃ B₁ B₂ B₃ : Nat) (hi : n ≤ i) (hj : n ≤ j) (hk : n ≤ k) :
    ∀ r ∈ zipRef3 (viewsOf i l₁ B₁) (viewsOf j l₂ B₂) (viewsOf k l₃ B₃),
      n ≤ r.pos.storage ∧ n ≤ r.neg.storage ∧ ∀ v, r.bases = some v → n ≤ v.storage := by
  intro r hr
  obtain ⟨h1, h2, w, h3, h4⟩ := mem_zipRef3 hr
  rw [mem_viewsOf h1, mem_viewsOf h2, h4]
  exact ⟨hi, hj, fun v hv => by cases hv; rw [mem_viewsOf h3]; exact hk⟩
/-! ### closed form of `shuffleData` on valid inputs -/
section closed
variable {ρ : Type}

/-- no bases, `neg_batch_size == pos_batch_size`: the negative batches mirror the positive ones; no `randint` -/
theorem shuffleData_mirror (perm negIdx : List Nat) (B nb : Nat) (samples z : List ρ) (hB : 1 ≤ B)
    (hperm : ∀ i ∈ perm, i < samples.length) :
    ∃ sp, Rows samples perm sp ∧
      shuffleData perm negIdx B B nb samples none z =
        .ok { batches := zip2 (slices B sp) (slices B sp), randint := none } := by
  obtain ⟨sp, hsp⟩ := takeRows_exists samples perm hperm
  refine ⟨sp, (takeRows_ok_iff _ _ _).mp hsp, ?_⟩
  simp [shuffleData, hsp, sliceBatches_eq B sp hB, bind, Except.bind, pure, Except.pure]

/-- no bases, different negative batch size: negative rows are drawn by `randint` over all `N` rows -/
theorem shuffleData_randint (perm negIdx : List Nat) (posB negB nb : Nat) (samples z : List ρ)
    (hne : negB ≠ posB) (hB : 1 ≤ posB) (hnB : 1 ≤ negB) (hN : 1 ≤ samples.length)
    (hperm : ∀ i ∈ perm, i < samples.length) (hneg : ∀ i ∈ negIdx, i < samples.length) :
    ∃ sp sn, Rows samples perm sp ∧ Rows samples negIdx sn ∧
      shuffleData perm negIdx posB negB nb samples none z =
        .ok { batches := zip2 (slices posB sp) (slices negB sn), randint := some (samples.length, nb * negB) } := by
  obtain ⟨sp, hsp⟩ := takeRows_exists samples perm hperm
  obtain ⟨sn, hsn⟩ := takeRows_exists samples negIdx hneg
  refine ⟨sp, sn, (takeRows_ok_iff _ _ _).mp hsp, (takeRows_ok_iff _ _ _).mp hsn, ?_⟩
  have h0 : samples.length ≠ 0 := by omega
  simp [shuffleData, hsp, hsn, hne, randintReq, h0, sliceBatches_eq posB sp hB, sliceBatches_eq negB sn hnB,
    bind, Except.bind, pure, Except.pure]

/-- with bases: negative rows are drawn by `randint` over the reference-basis rows; bases are indexed by the
same permutation as the samples -/
theorem shuffleData_bases (perm negIdx : List Nat) (posB negB nb : Nat) (samples z : List ρ)
    (bs : List (List String)) (hB : 1 ≤ posB) (hnB : 1 ≤ negB) (hz : 1 ≤ z.length)
    (hperm : ∀ i ∈ perm, i < samples.length) (hplen : perm.length = samples.length)
    (hpermb : ∀ i ∈ perm, i < bs.length) (hneg : ∀ i ∈ negIdx, i < z.length) :
    ∃ sp sn sb, Rows samples perm sp ∧ Rows z negIdx sn ∧ Rows bs perm sb ∧
      shuffleData perm negIdx posB negB nb samples (some bs) z =
        .ok { batches := zip3 (slices posB sp) (slices negB sn) (slices posB sb),
              randint := some (z.length, nb * negB) } := by
  obtain ⟨sp, hsp⟩ := takeRows_exists samples perm hperm
  obtain ⟨sn, hsn⟩ := takeRows_exists z negIdx hneg
  obtain ⟨sb, hsb⟩ := takeRows_exists bs perm hpermb
  refine ⟨sp, sn, sb, (takeRows_ok_iff _ _ _).mp hsp, (takeRows_ok_iff _ _ _).mp hsn,
    (takeRows_ok_iff _ _ _).mp hsb, ?_⟩
  have h0 : z.length ≠ 0 := by omega
  -- the code slices the bases over `range(0, len(train_samples), …)`; `sb` has as many rows as the samples
  have hsbl : sb.length = samples.length := by rw [((takeRows_ok_iff _ _ _).mp hsb).length, hplen]
  simp [shuffleData, hsp, hsn, hsb, randintReq, h0, sliceBatches_eq posB sp hB, sliceBatches_eq negB sn hnB,
    bind, Except.bind, pure, Except.pure, slices, hsbl]
end closed

end QV.Batching
