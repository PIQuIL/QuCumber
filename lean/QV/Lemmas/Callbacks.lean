/-
QV.Lemmas.Callbacks — helper lemmas about the Python-glue primitives of QV.Model.Callbacks
(`gate`, `pyIndex`, `mapE`, `fmtJoin`, `runWith`, dict lookups). Used by QV.Props.C17 and QV.Props.C18.
-/
import Mathlib.Data.List.Nodup
import Mathlib.Data.Int.Basic
import QV.Model.Callbacks

namespace QV.Cb

theorem gate_pos {p : Int} (hp : 1 ≤ p) (e : Int) : gate e p = .ok (decide (p ∣ e)) := by
  have hp0 : p ≠ 0 := by omega
  have h1 : Int.fmod e p = e % p := Int.fmod_eq_emod_of_nonneg e (by omega)
  simp only [gate, pyMod, hp0, if_false, h1]
  congr 1
  by_cases h : p ∣ e
  · have := Int.dvd_iff_emod_eq_zero.mp h
    simp [h, this]
  · have : e % p ≠ 0 := fun h0 => h (Int.dvd_iff_emod_eq_zero.mpr h0)
    simp [h, this]

theorem gate_of_dvd {p e : Int} (hp : 1 ≤ p) (h : p ∣ e) : gate e p = .ok true := by
  rw [gate_pos hp, decide_eq_true h]

theorem gate_of_not_dvd {p e : Int} (hp : 1 ≤ p) (h : ¬ p ∣ e) : gate e p = .ok false := by
  rw [gate_pos hp, decide_eq_false h]

theorem gate_zero (e : Int) : gate e 0 = .error .ZeroDivisionError := by
  simp [gate, pyMod]

theorem pyIndex_nonneg {α : Type} (l : List α) (k : Nat) (hk : k < l.length) :
    pyIndex l (k : Int) = .ok l[k] := by
  have h1 : ¬ ((k : Int) < 0) := by omega
  simp [pyIndex, h1, hk]

theorem pyIndex_neg {α : Type} (l : List α) (k : Nat) (hk : k < l.length) :
    pyIndex l ((k : Int) - l.length) = .ok l[k] := by
  have h1 : ((k : Int) - l.length < 0) := by omega
  have h2 : ((k : Int) - l.length + l.length) = k := by omega
  simp [pyIndex, h1, h2, hk]

theorem pyIndex_out {α : Type} (l : List α) (i : Int) (h : (l.length : Int) ≤ i ∨ i < -(l.length : Int)) :
    pyIndex l i = .error .IndexError := by
  unfold pyIndex
  rcases h with h | h
  · have h1 : ¬ (i < 0) := by omega
    have h3 : l.length ≤ i.toNat := by omega
    simp [h1, List.getElem?_eq_none h3]
  · have h1 : i < 0 := by omega
    have h2 : i + (l.length : Int) < 0 := by omega
    simp [h1, h2]

theorem mapE_ok {α β : Type} (f : α → Except PyErr β) (g : α → β) :
    ∀ (l : List α), (∀ a ∈ l, f a = .ok (g a)) → mapE f l = .ok (l.map g)
  | [], _ => rfl
  | a :: rest, h => by
    have ha := h a (by simp)
    have hr := mapE_ok f g rest (fun b hb => h b (by simp [hb]))
    simp [mapE, ha, hr]

theorem mapE_error_head {α β : Type} (f : α → Except PyErr β) (a : α) (rest : List α) (err : PyErr)
    (h : f a = .error err) : mapE f (a :: rest) = .error err := by
  simp [mapE, h]

/-! ### verbose printing: formatting succeeds when every value is formattable, fails when one is not -/

theorem fmtJoin_ok {V : Type} (fmt : V → Except PyErr String) (mid : String) :
    ∀ (d : Dict String V), (∀ kv ∈ d, ∃ t, fmt kv.2 = .ok t) → ∃ line, fmtJoin fmt mid d = .ok line := by
  intro d h
  have : ∃ parts, mapE (fmtItem fmt mid) d = .ok parts := by
    induction d with
    | nil => exact ⟨[], rfl⟩
    | cons a rest ih =>
      obtain ⟨t, ht⟩ := h a (by simp)
      obtain ⟨ps, hps⟩ := ih (fun kv hkv => h kv (by simp [hkv]))
      exact ⟨(a.1 ++ mid ++ t) :: ps, by simp [mapE, fmtItem, ht, hps]⟩
  obtain ⟨parts, hp⟩ := this
  exact ⟨joinWith "\t" parts, by simp [fmtJoin, hp]⟩

theorem fmtJoin_error {V : Type} (fmt : V → Except PyErr String) (mid : String) :
    ∀ (d : Dict String V), (∃ kv ∈ d, ∃ e, fmt kv.2 = .error e) → ∃ err, fmtJoin fmt mid d = .error err := by
  intro d h
  have : ∃ err, mapE (fmtItem fmt mid) d = .error err := by
    induction d with
    | nil => obtain ⟨kv, hkv, _⟩ := h; simp at hkv
    | cons a rest ih =>
      cases ha : fmt a.2 with
      | error e => exact ⟨e, by simp [mapE, fmtItem, ha]⟩
      | ok t =>
        obtain ⟨kv, hkv, e, he⟩ := h
        have hin : kv ∈ rest := by
          rcases List.mem_cons.mp hkv with rfl | h'
          · rw [ha] at he; cases he
          · exact h'
        obtain ⟨err, herr⟩ := ih ⟨kv, hin, e, he⟩
        exact ⟨err, by simp [mapE, fmtItem, ha, herr]⟩
  obtain ⟨err, hp⟩ := this
  exact ⟨err, by simp [fmtJoin, hp]⟩

theorem verboseBody_ok {V : Type} (fmt : V → Except PyErr String) :
    ∀ (last : Dict String (Dict String V)), (∀ od ∈ last, ∀ kv ∈ od.2, ∃ t, fmt kv.2 = .ok t) →
      ∃ body, ObservableEvaluator.verboseBody fmt last = .ok body := by
  intro last h
  have : ∃ parts, mapE (ObservableEvaluator.verboseItem fmt) last = .ok parts := by
    induction last with
    | nil => exact ⟨[], rfl⟩
    | cons a rest ih =>
      obtain ⟨t, ht⟩ := fmtJoin_ok fmt ": " a.2 (h a (by simp))
      obtain ⟨ps, hps⟩ := ih (fun od hod => h od (by simp [hod]))
      exact ⟨("  " ++ a.1 ++ ":\n    " ++ t) :: ps, by simp [mapE, ObservableEvaluator.verboseItem, ht, hps]⟩
  obtain ⟨parts, hp⟩ := this
  exact ⟨joinWith "\n" parts, by simp [ObservableEvaluator.verboseBody, hp]⟩

/-! ### running a machine over a stream; dict lookups -/

theorem runWith_append {S E : Type} (step : S → E → Except PyErr S) (s : S) (a b : List E) :
    runWith step s (a ++ b) = (match runWith step s a with
      | .ok s' => runWith step s' b
      | .error e => .error e) := by
  induction a generalizing s with
  | nil => rfl
  | cons ev rest ih =>
    simp only [List.cons_append, runWith]
    cases step s ev with
    | error e => rfl
    | ok s' => exact ih s'

theorem runWith_ok {S E : Type} (upd : S → E → S) (s : S) (l : List E) :
    runWith (fun s x => .ok (upd s x)) s l = .ok (l.foldl upd s) := by
  induction l generalizing s with
  | nil => rfl
  | cons x l ih => exact ih _

theorem foldl_concat_map {α β : Type} (f : α → β) (l : List α) (init : List β) :
    l.foldl (fun acc x => acc ++ [f x]) init = init ++ l.map f := by
  induction l generalizing init with
  | nil => simp
  | cons x l ih => simp [ih]

theorem lookup_none_of_not_mem {K V : Type} [BEq K] [LawfulBEq K] {l : List (K × V)} {k : K}
    (h : k ∉ l.map Prod.fst) : l.lookup k = none :=
  List.lookup_eq_none_iff.mpr fun _ hp => bne_iff_ne.mpr fun hk => h (hk ▸ List.mem_map_of_mem hp)

theorem lookup_append_cons_self {K V : Type} [BEq K] [LawfulBEq K] (k : K) (v : V) (l₁ l₂ : List (K × V))
    (h : k ∉ l₁.map Prod.fst) : (l₁ ++ (k, v) :: l₂).lookup k = some v := by
  rw [List.lookup_append, lookup_none_of_not_mem h, List.lookup_cons_self]; rfl

theorem lookup_of_mem_nodup {K V : Type} [BEq K] [LawfulBEq K] {l : List (K × V)} (hnd : (l.map Prod.fst).Nodup)
    {k : K} {v : V} (h : (k, v) ∈ l) : l.lookup k = some v := by
  obtain ⟨l₁, l₂, rfl⟩ := List.append_of_mem h
  rw [List.map_append, List.map_cons, List.nodup_middle, List.nodup_cons] at hnd
  exact lookup_append_cons_self k v l₁ l₂ fun hk => hnd.1 (List.mem_append_left _ hk)

theorem mem_of_lookup_eq_some {K V : Type} [BEq K] [LawfulBEq K] {l : List (K × V)} {k : K} {v : V}
    (h : l.lookup k = some v) : (k, v) ∈ l := by
  obtain ⟨l₁, l₂, rfl, _⟩ := List.lookup_eq_some_iff.mp h
  exact List.mem_append_right _ List.mem_cons_self

theorem lookup_eq_some_iff_mem {K V : Type} [BEq K] [LawfulBEq K] {l : List (K × V)} (hnd : (l.map Prod.fst).Nodup)
    {k : K} {v : V} : l.lookup k = some v ↔ (k, v) ∈ l :=
  ⟨mem_of_lookup_eq_some, lookup_of_mem_nodup hnd⟩

theorem map_lookup_keys {K V : Type} [BEq K] [LawfulBEq K] {l : List (K × V)} (hnd : (l.map Prod.fst).Nodup) (d : V) :
    (l.map Prod.fst).map (fun k => (l.lookup k).getD d) = l.map Prod.snd := by
  rw [List.map_map]
  exact List.map_congr_left fun kv hkv => by simp [lookup_of_mem_nodup hnd (show (kv.1, kv.2) ∈ l from hkv)]

theorem getItem_of_mem_nodup {K V : Type} [BEq K] [LawfulBEq K] {d : Dict K V} (hnd : d.keys.Nodup)
    {k : K} {v : V} (h : (k, v) ∈ d) : d.getItem k = .ok v := by
  simp [Dict.getItem, lookup_of_mem_nodup hnd h]

theorem getItem_of_not_mem {K V : Type} [BEq K] [LawfulBEq K] {d : Dict K V} {k : K} (h : k ∉ d.keys) :
    d.getItem k = .error .KeyError := by
  simp [Dict.getItem, lookup_none_of_not_mem h]

end QV.Cb
