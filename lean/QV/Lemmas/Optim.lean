/-
QV.Lemmas.Optim — `ZeroFixed`: a coordinate that is zero and receives zero gradients is a fixed point of an update
rule (whatever hyper-parameters each step uses); instances for the seven torch rules of `QV.Model.Optim`.
-/
import Mathlib.Algebra.Field.Basic
import QV.Lemmas.PhaseAux
import QV.Model.Optim

namespace QV.Optim
open QV QV.PhaseAux

/-- `step_zero` quantifies over the hyper-parameters `c` of each step separately, so the invariant survives
hyper-parameters that change between steps (a learning-rate scheduler). `Inv` may constrain more of the optimizer
state than the parameter: the momentum-like buffers must be `0` too, the accumulators are free. -/
structure ZeroFixed {α κ σ : Type} [Zero α] (r : Rule α κ σ) (Inv : σ → Prop) : Prop where
  param_zero : ∀ s, Inv s → r.param s = 0
  step_zero : ∀ c s, Inv s → Inv (r.step c s 0)

variable {α κ σ : Type}

theorem ZeroFixed.run_zero [Zero α] {r : Rule α κ σ} {Inv : σ → Prop} (h : ZeroFixed r Inv)
    (cgs : List (κ × α)) (hg : ∀ cg ∈ cgs, cg.2 = 0) (s : σ) (hs : Inv s) : r.param (r.run s cgs) = 0 :=
  h.param_zero _ (foldl_invariant _ Inv (·.2 = 0)
    (fun s cg hs (h0 : cg.2 = 0) => by rw [h0]; exact h.step_zero cg.1 s hs) cgs hg s hs)

/-- what a callback called after each batch sees -/
theorem ZeroFixed.trace_zero [Zero α] {r : Rule α κ σ} {Inv : σ → Prop} (h : ZeroFixed r Inv)
    (cgs : List (κ × α)) (hg : ∀ cg ∈ cgs, cg.2 = 0) (s : σ) (hs : Inv s) : ∀ x ∈ r.trace s cgs, x = 0 := by
  induction cgs generalizing s with
  | nil => exact fun x hx => absurd hx List.not_mem_nil
  | cons cg rest ih =>
    have hstep : Inv (r.step cg.1 s cg.2) := hg cg List.mem_cons_self ▸ h.step_zero cg.1 s hs
    intro x hx
    rcases List.mem_cons.1 hx with rfl | hx
    · exact h.param_zero _ hstep
    · exact ih (fun y hy => hg y (List.mem_cons_of_mem _ hy)) _ hstep x hx

theorem trace_length (r : Rule α κ σ) (s : σ) (cgs : List (κ × α)) : (r.trace s cgs).length = cgs.length := by
  induction cgs generalizing s with
  | nil => rfl
  | cons cg rest ih => simp only [Rule.trace, List.length_cons, ih]

/-! In every rule below the step is taken with parameter `0`, zero momentum-like buffers and gradient `0`: the
gradient stays `0` under sign change and weight decay, and every summand of the update is a product with `0`. -/
section rules
variable {α : Type} [Field α]

theorem signed_zero (b : Bool) : signed b (0 : α) = 0 := by cases b <;> simp [signed]

theorem zeroFixed_sgd :
    ZeroFixed (sgdRule (α := α)) (fun s => s.p = 0 ∧ (s.buf = none ∨ s.buf = some 0)) where
  param_zero := fun _ hs => hs.1
  step_zero := fun c s hs => by
    simp only [sgdRule, signed_zero]
    exact sgdStep_zero c.base s hs.1 hs.2

variable [Transc α]

theorem zeroFixed_adam : ZeroFixed (adamRule (α := α)) (fun s => s.p = 0 ∧ s.m = 0) where
  param_zero := fun _ hs => hs.1
  step_zero := fun c s hs => by
    simp only [adamRule, adamXStep, signed_zero, hs.1, hs.2, mul_zero, zero_mul, add_zero, ite_self, sub_zero,
      zero_div, and_self]

theorem zeroFixed_adadelta : ZeroFixed (adadeltaRule (α := α)) (fun s => s.p = 0) where
  param_zero := fun _ hs => hs
  step_zero := fun c s hs => by
    simp only [adadeltaRule, adadeltaStep, signed_zero, hs, mul_zero, add_zero, ite_self]

theorem zeroFixed_adagrad : ZeroFixed (adagradRule (α := α)) (fun s => s.p = 0) where
  param_zero := fun _ hs => hs
  step_zero := fun c s hs => by
    simp only [adagradRule, adagradStep, signed_zero, hs, mul_zero, add_zero, ite_self, zero_div]

theorem zeroFixed_rmsprop : ZeroFixed (rmspropRule (α := α)) (fun s => s.p = 0 ∧ s.buf = 0) where
  param_zero := fun _ hs => hs.1
  step_zero := fun c s hs => by
    simp only [rmspropRule, rmspropStep, signed_zero, hs.1, hs.2, mul_zero, zero_mul, add_zero, ite_self, zero_div,
      and_self]

theorem zeroFixed_adamax : ZeroFixed (adamaxRule (α := α)) (fun s => s.p = 0 ∧ s.m = 0) where
  param_zero := fun _ hs => hs.1
  step_zero := fun c s hs => by
    simp only [adamaxRule, adamaxStep, signed_zero, hs.1, hs.2, mul_zero, add_zero, ite_self, sub_zero, zero_div,
      and_self]

theorem zeroFixed_nadam : ZeroFixed (nadamRule (α := α)) (fun s => s.p = 0 ∧ s.m = 0) where
  param_zero := fun _ hs => hs.1
  step_zero := fun c s hs => by
    simp only [nadamRule, nadamStep, signed_zero, hs.1, hs.2, mul_zero, zero_mul, add_zero, ite_self, sub_zero,
      zero_div, and_self]

end rules
end QV.Optim
