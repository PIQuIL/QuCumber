/-
QV.Lemmas.Metrics — helper lemmas for C10: the pair-complex kernel vs `ℂ`, `absSq`, `innerProd`, the clamp,
list sums, linearity of the model's rotations in the state, `basisIndex` and `row` are inverse to each other,
grouping of samples by basis, the accumulation loops of `KL` / `NLL` (equal inputs, `Kind` of the result), `ε = 2⁻⁵²`, the
one-site instance of the non-vacuity examples.
-/
import Mathlib.Analysis.SpecialFunctions.Log.Basic
import Mathlib.Analysis.SpecialFunctions.Sqrt
import Mathlib.Analysis.Complex.Basic
import Mathlib.Algebra.BigOperators.Fin
import Mathlib.Algebra.BigOperators.Field
import Mathlib.Tactic.IntervalCases
import QV.Model.Metrics
import QV.Real
import QV.Lemmas.Cplx
import QV.Lemmas.Hilbert

namespace QV
namespace C10L
open Finset Metrics

def toC (z : C ℝ) : ℂ := ⟨z.1, z.2⟩

@[simp] theorem toC_re (z : C ℝ) : (toC z).re = z.1 := rfl
@[simp] theorem toC_im (z : C ℝ) : (toC z).im = z.2 := rfl

/-- the same decoding as `QV.toC` of Lemmas/Cplx, whose lemmas transfer -/
theorem toC_eq (z : C ℝ) : toC z = QV.toC z := rfl

theorem toC_mul (x y : C ℝ) : toC (C.mul x y) = toC x * toC y := QV.toC_mul x y

theorem toC_conj (x : C ℝ) : toC (C.conj x) = (starRingEnd ℂ) (toC x) := QV.toC_conj x

theorem toC_one : toC (C.one : C ℝ) = 1 := QV.toC_one

theorem toC_inj {x y : C ℝ} (h : toC x = toC y) : x = y := QV.toC_injective h

theorem normSq_toC (z : C ℝ) : Complex.normSq (toC z) = z.1 ^ 2 + z.2 ^ 2 :=
  (Complex.normSq_mk _ _).trans (by ring)

/-- `|z|² = (√(re² + im²))²` as the code computes it is the squared modulus -/
theorem absSq_eq (z : C ℝ) : absSq z = Complex.normSq (toC z) := by
  have h : 0 ≤ z.1 * z.1 - z.2 * -z.2 := by
    rw [mul_neg, sub_neg_eq_add]
    exact add_nonneg (mul_self_nonneg _) (mul_self_nonneg _)
  simp only [absSq, absVal, C.mul, C.conj, transc_sqrt]
  rw [Real.mul_self_sqrt h, normSq_toC]; ring

theorem absSq_nonneg (z : C ℝ) : 0 ≤ absSq z := by
  rw [absSq_eq]; exact Complex.normSq_nonneg _

theorem innerProd_eq (N : ℕ) (x y : ℕ → C ℝ) :
    toC (innerProd N x y) = ∑ k : Fin N, (starRingEnd ℂ) (toC (x k.val)) * toC (y k.val) := by
  apply Complex.ext
  · simp only [innerProd, toC_re, sumFin_eq, Complex.re_sum, Complex.mul_re, Complex.conj_re, Complex.conj_im,
      toC_im, ← Finset.sum_add_distrib]
    refine Finset.sum_congr rfl (fun k _ => ?_); ring
  · simp only [innerProd, toC_im, sumFin_eq, Complex.im_sum, Complex.mul_im, Complex.conj_re, Complex.conj_im,
      toC_re, ← Finset.sum_sub_distrib]
    refine Finset.sum_congr rfl (fun k _ => ?_); ring

/-! ### clamp and logits -/

theorem clampProbs_of_mem {eps x : ℝ} (h1 : eps ≤ x) (h2 : x ≤ 1 - eps) : clampProbs eps x = x := by
  simp only [clampProbs, transc_min, transc_max]
  rw [max_eq_left h1, min_eq_left h2]

theorem probsToLogits_of_mem {eps x : ℝ} (h1 : eps ≤ x) (h2 : x ≤ 1 - eps) :
    probsToLogits eps x = Real.log x := by
  simp [probsToLogits, clampProbs_of_mem h1 h2]

/-! ### list sums -/

theorem foldl_sub_list {β : Type} (f : β → ℝ) (l : List β) (a : ℝ) :
    l.foldl (fun acc x => acc - f x) a = a - (l.map f).sum := by
  induction l generalizing a with
  | nil => simp
  | cons x xs ih => simp [List.foldl_cons, ih]; ring

@[simp] theorem sumList_eq (l : List ℝ) : sumList l = l.sum := List.sum_eq_foldl.symm

theorem fidelityMixed_eq (eig : List (C ℝ)) : fidelityMixed eig = ((eig.map (fun l => √|l.1|)).sum) ^ 2 := by
  simp only [fidelityMixed, sumList_eq, transc_sqrt, transc_abs, sq]

/-! ### division by a real scalar; linearity of the model's rotations in the state -/

theorem div_eq_smul_inv (z : C ℝ) (s : ℝ) : ((z.1 / s, z.2 / s) : C ℝ) = C.smul s⁻¹ z := by
  apply Prod.ext <;> simp [C.smul, div_eq_inv_mul]

theorem toC_smul (c : ℝ) (z : C ℝ) : toC (C.smul c z) = (c : ℂ) * toC z := QV.toC_smul c z

theorem toC_div (z : C ℝ) (s : ℝ) : toC (z.1 / s, z.2 / s) = ((s⁻¹ : ℝ) : ℂ) * toC z := by
  rw [div_eq_smul_inv, toC_smul]

theorem inv_sqrt_sq {Z : ℝ} (hZ : 0 ≤ Z) : (√Z)⁻¹ ^ 2 = Z⁻¹ := by
  rw [inv_pow, Real.sq_sqrt hZ]

theorem normSq_toC_div_sqrt {Z : ℝ} (hZ : 0 ≤ Z) (z : C ℝ) :
    Complex.normSq (toC (z.1 / √Z, z.2 / √Z)) = Complex.normSq (toC z) / Z := by
  rw [toC_div, Complex.normSq_mul, Complex.normSq_ofReal, ← sq, inv_sqrt_sq hZ, inv_mul_eq_div]

theorem foldr_rel {β : Type} (R : β → β → Prop) :
    ∀ (n : ℕ) (f : Fin n → β → β), (∀ s y y', R y y' → R (f s y) (f s y')) →
      ∀ x x', R x x' → R (Fin.foldr n f x) (Fin.foldr n f x') := by
  intro n
  induction n with
  | zero => intro f _ x x' h; simpa [Fin.foldr_zero] using h
  | succ k ih =>
    intro f hf x x' h
    rw [Fin.foldr_succ, Fin.foldr_succ]
    exact hf 0 _ _ (ih (fun i => f i.succ) (fun s y y' hy => hf s.succ y y' hy) x x' h)

theorem cmul_smul (c : ℝ) (m z : C ℝ) : C.mul m (C.smul c z) = C.smul c (C.mul m z) := by
  apply Prod.ext <;> simp only [C.mul, C.smul] <;> ring

theorem stage_smul (c : ℝ) (m : M2 ℝ) (r : ℕ) (y : ℕ → C ℝ) :
    Unitaries.stage C.add C.mul m r (fun k => C.smul c (y k))
      = fun k => C.smul c (Unitaries.stage C.add C.mul m r y k) := by
  funext idx
  simp only [Unitaries.stage, cmul_smul]
  exact (Prod.ext (mul_add ..) (mul_add ..)).symm

/-- The `_kron_mult` sweep is a `Fin.foldr` of one `stage` per site; `foldr_rel` carries the relation "the second vector
is `c` times the first" through it, each stage preserving it by `stage_smul`. -/
theorem rotatePsi_smul (n : ℕ) (us : Fin n → M2 ℝ) (c : ℝ) (v : ℕ → C ℝ) :
    Unitaries.rotatePsi n us (fun k => C.smul c (v k)) = fun k => C.smul c (Unitaries.rotatePsi n us v k) := by
  unfold Unitaries.rotatePsi Unitaries.kronMult
  refine foldr_rel (fun (y y' : ℕ → C ℝ) => y' = fun k => C.smul c (y k)) n _ ?_ v _ rfl
  intro s y y' hy
  subst hy
  exact stage_smul c _ _ y

theorem rotatePsi_div (n : ℕ) (us : Fin n → M2 ℝ) (s : ℝ) (v : ℕ → C ℝ) :
    Unitaries.rotatePsi n us (fun k => ((v k).1 / s, (v k).2 / s))
      = fun k => ((Unitaries.rotatePsi n us v k).1 / s, (Unitaries.rotatePsi n us v k).2 / s) := by
  simp only [div_eq_smul_inv, rotatePsi_smul]

theorem rotateRhoProbs_smul (n : ℕ) (us : Fin n → M2 ℝ) (rot : Fin n → Bool) (c : ℝ)
    (rho : (Fin n → Bool) → (Fin n → Bool) → C ℝ) (σ : Fin n → Bool) :
    Unitaries.rotateRhoProbs n us rot (fun a b => C.smul c (rho a b)) σ
      = c * Unitaries.rotateRhoProbs n us rot rho σ := by
  simp only [Unitaries.rotateRhoProbs, sumFin_eq, Finset.mul_sum, cmul_smul, mul_ite, mul_zero]
  rfl

/-! ### `_convert_basis_element_to_index` inverts the rows of the generated Hilbert space -/

theorem basisIndex_lt {n : ℕ} (σ : Fin n → Bool) : basisIndex σ < 2 ^ n :=
  basisIndex_eq_sum σ ▸ idxOf_lt σ

theorem row_basisIndex (n : ℕ) (σ : Fin n → Bool) : Metrics.row n (basisIndex σ) = σ :=
  basisIndex_eq_sum σ ▸ rowBits_idxOf σ

theorem basisIndex_row {n : ℕ} (k : ℕ) (hk : k < 2 ^ n) : basisIndex (Metrics.row n k) = k :=
  (basisIndex_eq_sum _).trans ((idxOf_rowBits n k).trans (Nat.mod_eq_of_lt hk))

/-! ### grouping samples by basis -/

/-- The `for i in range(unique_bases.shape[0])` loop of `NLL` with its masks `indices == i`: summing group by group over
a duplicate-free list of keys that covers the samples is summing over the samples. -/
theorem sum_groups {K S : Type} [DecidableEq K] (g : K → S → ℝ) (keys : List K) (hn : keys.Nodup) :
    ∀ (samples : List (K × S)), (∀ s ∈ samples, s.1 ∈ keys) →
    (keys.map (fun key => ((samples.filter (fun s => decide (s.1 = key))).map (fun s => g key s.2)).sum)).sum
      = (samples.map (fun s => g s.1 s.2)).sum := by
  intro samples hmem
  rw [← sum_groups_of samples Prod.fst (fun s => g s.1 s.2) keys hn hmem]
  refine congrArg List.sum (List.map_congr_left fun key _ => congrArg List.sum ?_)
  exact List.map_congr_left fun s hs => by rw [of_decide_eq_true (List.mem_filter.mp hs).2]

theorem perm_orderedInsert {n : ℕ} (k : Basis n) (l : List (Basis n)) :
    (orderedInsert k l).Perm (k :: l) := by
  induction l with
  | nil => simp [orderedInsert]
  | cons x xs ih =>
    simp only [orderedInsert]
    split_ifs
    · exact List.Perm.refl _
    · exact (List.Perm.cons x ih).trans (List.Perm.swap k x xs)

theorem mem_uniqueSorted_step {n : ℕ} (acc : List (Basis n)) (k x : Basis n) :
    x ∈ (if acc.contains k then acc else orderedInsert k acc) ↔ x = k ∨ x ∈ acc := by
  split_ifs with h
  · rw [List.contains_iff_mem] at h
    exact ⟨Or.inr, fun hx => hx.elim (fun e => e ▸ h) id⟩
  · rw [(perm_orderedInsert k acc).mem_iff, List.mem_cons]

theorem nodup_uniqueSorted_step {n : ℕ} {acc : List (Basis n)} (k : Basis n) (hn : acc.Nodup) :
    (if acc.contains k then acc else orderedInsert k acc).Nodup := by
  split_ifs with h
  · exact hn
  · rw [List.contains_iff_mem] at h
    exact (perm_orderedInsert k acc).nodup_iff.mpr (List.nodup_cons.mpr ⟨h, hn⟩)

theorem uniqueSorted_nodup {n : ℕ} (ks : List (Basis n)) : (uniqueSorted ks).Nodup := by
  suffices h : ∀ acc : List (Basis n), acc.Nodup →
      (ks.foldl (fun acc k => if acc.contains k then acc else orderedInsert k acc) acc).Nodup from h [] List.nodup_nil
  induction ks with
  | nil => exact fun _ h => h
  | cons k ks ih => exact fun acc h => ih _ (nodup_uniqueSorted_step k h)

theorem mem_uniqueSorted {n : ℕ} (ks : List (Basis n)) (x : Basis n) : x ∈ uniqueSorted ks ↔ x ∈ ks := by
  suffices h : ∀ acc : List (Basis n),
      x ∈ ks.foldl (fun acc k => if acc.contains k then acc else orderedInsert k acc) acc ↔ x ∈ acc ∨ x ∈ ks from
    (h []).trans (by simp)
  induction ks with
  | nil => simp
  | cons k ks ih => intro acc; rw [List.foldl_cons, ih, mem_uniqueSorted_step, List.mem_cons, or_assoc, or_left_comm]

/-! ### the accumulation loops of `KL` / `NLL`: equal inputs, `Kind` of the result; `ε = 2⁻⁵²` -/

/-- inputs that agree on the first `N` entries clamp equally: no guard needed -/
theorem singleBasisKL_of_eq (ε : ℝ) (N : ℕ) (t p : ℕ → ℝ) (h : ∀ k, k < N → t k = p k) :
    singleBasisKL ε N t p = 0 := by
  unfold singleBasisKL
  simp only [sumFin_eq]
  exact sub_eq_zero_of_eq (Finset.sum_congr rfl fun k _ => by rw [h k.val k.isLt])

theorem length_beq_zero {β : Type} {l : List β} (h : l ≠ []) : (l.length == 0) = false :=
  beq_eq_false_iff_ne.mpr fun e => h (List.length_eq_zero_iff.mp e)

theorem kind_fold_tensor {β : Type} (items : List β) (h : items ≠ []) (k0 : Kind) :
    items.foldl (fun k _ => Kind.arith k .tensor) k0 = .tensor := by
  have hstep : ∀ k : Kind, Kind.arith k .tensor = .tensor := by intro k; cases k <;> rfl
  have hall : ∀ (l : List β), l.foldl (fun k _ => Kind.arith k .tensor) .tensor = .tensor := by
    intro l; induction l with
    | nil => rfl
    | cons x xs ih => rw [List.foldl_cons, hstep]; exact ih
  cases items with
  | nil => exact absurd rfl h
  | cons x xs => rw [List.foldl_cons, hstep]; exact hall xs

theorem list_sum_div_nonneg {β : Type} (items : List β) (g : β → ℝ) (h : ∀ it ∈ items, 0 ≤ g it) :
    0 ≤ (items.map g).sum / items.length :=
  div_nonneg (List.sum_nonneg (List.forall_mem_map.mpr h)) (Nat.cast_nonneg _)

/-- `torch.finfo(float64).eps = 2⁻⁵²`, the `ε` of the non-vacuity examples, is far inside `(0, 1/4]` -/
theorem eps52_pos : (0 : ℝ) < (2 : ℝ)⁻¹ ^ 52 := by positivity

theorem eps52_le : (2 : ℝ)⁻¹ ^ 52 ≤ 1 / 4 :=
  (pow_le_pow_of_le_one (by norm_num) (by norm_num) (by norm_num : 2 ≤ 52)).trans_eq (by norm_num)

/-! ### a concrete instance used by the non-vacuity examples of C10: one site, a rational real rotation as the
dictionary entry, a non-real target -/

/-- every letter ↦ the orthogonal matrix `[[3/5, 4/5], [4/5, -3/5]]` -/
noncomputable def exDict : Char → M2 ℝ := fun _ r c => ((if r && c then -(3/5) else if r || c then 4/5 else 3/5), 0)
def exBasis : Basis 1 := ⟨#['X'], rfl⟩
/-- `ψ = (1, 0)` (so `Z = 1`) -/
def exPsi : (Fin 1 → Bool) → C ℝ := fun σ => if σ 0 then (0, 0) else (1, 0)
/-- `t = (0, i)` -/
def exTarget : ℕ → C ℝ := fun k => if k = 0 then (0, 0) else (0, 1)

/-- the `_kron_mult` sweep on one site is a single 2×2 matrix–vector product -/
theorem rotatePsi_one (us : Fin 1 → M2 ℝ) (v : ℕ → C ℝ) :
    Unitaries.rotatePsi 1 us v 0 = C.add (C.mul (us 0 false false) (v 0)) (C.mul (us 0 false true) (v 1)) ∧
    Unitaries.rotatePsi 1 us v 1 = C.add (C.mul (us 0 true false) (v 0)) (C.mul (us 0 true true) (v 1)) :=
  ⟨rfl, rfl⟩

theorem ex_rot_target (k : ℕ) (hk : k < 2) :
    Complex.normSq (toC (Unitaries.rotatePsi 1 (usOf exDict exBasis) exTarget k)) = if k = 0 then 16 / 25 else 9 / 25 := by
  interval_cases k
  · rw [(rotatePsi_one _ _).1]; norm_num [normSq_toC, C.add, C.mul, usOf, exDict, exTarget]
  · rw [(rotatePsi_one _ _).2]; norm_num [normSq_toC, C.add, C.mul, usOf, exDict, exTarget]

theorem ex_rot_psi (k : ℕ) (hk : k < 2) :
    Complex.normSq (toC (Unitaries.rotatePsi 1 (usOf exDict exBasis) (fun k' => exPsi (Metrics.row 1 k')) k))
      = if k = 0 then 9 / 25 else 16 / 25 := by
  interval_cases k
  · rw [(rotatePsi_one _ _).1]; norm_num [normSq_toC, C.add, C.mul, usOf, exDict, exPsi, Metrics.row, spaceBit]
  · rw [(rotatePsi_one _ _).2]; norm_num [normSq_toC, C.add, C.mul, usOf, exDict, exPsi, Metrics.row, spaceBit]

end C10L
end QV
