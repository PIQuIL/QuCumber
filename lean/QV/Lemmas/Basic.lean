/-
QV.Lemmas.Basic — helper lemmas relating the model's folds and stable formulas (`softplus`, `sigmoid`, `logSumExp`) to
Mathlib's `∑`, `∏`, `Real.log (1 + exp x)` etc.; two rearrangements of sums: a sum over a batch regrouped by key
(`sum_groups_of`) and a product of two-term sums expanded over Boolean configurations (`prod_one_add_eq_sum_bool`).
-/
import Mathlib.Algebra.BigOperators.Fin
import Mathlib.Analysis.SpecialFunctions.Log.Basic
import Mathlib.Analysis.SpecialFunctions.Exp
import QV.Real
import QV.Model.Rbm

namespace QV
open Finset

theorem foldl_add_eq {M : Type*} [AddCommMonoid M] (n : ℕ) (f : Fin n → M) (a : M) :
    Fin.foldl n (fun acc i => acc + f i) a = a + ∑ i, f i := by
  induction n generalizing a with
  | zero => simp [Fin.foldl_zero]
  | succ k ih =>
    rw [Fin.foldl_succ, ih, Fin.sum_univ_succ, add_assoc]

@[simp] theorem sumFin_eq {M : Type} [AddCommMonoid M] (n : ℕ) (f : Fin n → M) :
    sumFin n f = ∑ i, f i := by
  rw [sumFin, foldl_add_eq, zero_add]

theorem foldl_add_list {ι M : Type*} [AddCommMonoid M] (l : List ι) (f : ι → M) (a : M) :
    l.foldl (fun acc x => acc + f x) a = a + (l.map f).sum := by
  induction l generalizing a with
  | nil => exact (add_zero a).symm
  | cons x l ih => exact (ih (a + f x)).trans (add_assoc a (f x) _)

theorem sum_map_ite_eq_of_nodup {κ : Type} [BEq κ] [LawfulBEq κ] (L : List κ) (hL : L.Nodup) (a : κ) (ha : a ∈ L) (c : ℝ) :
    (L.map (fun u => if a == u then c else 0)).sum = c := by
  induction L with
  | nil => simp at ha
  | cons x xs ih =>
    rw [List.map_cons, List.sum_cons]
    rcases List.mem_cons.mp ha with rfl | hmem
    · have hx : a ∉ xs := (List.nodup_cons.mp hL).1
      have : (xs.map (fun u => if a == u then c else 0)).sum = 0 := by
        apply List.sum_eq_zero
        intro y hy
        obtain ⟨u, hu, rfl⟩ := List.mem_map.mp hy
        rw [if_neg]; intro hbe; rw [beq_iff_eq] at hbe; subst hbe; exact hx hu
      simp [this]
    · have hne : ¬ (a == x) = true := by
        rw [beq_iff_eq]; rintro rfl; exact (List.nodup_cons.mp hL).1 hmem
      rw [if_neg hne, zero_add]
      exact ih (List.nodup_cons.mp hL).2 hmem

/-- for ANY duplicate-free key list covering the batch: the model's `uniqueBases` (`foldr insert`) as well
as numpy's sorted `np.unique`, whose order only changes the order of accumulation -/
theorem sum_groups_of {ι κ : Type} [BEq κ] [LawfulBEq κ] (D : List ι) (key : ι → κ) (f : ι → ℝ)
    (L : List κ) (hL : L.Nodup) (hcov : ∀ s ∈ D, key s ∈ L) :
    (L.map (fun u => ((D.filter (fun s => key s == u)).map f).sum)).sum = (D.map f).sum := by
  induction D with
  | nil => simp
  | cons s D ih =>
    have hstep : ∀ u, (((s :: D).filter (fun s => key s == u)).map f).sum
        = (if key s == u then f s else 0) + ((D.filter (fun s => key s == u)).map f).sum := by
      intro u
      by_cases hk : (key s == u) = true <;> simp [hk]
    simp only [hstep]
    rw [List.sum_map_add, sum_map_ite_eq_of_nodup L hL (key s) (hcov s List.mem_cons_self),
      ih (fun s' hs' => hcov s' (List.mem_cons_of_mem _ hs')), List.map_cons, List.sum_cons]

theorem foldl_mul_eq {M : Type*} [CommMonoid M] (n : ℕ) (f : Fin n → M) (a : M) :
    Fin.foldl n (fun acc i => acc * f i) a = a * ∏ i, f i := by
  induction n generalizing a with
  | zero => simp [Fin.foldl_zero]
  | succ k ih =>
    rw [Fin.foldl_succ, ih, Fin.prod_univ_succ, mul_assoc]

@[simp] theorem prodFin_eq {M : Type} [CommMonoid M] (n : ℕ) (f : Fin n → M) :
    prodFin n f = ∏ i, f i := by
  rw [prodFin, foldl_mul_eq, one_mul]

theorem prod_one_add_eq_sum_bool {R : Type*} [CommSemiring R] {m : ℕ} (w : Fin m → R) :
    ∏ k, (1 + w k) = ∑ cfg : Fin m → Bool, ∏ k, if cfg k then w k else 1 := by
  have h : ∀ k, 1 + w k = ∑ t : Bool, if t then w k else 1 := fun k => by
    rw [Fintype.sum_bool, add_comm]
    rfl
  simp_rw [h]
  exact Fintype.prod_sum _

@[simp] theorem dot_eq {M : Type} [CommSemiring M] (n : ℕ) (x y : Fin n → M) :
    dot n x y = ∑ j, x j * y j := by rw [dot, sumFin_eq]

@[simp] theorem two_eq : (two : ℝ) = 2 := by norm_num [two]

@[simp] theorem softplus_eq (x : ℝ) : softplus x = Real.log (1 + Real.exp x) := by
  unfold softplus
  simp only [transc_max, transc_log, transc_exp, transc_abs]
  rcases le_total 0 x with hx | hx
  · rw [max_eq_left hx, abs_of_nonneg hx]
    have h1 : (1 : ℝ) + Real.exp x = Real.exp x * (1 + Real.exp (-x)) := by
      rw [mul_add, mul_one, ← Real.exp_add]; simp [add_comm]
    rw [h1, Real.log_mul (Real.exp_pos x).ne' (by positivity), Real.log_exp]
  · rw [max_eq_right hx, abs_of_nonpos hx, neg_neg, zero_add]

theorem RBM.neg_effEnergy_eq {n h : ℕ} (r : RBM ℝ n h) (v : Fin n → ℝ) :
    -(r.effEnergy v) = ∑ j, v j * r.b j + ∑ i, Real.log (1 + Real.exp (r.preact v i)) := by
  simp only [RBM.effEnergy, neg_neg, dot_eq, sumFin_eq, softplus_eq]

theorem sigmoid_eq (x : ℝ) : sigmoid x = 1 / (1 + Real.exp (-x)) := rfl

theorem sigmoid_eq' (x : ℝ) : sigmoid x = Real.exp x / (1 + Real.exp x) := by
  rw [sigmoid_eq, Real.exp_neg]
  have := Real.exp_pos x
  field_simp
  ring

theorem sigmoid_pos (x : ℝ) : 0 < (sigmoid x : ℝ) := by
  rw [sigmoid_eq]; positivity

theorem sigmoid_lt_one (x : ℝ) : (sigmoid x : ℝ) < 1 := by
  rw [sigmoid_eq, div_lt_one (by positivity)]
  linarith [Real.exp_pos (-x)]

/-- over ℝ the `.clamp_(min=0, max=1)` that follows `.sigmoid_()` in every conditional probability
(binary_rbm.py:146, 167; purification_rbm.py:213, 234, 258) is the identity -/
@[simp] theorem clamp01_sigmoid (x : ℝ) : clamp01 (sigmoid x : ℝ) = sigmoid x := by
  unfold clamp01
  simp only [transc_max, transc_min]
  rw [max_eq_left (sigmoid_pos x).le, min_eq_left (sigmoid_lt_one x).le]

theorem one_sub_sigmoid (x : ℝ) : 1 - (sigmoid x : ℝ) = 1 / (1 + Real.exp x) := by
  rw [sigmoid_eq']
  have := Real.exp_pos x
  field_simp; ring

/-- The shift `m` is arbitrary, so `exp_logSumExp` never has to look at the maximum the model shifts by; `hn` makes the
sum positive for `Real.exp_log`. -/
theorem exp_logSumExpShift (n : ℕ) (x : Fin n → ℝ) (m : ℝ) (hn : 0 < n) :
    Real.exp (logSumExpShift n x m) = ∑ i, Real.exp (x i) := by
  unfold logSumExpShift
  simp only [transc_log, transc_exp, sumFin_eq]
  have hpos : 0 < ∑ i, Real.exp (x i - m) := by
    have : Nonempty (Fin n) := ⟨⟨0, hn⟩⟩
    exact Finset.sum_pos (fun i _ => Real.exp_pos _) Finset.univ_nonempty
  rw [Real.exp_add, Real.exp_log hpos, Finset.mul_sum]
  refine Finset.sum_congr rfl (fun i _ => ?_)
  rw [← Real.exp_add]; ring_nf

theorem exp_logSumExp (n : ℕ) (x : Fin n → ℝ) (hn : 0 < n) :
    Real.exp (logSumExp n x) = ∑ i, Real.exp (x i) := by
  cases n with
  | zero => omega
  | succ k => exact exp_logSumExpShift (k+1) x _ hn

end QV
