/-
QV.Lemmas.EarlyStopFit — lemmas about QV.Model.EarlyStop and QV.Model.EarlyStopFit that hold for every scalar type: a loop that
breaks after its first stopping step (`loop_first_stop`, about any such loop), what the stopper's `deviation` and `on_epoch_end` compute, the epoch loops (`fitLoop`, `fitLoopMulti`) in terms of the derived requests
(`stopAsk`, `multiAsk`), and the request oracles `stopperReq` / `multiReq` on the side of `QV.Train.fit` (QV.Lemmas.Train).
No Mathlib needed.
-/
import QV.Model.EarlyStopFit
import QV.Lemmas.Train

namespace QV.Cb
open QV.Train

/-- a loop that runs `step` along a list and breaks after the first step whose result has `stop`: with an invariant `Inv`
indexed by the elements consumed so far, and a step that stops exactly where `P` holds (establishing `Q` there, `Inv` otherwise),
the loop does not raise and either breaks at the FIRST split of the list at which `P` holds, or runs through -/
theorem loop_first_stop {σ β : Type} {step : σ → β → Except PyErr σ} {stop : σ → Bool} {loop : σ → List β → Except PyErr σ}
    (hnil : ∀ s, loop s [] = .ok s)
    (hcons : ∀ s x xs s', step s x = .ok s' → loop s (x :: xs) = if stop s' then .ok s' else loop s' xs)
    {Inv : List β → σ → Prop} {P : List β → β → Prop} {Q : List β → β → σ → Prop}
    (hstep : ∀ pre x s, Inv pre s →
      (P pre x → ∃ s', step s x = .ok s' ∧ stop s' = true ∧ Q pre x s') ∧
      (¬ P pre x → ∃ s', step s x = .ok s' ∧ stop s' = false ∧ Inv (pre ++ [x]) s')) :
    ∀ (cands done : List β) (s : σ), Inv done s →
      ∃ r, loop s cands = .ok r ∧
        ((∃ pre x post, cands = pre ++ x :: post ∧ P (done ++ pre) x ∧
            (∀ pre' x' post', cands = pre' ++ x' :: post' → pre'.length < pre.length → ¬ P (done ++ pre') x') ∧
            Q (done ++ pre) x r) ∨
         ((∀ pre x post, cands = pre ++ x :: post → ¬ P (done ++ pre) x) ∧ Inv (done ++ cands) r)) := by
  intro cands
  induction cands with
  | nil =>
    intro done s hs
    exact ⟨s, hnil s, Or.inr ⟨fun pre x post h => by simp at h, by rwa [List.append_nil]⟩⟩
  | cons y rest ih =>
    intro done s hs
    by_cases hnow : P done y
    · obtain ⟨s', hs', h1, h2⟩ := (hstep done y s hs).1 hnow
      refine ⟨s', by rw [hcons _ _ _ _ hs', h1, if_pos rfl], Or.inl ⟨[], y, rest, rfl, by rwa [List.append_nil], ?_, by rwa [List.append_nil]⟩⟩
      exact fun _ _ _ _ hlt => absurd hlt (Nat.not_lt_zero _)
    · obtain ⟨s', hs', h1, h2⟩ := (hstep done y s hs).2 hnow
      obtain ⟨r, hr, hcases⟩ := ih (done ++ [y]) s' h2
      refine ⟨r, by rw [hcons _ _ _ _ hs', h1]; exact hr, ?_⟩
      simp only [List.append_assoc, List.singleton_append] at hcases
      have hy : ¬ P (done ++ []) y := by rwa [List.append_nil]
      rcases hcases with ⟨pre, x, post, rfl, hst, hearlier, hq⟩ | ⟨hnone, hinv⟩
      · refine Or.inl ⟨y :: pre, x, post, rfl, hst, ?_, hq⟩
        intro pre' x' post' hsplit hlt
        rcases List.cons_eq_append_iff.mp hsplit with ⟨rfl, h2⟩ | ⟨q, rfl, h2⟩
        · cases h2; exact hy
        · exact hearlier q x' post' h2 (Nat.lt_of_succ_lt_succ hlt)
      · refine Or.inr ⟨?_, hinv⟩
        intro pre x post hsplit
        rcases List.cons_eq_append_iff.mp hsplit with ⟨rfl, h2⟩ | ⟨q, rfl, h2⟩
        · cases h2; exact hy
        · exact hnone q x post h2

/-! ### the evaluator along a list of epochs (`evalAfter`) -/

section
variable {W α : Type}

theorem evalAfter_append (ev : AnyEval W α) (wof : Int → W) (l₁ l₂ : List Int) :
    evalAfter ev wof (l₁ ++ l₂) =
      match evalAfter ev wof l₁ with
      | .error err => .error err
      | .ok ev' => evalAfter ev' wof l₂ := by
  induction l₁ generalizing ev with
  | nil => rfl
  | cons e rest ih =>
    simp only [List.cons_append, evalAfter]
    cases ev.onEpochEnd e (wof e) with
    | error err => rfl
    | ok ev' => exact ih ev'

theorem evalAfter_snoc {ev ev₁ ev₂ : AnyEval W α} {wof : Int → W} {l : List Int} {e : Int}
    (h1 : evalAfter ev wof l = .ok ev₁) (h2 : ev₁.onEpochEnd e (wof e) = .ok ev₂) :
    evalAfter ev wof (l ++ [e]) = .ok ev₂ := by
  simp only [evalAfter_append, h1, evalAfter, h2]

/-- on entry to `fit` no epoch of this call has run yet -/
theorem evalAfter_empty_range (ev : AnyEval W α) (wof : Int → W) (a : Int) :
    evalAfter ev wof (epochRange a (a - 1)) = .ok ev := by
  rw [epochRange_rec, if_pos (by omega)]; rfl

end

section
variable {W α : Type} [Sub α] [Div α] [Zero α] [BEq α] [LT α] [DecidableLT α] [Transc α]

/-! ### the stopper's `deviation` and `on_epoch_end` -/

namespace EarlyStopping
variable {es : EarlyStopping α} {ev : AnyEval W α} {ref cur var : Num α}

omit [Div α] [Zero α] [BEq α] [LT α] [DecidableLT α] [Transc α] in
theorem changeInMetric_of_getters (href : ev.value es.quantityName (some (-es.patience - 1)) = .ok ref)
    (hcur : ev.value es.quantityName none = .ok cur) : es.changeInMetric ev = .ok (ref.sub cur) := by
  simp only [changeInMetric, href, hcur]

theorem deviation_of_getters (href : ev.value es.quantityName (some (-es.patience - 1)) = .ok ref)
    (hcur : ev.value es.quantityName none = .ok cur)
    (hvar : es.criterion = .variance → ev.variance es.quantityName (some (-es.patience - 1)) = .ok var) :
    es.deviation ev =
      match es.criterion with
      | .relative => .ok (((ref.sub cur).npDivide ref).map Num.abs)
      | .absolute => .ok (some (ref.sub cur).abs)
      | .variance =>
        match var.npSqrt with
        | none => .ok none
        | some sd => (ref.sub cur).abs.div sd := by
  have hch := changeInMetric_of_getters href hcur
  unfold deviation
  cases hc : es.criterion
  · simp only [relativeChange, hch, href]
  · simp only [absoluteChange, hch]
  · simp only [varianceScaledAbsChange, hch, hvar hc]
    cases var.npSqrt <;> rfl

/-- with at most `patience` evaluations the length gate (`len > patience`) is closed: `on_epoch_end` leaves the state as it was -/
theorem onEpochEnd_of_len_le {es : EarlyStopping α} {ev : AnyEval W α} (hper : es.period ≠ 0)
    (hl : (ev.len : Int) ≤ es.patience) (st : StopState) (e : Int) : es.onEpochEnd ev st e = .ok st := by
  unfold onEpochEnd gate pyMod
  rw [if_neg hper]
  dsimp only
  cases Int.fmod e es.period == 0
  · rfl
  · exact if_neg (Int.not_lt.mpr hl)

/-- `on_epoch_end` only ever WRITES `True` and the epoch (early_stopping.py:153-154), never `False`: so the run from the clear
state `⟨false, none⟩` determines the result from every entry state.  This is what lets the request of an epoch be DEFINED from
the clear state (`stopperAsks`) whatever the flag is when the stopper is dispatched. -/
theorem onEpochEnd_eq_map_clear (es : EarlyStopping α) (ev : AnyEval W α) (st : StopState) (e : Int) :
    es.onEpochEnd ev st e
      = (es.onEpochEnd ev ⟨false, none⟩ e).map (fun s => if s.stop then ⟨true, some e⟩ else st) := by
  unfold onEpochEnd
  cases gate e es.period with
  | error err => rfl
  | ok g =>
    cases g with
    | false => rfl
    | true =>
      dsimp only
      split
      · cases es.deviation ev with
        | error err => rfl
        | ok d =>
          cases d with
          | none => rfl
          | some d => dsimp only; cases belowTol d.x es.tolerance <;> rfl
      · rfl

theorem onEpochEnd_of_deviation {es : EarlyStopping α} {ev : AnyEval W α} {e : Int} {d : Option (Num α)}
    (hg : gate e es.period = .ok true) (hl : (ev.len : Int) > es.patience) (hdev : es.deviation ev = .ok d) (st : StopState) :
    es.onEpochEnd ev st e = .ok (match (generalizing := false) d with
      | some v => if belowTol v.x es.tolerance then ⟨true, some e⟩ else st
      | none => st) := by
  simp only [onEpochEnd, hg, hl, hdev, if_true]
  cases d with
  | none => rfl
  | some v => dsimp only; split <;> rfl

end EarlyStopping

theorem stopper_onEpochEnd_asks {es : EarlyStopping α} {ev : AnyEval W α} {st st' : StopState} {e : Int}
    (h : es.onEpochEnd ev st e = .ok st') :
    st' = if stopperAsks es ev e then ⟨true, some e⟩ else st := by
  rw [EarlyStopping.onEpochEnd_eq_map_clear] at h
  unfold stopperAsks
  cases hc : es.onEpochEnd ev ⟨false, none⟩ e with
  | error err => rw [hc] at h; cases h
  | ok s => rw [hc] at h; exact (Except.ok.inj h).symm

/-! ### one stopper: the loop in terms of `stopAsk` -/

theorem epochEndBoth_asks {es : EarlyStopping α} {evalFirst : Bool} {s s' : FitState W α} {e : Int} {w : W}
    (h : epochEndBoth es evalFirst s e w = .ok s') :
    ∃ ev', s.ev.onEpochEnd e w = .ok ev' ∧
      s' = ⟨ev', if asksAt es evalFirst s.ev e w then ⟨true, some e⟩ else s.st, s.fired ++ [e]⟩ := by
  unfold epochEndBoth at h
  unfold asksAt
  cases evalFirst <;> simp only [if_true, Bool.false_eq_true, if_false] at h ⊢
  · -- `[stopper, evaluator]`
    split at h
    · cases h
    next st' hst =>
      split at h
      · cases h
      next ev' hev =>
        cases h
        exact ⟨ev', hev, by rw [stopper_onEpochEnd_asks hst]⟩
  · -- `[evaluator, stopper]`
    split at h
    · cases h
    next ev' hev =>
      split at h
      · cases h
      next st' hst =>
        cases h
        exact ⟨ev', hev, by rw [stopper_onEpochEnd_asks hst, hev]⟩

/-- **the loop of QV.Model.EarlyStop stops at the FIRST epoch of `a … b` at which the derived request `stopAsk` holds** (or at none,
and runs through).  `stopAsk` recomputes the evaluator of every epoch from `ev₀`; the loop carries a running one.  The invariant
that identifies the two: the running evaluator `ev` is `ev₀` advanced through `start … a-1` (`hev`, re-established by
`evalAfter_snoc`), so `asksAt` on the running state IS `stopAsk` at `a` (`hask`).  `n` is only the induction measure (epochs left);
callers start at `a = start` with `evalAfter_empty_range`. -/
theorem fitLoop_stopAsk (es : EarlyStopping α) (evalFirst : Bool) (ev₀ : AnyEval W α) (wof : Int → W) (start b : Int) :
    ∀ (n : Nat) (a : Int) (ev : AnyEval W α) (last : Option Int) (fired : List Int) (r : FitState W α),
      (b + 1 - a).toNat = n → start ≤ a →
      evalAfter ev₀ wof (epochRange start (a - 1)) = .ok ev →
      fitLoop es evalFirst ⟨ev, ⟨false, last⟩, fired⟩ ((epochRange a b).map (fun e => (e, wof e))) = .ok r →
      (∃ e, a ≤ e ∧ e ≤ b ∧ stopAsk es evalFirst ev₀ wof start e = true ∧
          (∀ e', a ≤ e' → e' < e → stopAsk es evalFirst ev₀ wof start e' = false) ∧
          r.st = ⟨true, some e⟩ ∧ r.fired = fired ++ epochRange a e) ∨
      ((∀ e', a ≤ e' → e' ≤ b → stopAsk es evalFirst ev₀ wof start e' = false) ∧
          r.st = ⟨false, last⟩ ∧ r.fired = fired ++ epochRange a b) := by
  intro n
  induction n with
  | zero =>
    intro a ev last fired r hn _ _ h
    rw [epochRange_rec, if_pos (by omega)] at h ⊢
    cases h
    exact Or.inr ⟨fun _ _ _ => by omega, rfl, (List.append_nil _).symm⟩
  | succ n ih =>
    intro a ev last fired r hn hsa hev h
    have hab : a ≤ b := by omega
    rw [epochRange_rec a b, if_neg (Int.not_lt.mpr hab), List.map_cons, fitLoop] at h
    cases hb : epochEndBoth es evalFirst ⟨ev, ⟨false, last⟩, fired⟩ a (wof a) with
    | error err => rw [hb] at h; cases h
    | ok s' =>
      obtain ⟨ev', g1, rfl⟩ := epochEndBoth_asks hb
      have hask : asksAt es evalFirst ev a (wof a) = stopAsk es evalFirst ev₀ wof start a := by
        unfold stopAsk; rw [hev]
      have hev' : evalAfter ev₀ wof (epochRange start (a + 1 - 1)) = .ok ev' := by
        rw [Int.add_sub_cancel, epochRange_snoc start a hsa]; exact evalAfter_snoc hev g1
      rw [hb, hask] at h
      cases hs : stopAsk es evalFirst ev₀ wof start a with
      | true =>
        simp only [hs, if_true, Except.ok.injEq] at h
        subst h
        exact Or.inl ⟨a, Int.le_refl a, hab, hs, fun _ h1 h2 => absurd (Int.lt_of_le_of_lt h1 h2) (Int.lt_irrefl _), rfl,
          by rw [epochRange_rec a a, if_neg (Int.lt_irrefl a), epochRange_rec, if_pos (Int.lt_succ a)]⟩
      | false =>
        simp only [hs, Bool.false_eq_true, if_false] at h
        have hfirst : ∀ e', a ≤ e' → e' < a + 1 → stopAsk es evalFirst ev₀ wof start e' = false :=
          fun e' h1 h2 => (Int.le_antisymm (Int.le_of_lt_add_one h2) h1 : e' = a) ▸ hs
        rcases ih (a + 1) ev' last (fired ++ [a]) r (by omega) (by omega) hev' h with
          ⟨e, he1, he2, he, hpre, hrst, hrf⟩ | ⟨hnone, hrst, hrf⟩
        · exact Or.inl ⟨e, Int.le_of_lt he1, he2, he,
            fun e' h1 h2 => if h : e' < a + 1 then hfirst e' h1 h else hpre e' (Int.not_lt.mp h) h2, hrst,
            by rw [hrf, List.append_assoc, epochRange_rec a e, if_neg (Int.not_lt.mpr (Int.le_of_lt he1))]; rfl⟩
        · exact Or.inr ⟨fun e' h1 h2 => if h : e' < a + 1 then hfirst e' h1 h else hnone e' (Int.not_lt.mp h) h2, hrst,
            by rw [hrf, List.append_assoc, epochRange_rec a b, if_neg (Int.not_lt.mpr hab)]; rfl⟩

/-! ### several stop sources: the loop in terms of `multiAsk` -/

theorem src_onEpochEnd_asks {src : StopSrc α} {ev : AnyEval W α} {stop : Bool} {last : Option Int} {e : Int} {st : StopState}
    (h : src.onEpochEnd ev stop last e = .ok st) : st.stop = (stop || srcAsks src ev e) := by
  cases src with
  | stopper es =>
    rw [stopper_onEpochEnd_asks (show es.onEpochEnd ev ⟨stop, last⟩ e = .ok st from h)]
    show (if stopperAsks es ev e then (⟨true, some e⟩ : StopState) else ⟨stop, last⟩).stop = (stop || stopperAsks es ev e)
    cases stopperAsks es ev e <;> simp
  | request eps => cases h; rfl

theorem srcsEpochEnd_asks (ev : AnyEval W α) (e : Int) :
    ∀ (l l' : List (StopSrc α × Option Int)) (stop stop' : Bool), srcsEpochEnd ev e l stop = .ok (l', stop') →
      stop' = (stop || srcsAsk (l.map Prod.fst) ev e) ∧ l'.map Prod.fst = l.map Prod.fst := by
  intro l
  induction l with
  | nil =>
    intro l' stop stop' h
    cases h
    exact ⟨(Bool.or_false _).symm, rfl⟩
  | cons x rest ih =>
    intro l' stop stop' h
    obtain ⟨src, last⟩ := x
    rw [srcsEpochEnd] at h
    split at h
    · cases h
    next st h1 =>
      split at h
      · cases h
      next rest' stop₂ h2 =>
        cases h
        obtain ⟨i1, i2⟩ := ih _ _ _ h2
        refine ⟨?_, by rw [List.map_cons, i2]; rfl⟩
        rw [i1, src_onEpochEnd_asks h1, Bool.or_assoc]
        rfl

theorem epochEndMulti_asks (s s' : MultiState W α) (e : Int) (w : W) (h : epochEndMulti s e w = .ok s') :
    s.ev.onEpochEnd e w = .ok s'.ev ∧ s'.fired = s.fired ++ [e] ∧
    s'.before.map Prod.fst = s.before.map Prod.fst ∧ s'.after.map Prod.fst = s.after.map Prod.fst ∧
    s'.stop = (s.stop || srcsAsk (s.before.map Prod.fst) s.ev e || srcsAsk (s.after.map Prod.fst) s'.ev e) := by
  unfold epochEndMulti at h
  split at h
  · cases h
  next before' stop₁ h1 =>
    split at h
    · cases h
    next ev' h2 =>
      split at h
      · cases h
      next after' stop₂ h3 =>
        cases h
        obtain ⟨a1, a2⟩ := srcsEpochEnd_asks s.ev e _ _ _ _ h1
        obtain ⟨b1, b2⟩ := srcsEpochEnd_asks ev' e _ _ _ _ h3
        exact ⟨h2, rfl, a2, b2, by rw [b1, a1]⟩

/-- `fitLoop_stopAsk` for several stop sources: same induction and invariant; in addition the lists of sources keep their first
components (`epochEndMulti` changes only the `last_epoch`s paired with them), which is what `multiAsk` is computed from. -/
theorem fitLoopMulti_ask (before after : List (StopSrc α)) (ev₀ : AnyEval W α) (wof : Int → W) (start b : Int) :
    ∀ (n : Nat) (a : Int) (s r : MultiState W α),
      (b + 1 - a).toNat = n → start ≤ a → s.stop = false →
      s.before.map Prod.fst = before → s.after.map Prod.fst = after →
      evalAfter ev₀ wof (epochRange start (a - 1)) = .ok s.ev →
      fitLoopMulti s ((epochRange a b).map (fun e => (e, wof e))) = .ok r →
      (∃ e, a ≤ e ∧ e ≤ b ∧ multiAsk before after ev₀ wof start e = true ∧
          (∀ e', a ≤ e' → e' < e → multiAsk before after ev₀ wof start e' = false) ∧
          r.stop = true ∧ r.fired = s.fired ++ epochRange a e) ∨
      ((∀ e', a ≤ e' → e' ≤ b → multiAsk before after ev₀ wof start e' = false) ∧
          r.stop = false ∧ r.fired = s.fired ++ epochRange a b) := by
  intro n
  induction n with
  | zero =>
    intro a s r hn _ hs _ _ _ h
    rw [epochRange_rec, if_pos (by omega)] at h ⊢
    cases h
    exact Or.inr ⟨fun _ _ _ => by omega, hs, (List.append_nil _).symm⟩
  | succ n ih =>
    intro a s r hn hsa hs hbf haf hev h
    have hab : a ≤ b := by omega
    rw [epochRange_rec a b, if_neg (Int.not_lt.mpr hab), List.map_cons, fitLoopMulti] at h
    cases hb : epochEndMulti s a (wof a) with
    | error err => rw [hb] at h; cases h
    | ok s' =>
      rw [hb] at h
      dsimp only at h
      obtain ⟨g1, g2, g3, g4, g5⟩ := epochEndMulti_asks s s' a (wof a) hb
      have hask : multiAsk before after ev₀ wof start a = s'.stop := by
        simp only [multiAsk, hev, g1, g5, hs, hbf, haf, Bool.false_or]
      have hev' : evalAfter ev₀ wof (epochRange start (a + 1 - 1)) = .ok s'.ev := by
        rw [Int.add_sub_cancel, epochRange_snoc start a hsa]; exact evalAfter_snoc hev g1
      cases hst : s'.stop with
      | true =>
        simp only [hst, if_true, Except.ok.injEq] at h
        subst h
        exact Or.inl ⟨a, Int.le_refl a, hab, hask.trans hst, fun _ h1 h2 => absurd (Int.lt_of_le_of_lt h1 h2) (Int.lt_irrefl _), hst,
          by rw [g2, epochRange_rec a a, if_neg (Int.lt_irrefl a), epochRange_rec, if_pos (Int.lt_succ a)]⟩
      | false =>
        simp only [hst, Bool.false_eq_true, if_false] at h
        have hfirst : ∀ e', a ≤ e' → e' < a + 1 → multiAsk before after ev₀ wof start e' = false :=
          fun e' h1 h2 => (Int.le_antisymm (Int.le_of_lt_add_one h2) h1 : e' = a) ▸ hask.trans hst
        rcases ih (a + 1) s' r (by omega) (by omega) hst (g3.trans hbf) (g4.trans haf) hev' h with
          ⟨e, he1, he2, he, hpre, hrs, hrf⟩ | ⟨hnone, hrs, hrf⟩
        · exact Or.inl ⟨e, Int.le_of_lt he1, he2, he,
            fun e' h1 h2 => if h : e' < a + 1 then hfirst e' h1 h else hpre e' (Int.not_lt.mp h) h2, hrs,
            by rw [hrf, g2, List.append_assoc, epochRange_rec a e, if_neg (Int.not_lt.mpr (Int.le_of_lt he1))]; rfl⟩
        · exact Or.inr ⟨fun e' h1 h2 => if h : e' < a + 1 then hfirst e' h1 h else hnone e' (Int.not_lt.mp h) h2, hrs,
            by rw [hrf, g2, List.append_assoc, epochRange_rec a b, if_neg (Int.not_lt.mpr hab)]; rfl⟩

/-! ### the request oracle on the side of `QV.Train.fit` -/

theorem any_range_length {β : Type} (l : List β) (g : β → Bool) (f : Nat → Bool)
    (hf : ∀ i (h : i < l.length), f i = g l[i]) : (List.range l.length).any f = l.any g := by
  rw [Bool.eq_iff_iff]
  simp only [List.any_eq_true, List.mem_range]
  constructor
  · rintro ⟨i, hi, h⟩
    exact ⟨l[i], List.getElem_mem hi, hf i hi ▸ h⟩
  · rintro ⟨x, hx, hg⟩
    obtain ⟨i, hi, rfl⟩ := List.getElem_of_mem hx
    exact ⟨i, hi, (hf i hi).symm ▸ hg⟩

theorem multiReq_reqEv (before after : List (StopSrc α)) (ev₀ : AnyEval W α) (wof : Int → W) (c : Cfg)
    (hc : c.cbs = List.range (before.length + 1 + after.length)) (ev : Event) :
    reqEv c (multiReq before after ev₀ wof c.start) ev =
      match ev with
      | .epochEnd e => multiAsk before after ev₀ wof c.start e
      | _ => false := by
  unfold reqEv multiReq
  cases ev with
  | epochEnd e =>
    simp only [multiAsk]
    cases evalAfter ev₀ wof (epochRange c.start (e - 1)) with
    | error err => simp
    | ok evb =>
      -- the identities `0 … |before|+|after|` fall into three blocks: position `i < |before|` is `before[i]`, position `|before|` is
      -- the evaluator (asks nothing), position `|before| + 1 + j` is `after[j]`; `multiReq.cb` is `srcAsks` of the source at `i`
      rw [hc, List.range_add, List.range_succ, List.any_append, List.any_append, List.any_map,
        any_range_length before (fun src => srcAsks src evb e) _ fun i h => by
          simp only [if_pos h, List.getElem?_eq_getElem h]]
      cases hq : evb.onEpochEnd e (wof e) with
      | error err =>
        simp [srcsAsk, hq]
        intro x _ hx
        omega
      | ok eva =>
        rw [any_range_length after (fun src => srcAsks src eva e) _ fun j h => by
          have h1 : ¬ before.length + 1 + j < before.length := by omega
          have h2 : before.length + 1 + j - before.length - 1 = j := by omega
          have h3 : before.length < before.length + 1 + j := by omega
          simp [hq, h1, h2, h3, List.getElem?_eq_getElem h]]
        simp [srcsAsk, hq]
        split <;> simp
  | _ => simp

variable (stId : Nat) (es : EarlyStopping α) (evalFirst : Bool) (ev₀ : AnyEval W α) (wof : Int → W)

theorem stopperReq_reqEv (c : Cfg) (hst : stId ∈ c.cbs) (ev : Event) :
    reqEv c (stopperReq stId es evalFirst ev₀ wof c.start) ev =
      match ev with
      | .epochEnd e => stopAsk es evalFirst ev₀ wof c.start e
      | _ => false := by
  unfold reqEv stopperReq
  cases ev with
  | epochEnd e =>
    simp only
    cases ha : stopAsk es evalFirst ev₀ wof c.start e with
    | false => simp
    | true =>
      simp only [Bool.and_true, List.any_eq_true, beq_iff_eq]
      exact ⟨stId, hst, rfl⟩
  | _ => simp

theorem stopperReq_mid (c : Cfg) (e : Int) (b : Nat) :
    (stopperReq stId es evalFirst ev₀ wof c.start).mid e b = false := rfl

end

end QV.Cb
