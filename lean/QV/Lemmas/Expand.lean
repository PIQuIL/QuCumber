/-
QV.Lemmas.Expand — the enumeration of `_rotate_basis_state` (`Unitaries.expandStates`: `generate_hilbert_space(size = #rotated)`
written into the rotated sites, in the code's order) lists every state that agrees with the sample off the rotated sites
exactly once; hence the enumerated sums of the fast paths (`rotatePsiInnerProdE`, `rotateRhoProbsE`) equal the filtered
sums over all `2^n` states (`rotatePsiInnerProd`, `rotateRhoProbs`).
-/
import Mathlib.Data.List.Sort
import Mathlib.Data.List.FinRange
import Mathlib.Data.List.Nodup
import Mathlib.Data.Fintype.BigOperators
import Mathlib.Algebra.BigOperators.Group.Finset.Basic
import QV.Model.Unitaries
import QV.Real
import QV.Lemmas.Cplx
import QV.Lemmas.Hilbert

namespace QV
open Finset Unitaries

variable {n : ℕ}

/-- `sites = np.where(basis != "Z")[0]`: the rotated sites in increasing order -/
def rotSites (n : ℕ) (rot : Fin n → Bool) : List (Fin n) := (List.finRange n).filter (fun s => rot s)

/-- position of site `j` in `sites` (number of rotated sites before `j`), as `expandStates` computes it -/
def siteRank (rot : Fin n → Bool) (j : Fin n) : ℕ :=
  ((rotSites n rot).takeWhile (fun t => t.val < j.val)).length

/-- expanded state number `i`: the function `expandStates` maps over `List.range (2 ^ m)` -/
def expandAt (rot : Fin n → Bool) (σ : Fin n → Bool) (i : ℕ) : Fin n → Bool := fun j =>
  if rot j then Nat.testBit i ((rotSites n rot).length - 1 - siteRank rot j) else σ j

theorem expandStates_eq_map (rot σ : Fin n → Bool) :
    expandStates n rot σ = (List.range (2 ^ (rotSites n rot).length)).map (expandAt rot σ) := rfl

theorem expandStates_getElem (rot σ : Fin n → Bool) (i : ℕ) (hi : i < (expandStates n rot σ).length) :
    (expandStates n rot σ)[i] = expandAt rot σ i := by
  simp only [expandStates_eq_map, List.getElem_map, List.getElem_range]

theorem mem_rotSites {rot : Fin n → Bool} {j : Fin n} : j ∈ rotSites n rot ↔ rot j = true := by
  simp [rotSites]

theorem rotSites_pairwise (rot : Fin n → Bool) : (rotSites n rot).Pairwise (· < ·) :=
  ((List.sortedLT_finRange n).pairwise).filter _

theorem rotSites_nodup (rot : Fin n → Bool) : (rotSites n rot).Nodup :=
  (List.nodup_finRange n).filter _

theorem rotSites_length (rot : Fin n → Bool) :
    (rotSites n rot).length = (Finset.univ.filter (fun s : Fin n => rot s = true)).card := by
  rw [← List.toFinset_card_of_nodup (rotSites_nodup rot), rotSites, List.toFinset_filter, List.toFinset_finRange]

theorem takeWhile_lt_getElem_length (l : List (Fin n)) (hl : l.Pairwise (· < ·)) (p : ℕ) (hp : p < l.length) :
    (l.takeWhile (fun t => t.val < (l[p]).val)).length = p := by
  induction l generalizing p with
  | nil => simp at hp
  | cons a l ih =>
    rw [List.pairwise_cons] at hl
    cases p with
    | zero => simp
    | succ p =>
      have hp' : p < l.length := by simpa using hp
      have ha : a.val < (l[p]).val := hl.1 _ (List.getElem_mem hp')
      simp only [List.getElem_cons_succ, List.takeWhile_cons, ha, decide_true, if_true, List.length_cons]
      rw [ih hl.2 p hp']

/-- `v[..., sites] = generate_hilbert_space(size=m)`: expanded state `i` restricted to the rotated sites (in order) is
row `i` of the size-`m` Hilbert space -/
theorem expandAt_site (rot σ : Fin n → Bool) (i : ℕ) (p : Fin (rotSites n rot).length) :
    expandAt rot σ i ((rotSites n rot)[p.val]) = rowBits (rotSites n rot).length i p := by
  -- the `p`-th rotated site has rank `p`: the sites before it are the first `p`
  rw [expandAt, if_pos (mem_rotSites.mp (List.getElem_mem p.isLt)), siteRank,
    takeWhile_lt_getElem_length _ (rotSites_pairwise rot) p.val p.isLt]
  rfl

theorem expandAt_off (rot σ : Fin n → Bool) (i : ℕ) (j : Fin n) (hj : rot j = false) :
    expandAt rot σ i j = σ j := by
  simp [expandAt, hj]

theorem agreesOff_iff (rot σ τ : Fin n → Bool) :
    agreesOff n rot σ τ = true ↔ ∀ j, rot j = false → τ j = σ j := by
  unfold agreesOff
  rw [List.all_eq_true]
  constructor
  · intro h j hj
    have := h j (List.mem_finRange j)
    simp only [hj, Bool.false_or, beq_iff_eq] at this
    exact this.symm
  · intro h j _
    cases hr : rot j
    · simp [h j hr]
    · simp

theorem mem_expandStates_iff (rot σ τ : Fin n → Bool) :
    τ ∈ expandStates n rot σ ↔ agreesOff n rot σ τ = true := by
  rw [expandStates_eq_map, agreesOff_iff, List.mem_map]
  constructor
  · rintro ⟨i, _, rfl⟩ j hj
    exact expandAt_off rot σ i j hj
  · intro h
    -- `τ` is expanded state number `k`, where row `k` of the size-`m` space is `τ` read along the rotated sites
    obtain ⟨k, hk⟩ := (rowBits_bijective (rotSites n rot).length).2 (fun p => τ ((rotSites n rot)[p.val]))
    refine ⟨k.val, List.mem_range.mpr k.isLt, ?_⟩
    funext j
    cases hr : rot j
    · rw [expandAt_off rot σ _ j hr, h j hr]
    · obtain ⟨p, hp, rfl⟩ := List.getElem_of_mem (mem_rotSites.mpr hr)
      exact (expandAt_site rot σ _ ⟨p, hp⟩).trans (congrFun hk ⟨p, hp⟩)

theorem expandStates_nodup (rot σ : Fin n → Bool) : (expandStates n rot σ).Nodup := by
  rw [expandStates_eq_map]
  refine List.Nodup.map_on ?_ List.nodup_range
  intro i hi i' hi' h
  have hi := List.mem_range.mp hi
  have hi' := List.mem_range.mp hi'
  have := rowBits_injective (rotSites n rot).length (a₁ := ⟨i, hi⟩) (a₂ := ⟨i', hi'⟩) (by
    funext p
    show rowBits _ i p = rowBits _ i' p
    rw [← expandAt_site rot σ i p, ← expandAt_site rot σ i' p, h])
  exact congrArg Fin.val this

theorem expandStates_length (rot σ : Fin n → Bool) :
    (expandStates n rot σ).length = 2 ^ (Finset.univ.filter (fun s : Fin n => rot s = true)).card := by
  rw [expandStates_eq_map, List.length_map, List.length_range, rotSites_length]

/-- all `2^n` basis states in the order of `generate_hilbert_space()` -/
def allStates (n : ℕ) : List (Fin n → Bool) := (List.finRange (2 ^ n)).map (fun k => rowBits n k.val)

theorem allStates_nodup (n : ℕ) : (allStates n).Nodup :=
  (List.nodup_finRange _).map (rowBits_injective n)

theorem mem_allStates (τ : Fin n → Bool) : τ ∈ allStates n := by
  obtain ⟨k, hk⟩ := (rowBits_bijective n).2 τ
  exact List.mem_map.mpr ⟨k, List.mem_finRange k, hk⟩

theorem expandStates_perm (rot σ : Fin n → Bool) :
    (expandStates n rot σ).Perm ((allStates n).filter (fun τ => agreesOff n rot σ τ)) := by
  rw [List.perm_ext_iff_of_nodup (expandStates_nodup rot σ) ((allStates_nodup n).filter _)]
  intro τ
  simp [mem_expandStates_iff, mem_allStates]

/-! ### sums over the enumeration -/

theorem foldl_add_C {ι : Type*} (l : List ι) (f : ι → C ℝ) (a : C ℝ) :
    toC (l.foldl (fun acc v => C.add acc (f v)) a) = toC a + (l.map (fun v => toC (f v))).sum := by
  induction l generalizing a with
  | nil => simp
  | cons x l ih => simp [List.foldl_cons, ih, add_assoc]

theorem sum_expandStates {M : Type*} [AddCommMonoid M] (rot σ : Fin n → Bool) (g : (Fin n → Bool) → M) :
    ((expandStates n rot σ).map g).sum = ∑ τ : Fin n → Bool, if agreesOff n rot σ τ = true then g τ else 0 := by
  rw [← List.sum_toFinset g (expandStates_nodup rot σ), ← Finset.sum_filter]
  congr 1
  ext τ
  simp [mem_expandStates_iff]

/-! ### no rotated site: `v = states.unsqueeze(0)`, `Ut = ones` -/

theorem expandStates_of_not_rot (σ : Fin n → Bool) : expandStates n (fun _ => false) σ = [σ] := by
  simp [expandStates]

theorem rotCoeff_of_not_rot (us : Fin n → M2 ℝ) (σ τ : Fin n → Bool) : rotCoeff n us (fun _ => false) σ τ = C.one :=
  toC_injective (by
    simp only [rotCoeff, Bool.false_eq_true, if_false, toC_prod, toC_one, Finset.prod_const_one])

theorem rotatePsiInnerProdE_of_not_rot (us : Fin n → M2 ℝ) (ψ : (Fin n → Bool) → C ℝ) (σ : Fin n → Bool) :
    rotatePsiInnerProdE n us (fun _ => false) ψ σ = ψ σ :=
  toC_injective (by simp [rotatePsiInnerProdE, expandStates_of_not_rot, rotCoeff_of_not_rot])

/-! ### the filtered sums over all `2^n` rows, as sums over bit-vectors -/

theorem toC_rotatePsiInnerProd (us : Fin n → M2 ℝ) (rot : Fin n → Bool) (ψ : (Fin n → Bool) → C ℝ)
    (σ : Fin n → Bool) :
    toC (rotatePsiInnerProd n us rot ψ σ)
      = ∑ τ : Fin n → Bool, if agreesOff n rot σ τ then toC (rotCoeff n us rot σ τ) * toC (ψ τ) else 0 := by
  simp only [← toC_mul, ← toC_zero, ← apply_ite toC]
  exact (toC_sum _ _).trans
    (sum_rows n fun τ => toC (if agreesOff n rot σ τ then C.mul (rotCoeff n us rot σ τ) (ψ τ) else C.zero))

theorem rotateRhoProbs_eq_sum (us : Fin n → M2 ℝ) (rot : Fin n → Bool)
    (ρ : (Fin n → Bool) → (Fin n → Bool) → C ℝ) (σ : Fin n → Bool) :
    rotateRhoProbs n us rot ρ σ
      = ∑ τ1 : Fin n → Bool, ∑ τ2 : Fin n → Bool, if agreesOff n rot σ τ1 && agreesOff n rot σ τ2 then
          (C.mul (C.mul (rotCoeff n us rot σ τ1) (C.conj (rotCoeff n us rot σ τ2))) (ρ τ1 τ2)).1 else 0 := by
  unfold rotateRhoProbs
  simp only [sumFin_eq]
  rw [← sum_rows n fun τ1 => ∑ τ2 : Fin n → Bool, if agreesOff n rot σ τ1 && agreesOff n rot σ τ2 then
    (C.mul (C.mul (rotCoeff n us rot σ τ1) (C.conj (rotCoeff n us rot σ τ2))) (ρ τ1 τ2)).1 else 0]
  refine Finset.sum_congr rfl fun k _ => ?_
  exact sum_rows n fun τ2 => if agreesOff n rot σ (rowBits n k.val) && agreesOff n rot σ τ2 then
    (C.mul (C.mul (rotCoeff n us rot σ (rowBits n k.val)) (C.conj (rotCoeff n us rot σ τ2))) (ρ (rowBits n k.val) τ2)).1
      else 0

/-- Over ℝ only: the two forms add the same non-zero terms in different orders (the filtered one also adds zeros), so over
floats they differ by rounding. -/
theorem rotatePsiInnerProdE_eq (us : Fin n → M2 ℝ) (rot : Fin n → Bool) (ψ : (Fin n → Bool) → C ℝ)
    (σ : Fin n → Bool) :
    rotatePsiInnerProdE n us rot ψ σ = rotatePsiInnerProd n us rot ψ σ := by
  apply toC_injective
  rw [toC_rotatePsiInnerProd, rotatePsiInnerProdE, foldl_add_C, toC_zero, zero_add, sum_expandStates]
  simp only [toC_mul]

/-- likewise over ℝ only -/
theorem rotateRhoProbsE_eq (us : Fin n → M2 ℝ) (rot : Fin n → Bool)
    (ρ : (Fin n → Bool) → (Fin n → Bool) → C ℝ) (σ : Fin n → Bool) :
    rotateRhoProbsE n us rot ρ σ = rotateRhoProbs n us rot ρ σ := by
  rw [rotateRhoProbs_eq_sum, rotateRhoProbsE]
  simp only [foldl_add_list, zero_add, sum_expandStates]
  refine Finset.sum_congr rfl fun τ1 _ => ?_
  cases agreesOff n rot σ τ1
  · simp only [Bool.false_and, Bool.false_eq_true, if_false, Finset.sum_const_zero]
  · simp only [Bool.true_and, if_true]

end QV
