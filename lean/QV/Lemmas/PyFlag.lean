/-
QV.Lemmas.PyFlag — facts about the flag objects of `QV.Model.PyFlag`: `ofBool form b` has the truth value `b` in every form but
is one of the singletons `True` / `False` in form 0 only, so `if flag:` and `flag is True` / `flag is False` part company exactly
on the other forms (`int`, `numpy.bool_`, 0-dim array, 0-dim tensor).
-/
import QV.Model.PyFlag
namespace QV
namespace PyFlag

theorem truthy_ofBool (form : Nat) (b : Bool) : (ofBool form b).truthy = b := by
  unfold ofBool
  split <;> cases b <;> rfl

theorem isTrueSingleton_ofBool (form : Nat) (b : Bool) :
    (ofBool form b).isTrueSingleton = (b && form == 0) := by
  unfold ofBool
  split <;> cases b <;> simp_all [isTrueSingleton]

theorem isFalseSingleton_ofBool (form : Nat) (b : Bool) :
    (ofBool form b).isFalseSingleton = (!b && form == 0) := by
  unfold ofBool
  split <;> cases b <;> simp_all [isFalseSingleton]

theorem truthy_of_isTrueSingleton {f : PyFlag} (h : f.isTrueSingleton = true) : f.truthy = true := by
  cases f <;> simp_all [isTrueSingleton, truthy]

theorem not_truthy_of_isFalseSingleton {f : PyFlag} (h : f.isFalseSingleton = true) : f.truthy = false := by
  cases f <;> simp_all [isFalseSingleton, truthy]

end PyFlag
end QV
