/-
QV.Lemmas.Train — lemmas about the `fit` state machine (QV.Model.Train), used by C12, by QV.Lemmas.EarlyStopFit and, through
these, by C17 and C18.
`breakLoop` is the loop with `break` that `batchLoop` and `epochLoop` both are; `Seg` is the induction principle for
properties of log segments that compose under `++`. The event trace gets a closed form (`cut`: a loop runs up to and
including the first iteration with a stop request, exactly one iteration when entered with the flag set); the flags and
versions recorded in the log are characterised by replaying it (`track`).
For C12.13 – C12.16 the file also has: the `Timer` (the run with it against the run without it, `TimerEq`; what it prints,
`TimerSeg`), the first raising handler invocation (`cutAtRaise`), the index arithmetic of the `CallbackList` operations (`pyIdx`,
`insIdx`), and `callsOK` (every handler invocation is for the event emitted last). No Mathlib needed.
-/
import QV.Model.Train
namespace QV.Train

/-- some user callback requests a stop while `ev` is dispatched -/
def reqEv (c : Cfg) (R : Req) (ev : Event) : Bool := c.cbs.any (fun i => R.cb i ev)

/-! ### projections distribute over append / cons -/
section proj
variable (l₁ l₂ : List Entry)
@[simp] theorem events_append : events (l₁ ++ l₂) = events l₁ ++ events l₂ := List.filterMap_append
@[simp] theorem rets_append : rets (l₁ ++ l₂) = rets l₁ ++ rets l₂ := List.filterMap_append
@[simp] theorem calls_append : calls (l₁ ++ l₂) = calls l₁ ++ calls l₂ := List.filterMap_append
@[simp] theorem skeleton_append : skeleton (l₁ ++ l₂) = skeleton l₁ ++ skeleton l₂ := List.filter_append ..
@[simp] theorem prints_append : prints (l₁ ++ l₂) = prints l₁ ++ prints l₂ := List.filterMap_append
@[simp] theorem events_nil : events [] = [] := rfl
@[simp] theorem rets_nil : rets [] = [] := rfl
@[simp] theorem calls_nil : calls [] = [] := rfl
@[simp] theorem skeleton_nil : skeleton [] = [] := rfl
@[simp] theorem prints_nil : prints [] = [] := rfl
variable (x : Entry) (l : List Entry)
theorem events_cons : events (x :: l) = events [x] ++ events l := by
  rw [← events_append]; rfl
theorem rets_cons : rets (x :: l) = rets [x] ++ rets l := by
  rw [← rets_append]; rfl
theorem calls_cons : calls (x :: l) = calls [x] ++ calls l := by
  rw [← calls_append]; rfl
theorem skeleton_cons : skeleton (x :: l) = skeleton [x] ++ skeleton l := by
  rw [← skeleton_append]; rfl
theorem prints_cons : prints (x :: l) = prints [x] ++ prints l := by
  rw [← prints_append]; rfl
end proj

section single
variable (ev : Event) (i : Nat) (f : Bool) (v : Nat) (m : TimerMsg) (e : Int) (b : Nat) (l : List Entry)
@[simp] theorem events_emit : events (.emit ev :: l) = ev :: events l := rfl
@[simp] theorem events_call : events (.call i ev f v :: l) = events l := rfl
@[simp] theorem events_print : events (.print m :: l) = events l := rfl
@[simp] theorem events_ret : events (.ret ev f :: l) = events l := rfl
@[simp] theorem events_shuffle : events (.shuffle e :: l) = events l := rfl
@[simp] theorem events_opt : events (.optStep e b :: l) = events l := rfl
@[simp] theorem events_sched : events (.schedStep e :: l) = events l := rfl
@[simp] theorem rets_emit : rets (.emit ev :: l) = rets l := rfl
@[simp] theorem rets_call : rets (.call i ev f v :: l) = rets l := rfl
@[simp] theorem rets_print : rets (.print m :: l) = rets l := rfl
@[simp] theorem rets_ret : rets (.ret ev f :: l) = (ev, f) :: rets l := rfl
@[simp] theorem rets_shuffle : rets (.shuffle e :: l) = rets l := rfl
@[simp] theorem rets_opt : rets (.optStep e b :: l) = rets l := rfl
@[simp] theorem rets_sched : rets (.schedStep e :: l) = rets l := rfl
@[simp] theorem calls_emit : calls (.emit ev :: l) = calls l := rfl
@[simp] theorem calls_call : calls (.call i ev f v :: l) = (i, ev) :: calls l := rfl
@[simp] theorem calls_print : calls (.print m :: l) = calls l := rfl
@[simp] theorem calls_ret : calls (.ret ev f :: l) = calls l := rfl
@[simp] theorem calls_shuffle : calls (.shuffle e :: l) = calls l := rfl
@[simp] theorem calls_opt : calls (.optStep e b :: l) = calls l := rfl
@[simp] theorem calls_sched : calls (.schedStep e :: l) = calls l := rfl
@[simp] theorem skeleton_emit : skeleton (.emit ev :: l) = .emit ev :: skeleton l := rfl
@[simp] theorem skeleton_call : skeleton (.call i ev f v :: l) = skeleton l := rfl
@[simp] theorem skeleton_print : skeleton (.print m :: l) = skeleton l := rfl
@[simp] theorem skeleton_ret : skeleton (.ret ev f :: l) = skeleton l := rfl
@[simp] theorem skeleton_shuffle : skeleton (.shuffle e :: l) = .shuffle e :: skeleton l := rfl
@[simp] theorem skeleton_opt : skeleton (.optStep e b :: l) = .optStep e b :: skeleton l := rfl
@[simp] theorem skeleton_sched : skeleton (.schedStep e :: l) = .schedStep e :: skeleton l := rfl
@[simp] theorem prints_emit : prints (.emit ev :: l) = prints l := rfl
@[simp] theorem prints_call : prints (.call i ev f v :: l) = prints l := rfl
@[simp] theorem prints_print : prints (.print m :: l) = m :: prints l := rfl
@[simp] theorem prints_ret : prints (.ret ev f :: l) = prints l := rfl
@[simp] theorem prints_shuffle : prints (.shuffle e :: l) = prints l := rfl
@[simp] theorem prints_opt : prints (.optStep e b :: l) = prints l := rfl
@[simp] theorem prints_sched : prints (.schedStep e :: l) = prints l := rfl
end single

section dispatch
variable (c : Cfg) (R : Req) (ev : Event)

theorem dispatchCbs_stop (ver : Nat) (cbs : List Nat) (stop : Bool) :
    (dispatchCbs R ev ver cbs stop).2 = (stop || cbs.any (fun i => R.cb i ev)) := by
  induction cbs generalizing stop with
  | nil => simp [dispatchCbs]
  | cons i rest ih => simp [dispatchCbs, ih, Bool.or_assoc]

theorem dispatchCbs_proj (ver : Nat) (cbs : List Nat) (stop : Bool) :
    events (dispatchCbs R ev ver cbs stop).1 = [] ∧ rets (dispatchCbs R ev ver cbs stop).1 = [] ∧
    skeleton (dispatchCbs R ev ver cbs stop).1 = [] ∧ prints (dispatchCbs R ev ver cbs stop).1 = [] ∧
    calls (dispatchCbs R ev ver cbs stop).1 = cbs.map (fun i => (i, ev)) := by
  induction cbs generalizing stop with
  | nil => simp [dispatchCbs]
  | cons i rest ih =>
    obtain ⟨h1, h2, h3, h4, h5⟩ := ih (stop || R.cb i ev)
    simp [dispatchCbs, h1, h2, h3, h4, h5]

theorem dispatchCbs_prints (ver : Nat) (cbs : List Nat) (stop : Bool) :
    prints (dispatchCbs R ev ver cbs stop).1 = [] :=
  (dispatchCbs_proj R ev ver cbs stop).2.2.2.1

theorem timerHandle_state (s : S) :
    (timerHandle ev s).2.stop = s.stop ∧ (timerHandle ev s).2.ver = s.ver ∧ (timerHandle ev s).2.sched = s.sched := by
  unfold timerHandle
  split <;> (try split) <;> simp

theorem timerHandle_proj (s : S) :
    events (timerHandle ev s).1 = [] ∧ rets (timerHandle ev s).1 = [] ∧
    skeleton (timerHandle ev s).1 = [] ∧ calls (timerHandle ev s).1 = [] := by
  unfold timerHandle
  split <;> (try split) <;> simp

@[simp] theorem dispatch_stop (s : S) : (dispatch c R ev s).2.stop = (s.stop || reqEv c R ev) := by
  unfold dispatch
  by_cases ht : c.timer <;> simp [ht, timerHandle_state, dispatchCbs_stop, reqEv]

@[simp] theorem dispatch_ver (s : S) : (dispatch c R ev s).2.ver = s.ver := by
  unfold dispatch
  by_cases ht : c.timer <;> simp [ht, timerHandle_state]

@[simp] theorem dispatch_sched (s : S) : (dispatch c R ev s).2.sched = s.sched := by
  unfold dispatch
  by_cases ht : c.timer <;> simp [ht, timerHandle_state]

@[simp] theorem dispatch_events (s : S) : events (dispatch c R ev s).1 = [ev] := by
  unfold dispatch
  by_cases ht : c.timer <;> simp [ht, timerHandle_proj, dispatchCbs_proj]

@[simp] theorem dispatch_rets (s : S) : rets (dispatch c R ev s).1 = [(ev, s.stop || reqEv c R ev)] := by
  unfold dispatch
  by_cases ht : c.timer <;> simp [ht, timerHandle_proj, timerHandle_state, dispatchCbs_proj, dispatchCbs_stop, reqEv]

@[simp] theorem dispatch_calls (s : S) : calls (dispatch c R ev s).1 = c.cbs.map (fun i => (i, ev)) := by
  unfold dispatch
  by_cases ht : c.timer <;> simp [ht, timerHandle_proj, dispatchCbs_proj]

@[simp] theorem dispatch_skeleton (s : S) : skeleton (dispatch c R ev s).1 = [.emit ev] := by
  unfold dispatch
  by_cases ht : c.timer <;> simp [ht, timerHandle_proj, dispatchCbs_proj]

theorem dispatch_getLast? (s : S) :
    (dispatch c R ev s).1.getLast? = some (.ret ev (dispatch c R ev s).2.stop) := by
  simp only [dispatch, ← List.cons_append, List.getLast?_append]; rfl

end dispatch

/-! ### the loop with `break` -/

/-- how many iterations a loop with `break`-on-stop performs over `l`: exactly one when the flag is
already set on entry, otherwise up to and including the first element at which a stop is requested -/
def cut {α : Type} (stop : Bool) (p : α → Bool) (l : List α) : Nat :=
  if stop then 1 else l.findIdx p + 1

/-- `for a in l: body(a); if self.stop_training: break` — what `batchLoop` and `epochLoop` both are -/
def breakLoop {α : Type} (body : α → S → List Entry × S) : List α → S → List Entry × S
  | [], s => ([], s)
  | a :: l, s =>
    let r1 := body a s
    if r1.2.stop then r1
    else
      let r2 := breakLoop body l r1.2
      (r1.1 ++ r2.1, r2.2)

theorem batchLoop_eq (c : Cfg) (R : Req) (e : Int) (bs : List Nat) (s : S) :
    batchLoop c R e bs s = breakLoop (batchStep c R e) bs s := by
  induction bs generalizing s with
  | nil => rfl
  | cons b bs ih => simp only [batchLoop, breakLoop, ih]

theorem epochLoop_eq (c : Cfg) (R : Req) (es : List Int) (s : S) :
    epochLoop c R es s = breakLoop (runEpoch c R) es s := by
  induction es generalizing s with
  | nil => rfl
  | cons e es ih => simp only [epochLoop, breakLoop, ih]

section breakLoop
variable {α : Type} {body : α → S → List Entry × S}

theorem breakLoop_cons (a : α) (l : List α) (s : S) :
    breakLoop body (a :: l) s = if (body a s).2.stop then body a s
      else ((body a s).1 ++ (breakLoop body l (body a s).2).1, (breakLoop body l (body a s).2).2) := rfl

theorem breakLoop_seg {P : List Entry → S → S → Prop} (nil : ∀ s, P [] s s)
    (append : ∀ {l₁ l₂ s s₁ s₂}, P l₁ s s₁ → P l₂ s₁ s₂ → P (l₁ ++ l₂) s s₂)
    (hbody : ∀ a s, P (body a s).1 s (body a s).2) (l : List α) (s : S) :
    P (breakLoop body l s).1 s (breakLoop body l s).2 := by
  induction l generalizing s with
  | nil => exact nil s
  | cons a l ih =>
    rw [breakLoop_cons]
    split
    · exact hbody a s
    · exact append (hbody a s) (ih _)

variable {p : α → Bool} (hstop : ∀ a s, (body a s).2.stop = (s.stop || p a))
include hstop

theorem breakLoop_stop (l : List α) (s : S) : (breakLoop body l s).2.stop = (s.stop || l.any p) := by
  induction l generalizing s with
  | nil => simp [breakLoop]
  | cons a l ih =>
    rw [breakLoop_cons]
    split
    · next h => rw [h]; rw [hstop] at h; simp [h, ← Bool.or_assoc]
    · next h => simp only [ih, hstop, List.any_cons, Bool.or_assoc]

/-- the events of the loop: those of the first `cut …` iterations, all entered with the flag as it was on entry
(the loop is left as soon as the flag is set) -/
theorem breakLoop_events {f : Bool → α → List Event} (hev : ∀ a s, events (body a s).1 = f s.stop a)
    (l : List α) (s : S) : events (breakLoop body l s).1 = (l.take (cut s.stop p l)).flatMap (f s.stop) := by
  induction l generalizing s with
  | nil => simp [breakLoop]
  | cons a l ih =>
    rw [breakLoop_cons, hstop]
    cases hs : s.stop
    · cases hp : p a
      · simp [ih, hev, hstop, hs, hp, cut, List.findIdx_cons]
      · simp [hev, hs, hp, cut, List.findIdx_cons]
    · simp [hev, hs, cut]
end breakLoop

/-! ### closed form of the loops: how far they run -/

def pairEv (e : Int) (b : Nat) : List Event := [.batchStart e b, .batchEnd e b]

/-- a stop is requested at `on_batch_start`, during, or at `on_batch_end` of batch `(e,b)` -/
def batchReq (c : Cfg) (R : Req) (e : Int) (b : Nat) : Bool :=
  reqEv c R (.batchStart e b) || R.mid e b || reqEv c R (.batchEnd e b)

section loops
variable (c : Cfg) (R : Req)

@[simp] theorem batchStep_stop (e : Int) (b : Nat) (s : S) :
    (batchStep c R e b s).2.stop = (s.stop || batchReq c R e b) := by
  simp [batchStep, batchReq, Bool.or_assoc]
@[simp] theorem batchStep_ver (e : Int) (b : Nat) (s : S) : (batchStep c R e b s).2.ver = s.ver + 1 := by
  simp [batchStep]
@[simp] theorem batchStep_sched (e : Int) (b : Nat) (s : S) : (batchStep c R e b s).2.sched = s.sched := by
  simp [batchStep]
@[simp] theorem batchStep_events (e : Int) (b : Nat) (s : S) : events (batchStep c R e b s).1 = pairEv e b := by
  simp [batchStep, pairEv]
@[simp] theorem batchStep_calls (e : Int) (b : Nat) (s : S) :
    calls (batchStep c R e b s).1 = (pairEv e b).flatMap (fun ev => c.cbs.map (fun i => (i, ev))) := by
  simp [batchStep, pairEv]
@[simp] theorem batchStep_skeleton (e : Int) (b : Nat) (s : S) :
    skeleton (batchStep c R e b s).1 = [.emit (.batchStart e b), .optStep e b, .emit (.batchEnd e b)] := by
  simp [batchStep]
@[simp] theorem batchStep_rets (e : Int) (b : Nat) (s : S) :
    rets (batchStep c R e b s).1 = [(.batchStart e b, s.stop || reqEv c R (.batchStart e b)),
      (.batchEnd e b, s.stop || batchReq c R e b)] := by
  simp [batchStep, batchReq, Bool.or_assoc]

@[simp] theorem batchLoop_stop (e : Int) (bs : List Nat) (s : S) :
    (batchLoop c R e bs s).2.stop = (s.stop || bs.any (batchReq c R e)) := by
  rw [batchLoop_eq]; exact breakLoop_stop (batchStep_stop c R e) bs s

theorem batchLoop_events (e : Int) (bs : List Nat) (s : S) :
    events (batchLoop c R e bs s).1 = (bs.take (cut s.stop (batchReq c R e) bs)).flatMap (pairEv e) := by
  rw [batchLoop_eq]
  exact breakLoop_events (f := fun _ => pairEv e) (batchStep_stop c R e) (batchStep_events c R e) bs s

/-- number of batches epoch `e` runs when entered with flag `stopIn`. `cut` exceeds the number of batches when nobody
requests a stop (`findIdx` of an absent element is the length) and when there is no batch at all: hence the `min`. -/
def batchesRun (stopIn : Bool) (e : Int) : Nat :=
  min (cut (stopIn || reqEv c R (.epochStart e)) (batchReq c R e) (List.range c.numBatches)) c.numBatches

def epochEv (stopIn : Bool) (e : Int) : List Event :=
  .epochStart e :: ((List.range (batchesRun c R stopIn e)).flatMap (pairEv e) ++ [.epochEnd e])

/-- a stop is requested at some point of epoch `e` (if it runs in full) -/
def epochReq (e : Int) : Bool :=
  reqEv c R (.epochStart e) || (List.range c.numBatches).any (batchReq c R e) || reqEv c R (.epochEnd e)

@[simp] theorem schedPhase_stop (e : Int) (s : S) : (schedPhase c e s).2.stop = s.stop := by
  unfold schedPhase; split <;> rfl
@[simp] theorem schedPhase_ver (e : Int) (s : S) : (schedPhase c e s).2.ver = s.ver := by
  unfold schedPhase; split <;> rfl
@[simp] theorem schedPhase_sched (e : Int) (s : S) :
    (schedPhase c e s).2.sched = s.sched + (if c.hasSched then 1 else 0) := by
  unfold schedPhase; split <;> rfl
@[simp] theorem schedPhase_events (e : Int) (s : S) : events (schedPhase c e s).1 = [] := by
  unfold schedPhase; split <;> rfl
@[simp] theorem schedPhase_rets (e : Int) (s : S) : rets (schedPhase c e s).1 = [] := by
  unfold schedPhase; split <;> rfl
@[simp] theorem schedPhase_calls (e : Int) (s : S) : calls (schedPhase c e s).1 = [] := by
  unfold schedPhase; split <;> rfl
@[simp] theorem schedPhase_skeleton (e : Int) (s : S) :
    skeleton (schedPhase c e s).1 = if c.hasSched then [.schedStep e] else [] := by
  unfold schedPhase; split <;> rfl

@[simp] theorem runEpoch_stop (e : Int) (s : S) :
    (runEpoch c R e s).2.stop = (s.stop || epochReq c R e) := by
  simp [runEpoch, epochReq, Bool.or_assoc]

theorem runEpoch_events (e : Int) (s : S) : events (runEpoch c R e s).1 = epochEv c R s.stop e := by
  simp [runEpoch, batchLoop_events, epochEv, batchesRun]

@[simp] theorem epochLoop_stop (es : List Int) (s : S) :
    (epochLoop c R es s).2.stop = (s.stop || es.any (epochReq c R)) := by
  rw [epochLoop_eq]; exact breakLoop_stop (runEpoch_stop c R) es s

theorem epochLoop_events (es : List Int) (s : S) :
    events (epochLoop c R es s).1 = (es.take (cut s.stop (epochReq c R) es)).flatMap (epochEv c R s.stop) := by
  rw [epochLoop_eq]; exact breakLoop_events (runEpoch_stop c R) (runEpoch_events c R) es s

theorem fit_events :
    events (fit c R false).1 = .trainStart ::
      (((epochRange c.start c.epochs).take
          (cut (reqEv c R .trainStart) (epochReq c R) (epochRange c.start c.epochs))).flatMap
            (epochEv c R (reqEv c R .trainStart)) ++ [.trainEnd]) := by
  simp [fit, epochLoop_events]

theorem fit_stop :
    (fit c R false).2.stop =
      (reqEv c R .trainStart || (epochRange c.start c.epochs).any (epochReq c R) || reqEv c R .trainEnd) := by
  simp [fit]

theorem fit_stopped : fit c R true = ([], { stop := true, notified := false, ver := 0, sched := 0 }) := by
  simp [fit]
end loops

/-! ### properties of log segments that compose -/

/-- A property `P l s s'` of a log segment `l` taking the state from `s` to `s'` that holds of the steps `fit` is made of and
of `l₁ ++ l₂` whenever it holds of `l₁` and `l₂`. Then it holds of every batch, loop and epoch, and of the whole run (`Seg.fit`).
The dispatch of train-end is not asked for here (there the Timer prints whatever the flag says): `Seg.fit` takes it separately. -/
structure Seg (c : Cfg) (R : Req) (P : List Entry → S → S → Prop) : Prop where
  nil : ∀ s, P [] s s
  append : ∀ {l₁ l₂ s s₁ s₂}, P l₁ s s₁ → P l₂ s₁ s₂ → P (l₁ ++ l₂) s s₂
  dispatch : ∀ ev s, ev ≠ .trainEnd → P (dispatch c R ev s).1 s (dispatch c R ev s).2
  shuffle : ∀ e s, P [.shuffle e] s s
  optStep : ∀ e b s, P [.optStep e b] s { s with stop := s.stop || R.mid e b, ver := s.ver + 1 }
  schedStep : ∀ e s, P [.schedStep e] s { s with sched := s.sched + 1 }

namespace Seg
variable {c : Cfg} {R : Req} {P : List Entry → S → S → Prop} (h : Seg c R P)
include h

theorem batchStep (e : Int) (b : Nat) (s : S) : P (batchStep c R e b s).1 s (batchStep c R e b s).2 :=
  h.append (h.dispatch _ s (by simp)) (h.append (h.optStep e b _) (h.dispatch _ _ (by simp)))

theorem batchLoop (e : Int) (bs : List Nat) (s : S) : P (batchLoop c R e bs s).1 s (batchLoop c R e bs s).2 := by
  rw [batchLoop_eq]; exact breakLoop_seg h.nil h.append (h.batchStep e) bs s

theorem schedPhase (e : Int) (s : S) : P (schedPhase c e s).1 s (schedPhase c e s).2 := by
  unfold Train.schedPhase; split
  · exact h.schedStep e s
  · exact h.nil s

theorem runEpoch (e : Int) (s : S) : P (runEpoch c R e s).1 s (runEpoch c R e s).2 :=
  h.append (h.shuffle e s) (h.append (h.append (h.append (h.dispatch _ s (by simp)) (h.batchLoop e _ _))
    (h.schedPhase e _)) (h.dispatch _ _ (by simp)))

theorem epochLoop (es : List Int) (s : S) : P (epochLoop c R es s).1 s (epochLoop c R es s).2 := by
  rw [epochLoop_eq]; exact breakLoop_seg h.nil h.append h.runEpoch es s

theorem beforeTrainEnd (s : S) :
    P ((Train.dispatch c R .trainStart s).1 ++
        (Train.epochLoop c R (epochRange c.start c.epochs) (Train.dispatch c R .trainStart s).2).1) s
      (Train.epochLoop c R (epochRange c.start c.epochs) (Train.dispatch c R .trainStart s).2).2 :=
  h.append (h.dispatch _ s (by simp)) (h.epochLoop _ _)

theorem fit (hte : ∀ s, P (Train.dispatch c R .trainEnd s).1 s (Train.dispatch c R .trainEnd s).2) :
    P (fit c R false).1 { stop := false, notified := false, ver := 0, sched := 0 } (fit c R false).2 :=
  h.append (h.beforeTrainEnd _) (hte _)
end Seg

/-! ### what surrounds each event in the control skeleton -/

section skeleton
variable (c : Cfg) (R : Req)

/-- The control-skeleton entries `fit` produces around the emission of `ev`: the data are shuffled
right before `on_epoch_start`, `optimizer.step()` follows `on_batch_start`, `scheduler.step()`
(if there is a scheduler) precedes `on_epoch_end`. -/
def expandEv : Event → List Entry
  | .epochStart e => [.shuffle e, .emit (.epochStart e)]
  | .batchStart e b => [.emit (.batchStart e b), .optStep e b]
  | .epochEnd e => (if c.hasSched then [.schedStep e] else []) ++ [.emit (.epochEnd e)]
  | ev => [.emit ev]

/-- `skeleton l = (events l).flatMap (expandEv c)` is closed under `++`, but does not hold of a `shuffle` or an `optStep`
taken alone: it is carried through batch step and epoch, and through the two loops by `breakLoop_seg` -/
theorem batchLoop_skeleton (e : Int) (bs : List Nat) (s : S) :
    skeleton (batchLoop c R e bs s).1 = (events (batchLoop c R e bs s).1).flatMap (expandEv c) := by
  rw [batchLoop_eq]
  exact breakLoop_seg (P := fun l _ _ => skeleton l = (events l).flatMap (expandEv c)) (fun _ => rfl)
    (fun h₁ h₂ => by simp [h₁, h₂]) (fun b s => by simp [pairEv, expandEv]) bs s

theorem runEpoch_skeleton (e : Int) (s : S) :
    skeleton (runEpoch c R e s).1 = (events (runEpoch c R e s).1).flatMap (expandEv c) := by
  simp [runEpoch, batchLoop_skeleton, expandEv]

theorem fit_skeleton (stop₀ : Bool) :
    skeleton (fit c R stop₀).1 = (events (fit c R stop₀).1).flatMap (expandEv c) := by
  have h : ∀ es s, skeleton (epochLoop c R es s).1 = (events (epochLoop c R es s).1).flatMap (expandEv c) := by
    intro es s
    rw [epochLoop_eq]
    exact breakLoop_seg (P := fun l _ _ => skeleton l = (events l).flatMap (expandEv c)) (fun _ => rfl)
      (fun h₁ h₂ => by simp [h₁, h₂]) (fun e s => runEpoch_skeleton c R e s) es s
  cases stop₀ <;> simp [fit, h, expandEv]
end skeleton

/-! ### who is called; the flagged trace lists the same events as the trace -/

def callsOf (c : Cfg) (ev : Event) : List (Nat × Event) := c.cbs.map (fun i => (i, ev))

theorem calls_rets_seg (c : Cfg) (R : Req) :
    Seg c R (fun l _ _ => calls l = (events l).flatMap (callsOf c) ∧ (rets l).map Prod.fst = events l) where
  nil _ := ⟨rfl, rfl⟩
  append h₁ h₂ := by simp [h₁.1, h₁.2, h₂.1, h₂.2]
  dispatch ev s _ := by simp [callsOf]
  shuffle _ _ := ⟨rfl, rfl⟩
  optStep _ _ _ := ⟨rfl, rfl⟩
  schedStep _ _ := ⟨rfl, rfl⟩

theorem fit_calls_rets (c : Cfg) (R : Req) (stop₀ : Bool) :
    calls (fit c R stop₀).1 = (events (fit c R stop₀).1).flatMap (callsOf c) ∧
    (rets (fit c R stop₀).1).map Prod.fst = events (fit c R stop₀).1 := by
  cases stop₀
  · exact (calls_rets_seg c R).fit (fun s => by simp [callsOf])
  · rw [fit_stopped]; exact ⟨rfl, rfl⟩

/-! ### replay semantics of a log: the recorded flags / versions are the running OR / count -/

/-- running values while replaying a log: (stop flag, parameter version, scheduler steps) -/
abbrev RunSt := Bool × Nat × Nat

/-- the observable part of the model state -/
def S.key (s : S) : RunSt := (s.stop, s.ver, s.sched)

/-- replay one entry: requests OR into the flag, `optStep` bumps the version, `schedStep` the scheduler
count; a `call` / `ret` entry is *checked* against the running values (`none` = inconsistent log) -/
def trackStep (R : Req) (st : RunSt) : Entry → Option RunSt
  | .call i ev seen v => if seen = st.1 ∧ v = st.2.1 then some (st.1 || R.cb i ev, st.2) else none
  | .optStep e b => some (st.1 || R.mid e b, st.2.1 + 1, st.2.2)
  | .schedStep _ => some (st.1, st.2.1, st.2.2 + 1)
  | .ret _ f => if f = st.1 then some st else none
  | _ => some st

def track (R : Req) (st : RunSt) (l : List Entry) : Option RunSt := l.foldlM (trackStep R) st

@[simp] theorem track_nil (R : Req) (st : RunSt) : track R st [] = some st := rfl
theorem track_cons (R : Req) (st : RunSt) (x : Entry) (l : List Entry) :
    track R st (x :: l) = (trackStep R st x).bind (fun st' => track R st' l) := by
  simp [track, List.foldlM_cons]
theorem track_append (R : Req) (st : RunSt) (l₁ l₂ : List Entry) :
    track R st (l₁ ++ l₂) = (track R st l₁).bind (fun st' => track R st' l₂) := by
  simp [track, List.foldlM_append]

theorem trackStep_val {R : Req} {st st1 : RunSt} {x : Entry} (hx : trackStep R st x = some st1) :
    st1.1 = (st.1 || R.at x) ∧ st1.2.1 = st.2.1 + (if x.isOpt then 1 else 0) ∧
    st1.2.2 = st.2.2 + (if x.isSched then 1 else 0) := by
  cases x <;> simp only [trackStep, Option.ite_none_right_eq_some, Option.some.injEq] at hx <;>
    simp [← hx, Req.at, Entry.isOpt, Entry.isSched]

theorem track_val {R : Req} {l : List Entry} : ∀ {st st' : RunSt}, track R st l = some st' →
    st'.1 = (st.1 || l.any R.at) ∧ st'.2.1 = st.2.1 + l.countP Entry.isOpt ∧
    st'.2.2 = st.2.2 + l.countP Entry.isSched := by
  induction l with
  | nil => intro st st' h; cases h; simp
  | cons x l ih =>
    intro st st' h
    rw [track_cons] at h
    obtain ⟨st1, hx, h⟩ := Option.bind_eq_some_iff.mp h
    obtain ⟨h1, h2, h3⟩ := ih h
    obtain ⟨g1, g2, g3⟩ := trackStep_val hx
    refine ⟨?_, ?_, ?_⟩
    · rw [h1, g1, List.any_cons, Bool.or_assoc]
    · rw [h2, g2, List.countP_cons]; omega
    · rw [h3, g3, List.countP_cons]; omega

theorem track_split {R : Req} {st st' : RunSt} {pre post : List Entry} {x : Entry}
    (h : track R st (pre ++ x :: post) = some st') :
    ∃ st1 st2, track R st pre = some st1 ∧ trackStep R st1 x = some st2 := by
  rw [track_append] at h
  obtain ⟨st1, hp, h⟩ := Option.bind_eq_some_iff.mp h
  rw [track_cons] at h
  obtain ⟨st2, hx, _⟩ := Option.bind_eq_some_iff.mp h
  exact ⟨st1, st2, hp, hx⟩

theorem track_call {R : Req} {st st' : RunSt} {pre post : List Entry} {i : Nat} {ev : Event} {seen : Bool} {v : Nat}
    (h : track R st (pre ++ .call i ev seen v :: post) = some st') :
    seen = (st.1 || pre.any R.at) ∧ v = st.2.1 + pre.countP Entry.isOpt := by
  obtain ⟨st1, st2, hp, hx⟩ := track_split h
  obtain ⟨h1, h2, _⟩ := track_val hp
  simp only [trackStep, Option.ite_none_right_eq_some] at hx
  rw [← h1, ← h2]; exact hx.1

theorem track_ret {R : Req} {st st' : RunSt} {pre post : List Entry} {ev : Event} {f : Bool}
    (h : track R st (pre ++ .ret ev f :: post) = some st') : f = (st.1 || pre.any R.at) := by
  obtain ⟨st1, st2, hp, hx⟩ := track_split h
  simp only [trackStep, Option.ite_none_right_eq_some] at hx
  rw [← (track_val hp).1]; exact hx.1

section tracked
variable (c : Cfg) (R : Req)

theorem dispatchCbs_track (ev : Event) (ver sch : Nat) (cbs : List Nat) (stop : Bool) :
    track R (stop, ver, sch) (dispatchCbs R ev ver cbs stop).1 = some ((dispatchCbs R ev ver cbs stop).2, ver, sch) := by
  induction cbs generalizing stop with
  | nil => simp [dispatchCbs]
  | cons i rest ih =>
    simp only [dispatchCbs]
    rw [track_cons]
    simp [trackStep, ih]

theorem timerHandle_track (ev : Event) (s : S) (st : RunSt) :
    track R st (timerHandle ev s).1 = some st := by
  unfold timerHandle
  split <;> (try split) <;> simp [track_cons, trackStep]

theorem timerHandle_key (ev : Event) (s : S) : (timerHandle ev s).2.key = s.key := by
  simp [S.key, timerHandle_state]

theorem dispatch_track (ev : Event) (s : S) :
    track R s.key (dispatch c R ev s).1 = some (dispatch c R ev s).2.key := by
  unfold dispatch
  simp only [track_cons, trackStep, Option.bind_some]
  rw [track_append, track_append]
  simp only [S.key]
  rw [dispatchCbs_track]
  by_cases ht : c.timer
  · simp [ht, timerHandle_track, track_cons, trackStep, timerHandle_state]
  · simp [ht, track_cons, trackStep]

theorem track_seg : Seg c R (fun l s s' => track R s.key l = some s'.key) where
  nil _ := rfl
  append h₁ h₂ := by rw [track_append, h₁]; exact h₂
  dispatch ev s _ := dispatch_track c R ev s
  shuffle _ _ := rfl
  optStep _ _ _ := rfl
  schedStep _ _ := rfl

theorem fit_track (stop₀ : Bool) :
    track R (stop₀, 0, 0) (fit c R stop₀).1 = some (fit c R stop₀).2.key := by
  cases stop₀
  · exact (track_seg c R).fit (dispatch_track c R _)
  · rw [fit_stopped]; rfl
end tracked

/-! ### nothing starts after an end event at which the flag is set -/

def Event.isStart : Event → Bool
  | .batchStart .. => true
  | .epochStart _ => true
  | _ => false

/-- `on_batch_end` / `on_epoch_end` (the two places where `fit` tests the flag) -/
def Event.isEnd : Event → Bool
  | .batchEnd .. => true
  | .epochEnd _ => true
  | _ => false

/-- relation between an earlier and a later `(event, flag after its dispatch)`: if the earlier one is an
end event that left the flag set, the later one is not a start event -/
def AfterStopOK (x y : Event × Bool) : Prop := x.1.isEnd = true → x.2 = true → y.1.isStart = false

/-- recorded flags never exceed the final flag (the flag is sticky) -/
theorem final_flag_of_flagged_ret {R : Req} {st st' : RunSt} {l : List Entry} (h : track R st l = some st')
    (x : Event × Bool) (hx : x ∈ rets l) (hf : x.2 = true) : st'.1 = true := by
  -- a member of `rets l` is a `ret` entry of `l`
  simp only [rets, List.mem_filterMap] at hx
  obtain ⟨a, ha, hxa⟩ := hx
  cases a <;> simp at hxa
  subst hxa
  obtain ⟨pre, post, rfl⟩ := List.append_of_mem ha
  have h1 := track_ret h
  dsimp only at hf
  rw [hf] at h1
  rw [(track_val h).1, List.any_append, ← Bool.or_assoc, ← h1]; rfl

/-- in a loop with `break`: a flagged end event inside an iteration leaves the flag set (it is sticky), so no further
iteration is started -/
theorem breakLoop_afterStop {α : Type} {body : α → S → List Entry × S} {R : Req}
    (htrack : ∀ a s, track R s.key (body a s).1 = some (body a s).2.key)
    (hbody : ∀ a s, (rets (body a s).1).Pairwise AfterStopOK) (l : List α) (s : S) :
    (rets (breakLoop body l s).1).Pairwise AfterStopOK := by
  induction l generalizing s with
  | nil => exact List.Pairwise.nil
  | cons a l ih =>
    rw [breakLoop_cons]
    split
    · exact hbody a s
    · next h =>
      rw [rets_append, List.pairwise_append]
      exact ⟨hbody a s, ih _, fun x hx y _ _ hf => absurd (final_flag_of_flagged_ret (htrack a s) x hx hf) h⟩

theorem afterStop_frame {x y : Event × Bool} {m : List (Event × Bool)} (hx : x.1.isEnd = false) (hy : y.1.isStart = false)
    (hm : m.Pairwise AfterStopOK) : (x :: (m ++ [y])).Pairwise AfterStopOK := by
  simp [List.pairwise_append, AfterStopOK, hx, hy, hm]

section afterstop
variable (c : Cfg) (R : Req)

theorem runEpoch_afterStop (e : Int) (s : S) : (rets (runEpoch c R e s).1).Pairwise AfterStopOK := by
  have hb : ∀ s, (rets (batchLoop c R e (List.range c.numBatches) s).1).Pairwise AfterStopOK := by
    intro s
    rw [batchLoop_eq]
    exact breakLoop_afterStop ((track_seg c R).batchStep e) (fun b s => by simp [AfterStopOK, Event.isEnd]) _ s
  simp only [runEpoch, rets_shuffle, rets_append, dispatch_rets, schedPhase_rets, List.append_nil,
    List.cons_append, List.nil_append]
  exact afterStop_frame rfl rfl (hb _)

theorem fit_afterStop (stop₀ : Bool) : (rets (fit c R stop₀).1).Pairwise AfterStopOK := by
  cases stop₀
  · simp only [fit, Bool.false_eq_true, if_false, rets_append, dispatch_rets, List.cons_append, List.nil_append,
      epochLoop_eq]
    exact afterStop_frame rfl rfl
      (breakLoop_afterStop (track_seg c R).runEpoch (runEpoch_afterStop c R) _ _)
  · rw [fit_stopped]; exact List.Pairwise.nil
end afterstop

/-! ### two list facts -/

theorem flatMap_congr {α β : Type} {l : List α} {f g : α → List β} (h : ∀ a ∈ l, f a = g a) :
    l.flatMap f = l.flatMap g := by
  rw [List.flatMap_def, List.flatMap_def, List.map_congr_left h]

theorem not_mem_of_last_once {α : Type} [DecidableEq α] {A B : List α} {x : α} (hc : (A ++ B).count x = 1)
    (hl : (A ++ B).getLast? = some x) (hA : A.getLast? ≠ some x) : x ∉ A := by
  intro hx
  have hB : x ∈ B := by
    rw [List.getLast?_append] at hl
    cases hb : B.getLast? with
    | none => rw [hb] at hl; exact absurd hl hA
    | some z => rw [hb] at hl; cases hl; exact List.mem_of_getLast? hb
  have h1 := List.count_pos_iff.mpr hx
  have h2 := List.count_pos_iff.mpr hB
  rw [List.count_append] at hc
  omega

/-! ### `epochRange a b` is `a, a+1, …, b` -/

/-- the range with its length given as a natural number (keeps `toNat` out of the arithmetic) -/
theorem epochRange_eq {a b : Int} {n : Nat} (h : b + 1 - a = n) :
    epochRange a b = (List.range n).map (fun (k : Nat) => a + (k : Int)) := by
  unfold epochRange; rw [h, Int.toNat_natCast]

theorem epochRange_empty {a b : Int} (h : b < a) : epochRange a b = [] := by
  unfold epochRange; rw [Int.toNat_of_nonpos (by omega)]; rfl

theorem epochRange_self (a : Int) : epochRange a a = [a] := by
  rw [epochRange_eq (n := 1) (by omega)]; simp

theorem epochRange_append {a m b : Int} (h₁ : a ≤ m + 1) (h₂ : m ≤ b) :
    epochRange a b = epochRange a m ++ epochRange (m + 1) b := by
  obtain ⟨n₁, hn₁⟩ := Int.eq_ofNat_of_zero_le (Int.sub_nonneg_of_le h₁)
  obtain ⟨n₂, hn₂⟩ := Int.eq_ofNat_of_zero_le (Int.sub_nonneg_of_le h₂)
  rw [epochRange_eq hn₁, epochRange_eq (a := m + 1) (b := b) (n := n₂) (by omega),
    epochRange_eq (a := a) (b := b) (n := n₁ + n₂) (by omega), List.range_add, List.map_append, List.map_map]
  congr 1; apply List.map_congr_left; intro k _; simp only [Function.comp]; omega

theorem epochRange_take (a b : Int) (k : Nat) : ∃ m, m ≤ b ∧ (epochRange a b).take k = epochRange a m := by
  by_cases h : b < a
  · exact ⟨b, Int.le_refl b, by rw [epochRange_empty h, List.take_nil]⟩
  · obtain ⟨n, hn⟩ := Int.eq_ofNat_of_zero_le (show 0 ≤ b + 1 - a by omega)
    refine ⟨a + (min k n : Nat) - 1, by omega, ?_⟩
    rw [epochRange_eq hn, epochRange_eq (n := min k n) (by omega), ← List.map_take, List.take_range]

theorem epochRange_rec (a b : Int) :
    epochRange a b = if b < a then [] else a :: epochRange (a + 1) b := by
  split
  · next h => exact epochRange_empty h
  · next h => rw [epochRange_append (m := a) (by omega) (by omega), epochRange_self]; rfl

theorem epochRange_snoc (a e : Int) (h : a ≤ e) : epochRange a e = epochRange a (e - 1) ++ [e] := by
  rw [epochRange_append (m := e - 1) (by omega) (by omega), Int.sub_add_cancel, epochRange_self]

theorem epochRange_split {a e b : Int} (h₁ : a ≤ e) (h₂ : e ≤ b) :
    epochRange a b = epochRange a (e - 1) ++ e :: epochRange (e + 1) b := by
  rw [epochRange_append (m := e - 1) (by omega) (by omega), Int.sub_add_cancel, epochRange_rec e b, if_neg (by omega)]

theorem mem_epochRange (a b e : Int) : e ∈ epochRange a b ↔ a ≤ e ∧ e ≤ b := by
  unfold epochRange
  simp only [List.mem_map, List.mem_range]
  constructor
  · rintro ⟨k, hk, rfl⟩; omega
  · intro h; exact ⟨(e - a).toNat, by omega, by omega⟩

/-! ### the closed form, made convenient -/
section closed
variable (c : Cfg) (R : Req)

theorem batchesRun_le (stopIn : Bool) (e : Int) : batchesRun c R stopIn e ≤ c.numBatches := by
  unfold batchesRun; omega

theorem batchesRun_pos (stopIn : Bool) (e : Int) (h : 1 ≤ c.numBatches) : 1 ≤ batchesRun c R stopIn e := by
  unfold batchesRun cut; split <;> omega

theorem batchesRun_of_stop (stopIn : Bool) (e : Int) (h : 1 ≤ c.numBatches)
    (hs : (stopIn || reqEv c R (.epochStart e)) = true) : batchesRun c R stopIn e = 1 := by
  unfold batchesRun cut; rw [hs]; simp; omega

theorem batchesRun_quiet (e : Int) (hs : reqEv c R (.epochStart e) = false)
    (hq : ∀ b, b < c.numBatches → batchReq c R e b = false) : batchesRun c R false e = c.numBatches := by
  unfold batchesRun cut
  have : (List.range c.numBatches).findIdx (batchReq c R e) = c.numBatches := by
    have h0 := List.findIdx_eq_length_of_false (p := batchReq c R e) (xs := List.range c.numBatches)
      (fun x hx => hq x (List.mem_range.mp hx))
    simpa using h0
  simp [hs, this]

theorem batchesRun_first (e : Int) (j : Nat) (hs : reqEv c R (.epochStart e) = false) (hj : j < c.numBatches)
    (hq : ∀ b, b < j → batchReq c R e b = false) (hr : batchReq c R e j = true) :
    batchesRun c R false e = j + 1 := by
  unfold batchesRun cut
  have : (List.range c.numBatches).findIdx (batchReq c R e) = j := by
    rw [List.findIdx_eq (by simpa using hj)]
    constructor
    · simpa using hr
    · intro k hk; simpa using hq k hk
  simp [hs, this]; omega

theorem batchesRun_of_not_epochReq (e : Int) (h : epochReq c R e = false) :
    batchesRun c R false e = c.numBatches := by
  simp only [epochReq, Bool.or_eq_false_iff, List.any_eq_false, List.mem_range] at h
  exact batchesRun_quiet c R e h.1.1 (fun b hb => by simpa using h.1.2 b hb)

def runEpochs (es : List Int) : List Event :=
  (es.take (cut false (epochReq c R) es)).flatMap (epochEv c R false)

theorem runEpochs_cons (e : Int) (es : List Int) :
    runEpochs c R (e :: es) = epochEv c R false e ++ (if epochReq c R e then [] else runEpochs c R es) := by
  cases h : epochReq c R e <;> simp [runEpochs, cut, List.findIdx_cons, h]

theorem runEpochs_quiet {es : List Int} (h : ∀ e ∈ es, epochReq c R e = false) :
    runEpochs c R es = es.flatMap (epochEv c R false) := by
  induction es with
  | nil => rfl
  | cons e es ih =>
    rw [runEpochs_cons, h e List.mem_cons_self, ih (fun x hx => h x (List.mem_cons_of_mem _ hx))]; rfl

theorem runEpochs_first {l₁ l₂ : List Int} {e : Int} (h : ∀ x ∈ l₁, epochReq c R x = false)
    (he : epochReq c R e = true) :
    runEpochs c R (l₁ ++ e :: l₂) = l₁.flatMap (epochEv c R false) ++ epochEv c R false e := by
  induction l₁ with
  | nil => simp [runEpochs_cons, he]
  | cons x l ih =>
    rw [List.cons_append, runEpochs_cons, h x List.mem_cons_self, ih (fun y hy => h y (List.mem_cons_of_mem _ hy))]
    simp

theorem fit_events_of_quiet_start (h : reqEv c R .trainStart = false) :
    events (fit c R false).1 = .trainStart :: (runEpochs c R (epochRange c.start c.epochs) ++ [.trainEnd]) := by
  rw [fit_events, h]; rfl

theorem fit_events_of_req_at_start (h : reqEv c R .trainStart = true) :
    events (fit c R false).1 =
      .trainStart :: (((epochRange c.start c.epochs).take 1).flatMap (epochEv c R true) ++ [.trainEnd]) := by
  rw [fit_events, h]; rfl
end closed

/-! ### the `Timer` is transparent: with `time=True` the log is the log without it plus `print` entries -/

def noPrint (l : List Entry) : List Entry := l.filter fun | .print _ => false | _ => true

section noprint
variable (l₁ l₂ l : List Entry) (ev : Event) (i : Nat) (f : Bool) (v : Nat) (m : TimerMsg) (e : Int) (b : Nat)
@[simp] theorem noPrint_append : noPrint (l₁ ++ l₂) = noPrint l₁ ++ noPrint l₂ := List.filter_append ..
@[simp] theorem noPrint_nil : noPrint [] = [] := rfl
@[simp] theorem noPrint_emit : noPrint (.emit ev :: l) = .emit ev :: noPrint l := rfl
@[simp] theorem noPrint_call : noPrint (.call i ev f v :: l) = .call i ev f v :: noPrint l := rfl
@[simp] theorem noPrint_print : noPrint (.print m :: l) = noPrint l := rfl
@[simp] theorem noPrint_ret : noPrint (.ret ev f :: l) = .ret ev f :: noPrint l := rfl
@[simp] theorem noPrint_shuffle : noPrint (.shuffle e :: l) = .shuffle e :: noPrint l := rfl
@[simp] theorem noPrint_opt : noPrint (.optStep e b :: l) = .optStep e b :: noPrint l := rfl
@[simp] theorem noPrint_sched : noPrint (.schedStep e :: l) = .schedStep e :: noPrint l := rfl
end noprint

theorem noPrint_proj (l : List Entry) :
    events (noPrint l) = events l ∧ calls (noPrint l) = calls l ∧ rets (noPrint l) = rets l ∧
    skeleton (noPrint l) = skeleton l := by
  induction l with
  | nil => simp
  | cons x l ih =>
    obtain ⟨h1, h2, h3, h4⟩ := ih
    cases x <;> simp [h1, h2, h3, h4]

theorem prints_noPrint (l : List Entry) : prints (noPrint l) = [] := by
  induction l with
  | nil => rfl
  | cons x l ih => cases x <;> simp [ih]

def Cfg.withTimer (c : Cfg) (t : Bool) : Cfg := { c with timer := t }

/-- "equal up to what the Timer adds": same log after dropping printed lines, same flag / version / scheduler count -/
def TimerEq (r r' : List Entry × S) : Prop := noPrint r.1 = r'.1 ∧ r.2.key = r'.2.key

theorem fields_of_key_eq {s s' : S} (h : s.key = s'.key) : s.stop = s'.stop ∧ s.ver = s'.ver ∧ s.sched = s'.sched := by
  simp only [S.key, Prod.mk.injEq] at h
  exact h

/-- the simulation lifts from the body of a loop with `break` to the loop: equal keys, so both sides break together -/
theorem breakLoop_timerEq {α : Type} {body body' : α → S → List Entry × S}
    (hbody : ∀ a {s s'}, s.key = s'.key → TimerEq (body a s) (body' a s')) (l : List α) {s s' : S}
    (h : s.key = s'.key) : TimerEq (breakLoop body l s) (breakLoop body' l s') := by
  induction l generalizing s s' with
  | nil => exact ⟨rfl, h⟩
  | cons a l ih =>
    obtain ⟨g1, g2⟩ := hbody a h
    rw [breakLoop_cons, breakLoop_cons, (fields_of_key_eq g2).1]
    split
    · exact ⟨g1, g2⟩
    · exact ⟨by rw [noPrint_append, g1, (ih g2).1], (ih g2).2⟩

section timer
variable (c : Cfg) (R : Req)

theorem noPrint_dispatchCbs (ev : Event) (ver : Nat) (cbs : List Nat) (stop : Bool) :
    noPrint (dispatchCbs R ev ver cbs stop).1 = (dispatchCbs R ev ver cbs stop).1 := by
  induction cbs generalizing stop with
  | nil => simp [dispatchCbs]
  | cons i rest ih => simp [dispatchCbs, ih]

theorem noPrint_timerHandle (ev : Event) (s : S) : noPrint (timerHandle ev s).1 = [] := by
  unfold timerHandle
  split <;> (try split) <;> simp

/-- The simulation is stated against ANY configuration `c` (Timer or not) on the left; for the run with the Timer take
`c.withTimer true`, whose `withTimer false` is `c.withTimer false`. -/
theorem dispatch_timerEq (ev : Event) {s s' : S} (h : s.key = s'.key) :
    TimerEq (dispatch c R ev s) (dispatch (c.withTimer false) R ev s') := by
  obtain ⟨h1, h2, h3⟩ := fields_of_key_eq h
  unfold TimerEq dispatch Cfg.withTimer
  cases c.timer <;>
    simp [noPrint_dispatchCbs, noPrint_timerHandle, timerHandle_state, S.key, h1, h2, h3]

theorem batchStep_timerEq (e : Int) (b : Nat) {s s' : S} (h : s.key = s'.key) :
    TimerEq (batchStep c R e b s) (batchStep (c.withTimer false) R e b s') := by
  unfold batchStep
  obtain ⟨g1, g2⟩ := dispatch_timerEq c R (.batchStart e b) h
  obtain ⟨k1, k2, k3⟩ := fields_of_key_eq g2
  obtain ⟨g3, g4⟩ := dispatch_timerEq c R (.batchEnd e b)
    (s := { (dispatch c R (.batchStart e b) s).2 with
      stop := (dispatch c R (.batchStart e b) s).2.stop || R.mid e b,
      ver := (dispatch c R (.batchStart e b) s).2.ver + 1 })
    (s' := { (dispatch (c.withTimer false) R (.batchStart e b) s').2 with
      stop := (dispatch (c.withTimer false) R (.batchStart e b) s').2.stop || R.mid e b,
      ver := (dispatch (c.withTimer false) R (.batchStart e b) s').2.ver + 1 })
    (by simp only [S.key, k1, k2, k3])
  exact ⟨by simp only [noPrint_append, noPrint_opt, g1, g3], g4⟩

theorem schedPhase_timerEq (e : Int) {s s' : S} (h : s.key = s'.key) :
    TimerEq (schedPhase c e s) (schedPhase (c.withTimer false) e s') := by
  obtain ⟨h1, h2, h3⟩ := fields_of_key_eq h
  unfold TimerEq schedPhase Cfg.withTimer
  split <;> simp [S.key, h1, h2, h3]

theorem runEpoch_timerEq (e : Int) {s s' : S} (h : s.key = s'.key) :
    TimerEq (runEpoch c R e s) (runEpoch (c.withTimer false) R e s') := by
  unfold runEpoch
  obtain ⟨a1, a2⟩ := dispatch_timerEq c R (.epochStart e) h
  have hb := breakLoop_timerEq (fun b => batchStep_timerEq c R e b) (List.range c.numBatches) a2
  rw [← batchLoop_eq, ← batchLoop_eq] at hb
  obtain ⟨b1, b2⟩ := hb
  obtain ⟨c1, c2⟩ := schedPhase_timerEq c e b2
  obtain ⟨d1, d2⟩ := dispatch_timerEq c R (.epochEnd e) c2
  exact ⟨by simp only [noPrint_shuffle, noPrint_append, a1]; simp only [Cfg.withTimer] at *; rw [b1, c1, d1], d2⟩

theorem fit_timerEq (stop₀ : Bool) :
    TimerEq (fit (c.withTimer true) R stop₀) (fit (c.withTimer false) R stop₀) := by
  cases stop₀
  · have key : ∀ c : Cfg, TimerEq (fit c R false) (fit (c.withTimer false) R false) := by
      intro c
      unfold fit
      simp only [Bool.false_eq_true, if_false]
      obtain ⟨a1, a2⟩ := dispatch_timerEq c R .trainStart
        (s := { stop := false, notified := false, ver := 0, sched := 0 })
        (s' := { stop := false, notified := false, ver := 0, sched := 0 }) rfl
      have hb := breakLoop_timerEq (fun e => runEpoch_timerEq c R e) (epochRange c.start c.epochs) a2
      rw [← epochLoop_eq, ← epochLoop_eq] at hb
      obtain ⟨b1, b2⟩ := hb
      obtain ⟨c1, c2⟩ := dispatch_timerEq c R .trainEnd b2
      exact ⟨by simp only [noPrint_append, a1]; simp only [Cfg.withTimer] at *; rw [b1, c1], c2⟩
    -- `(c.withTimer true).withTimer false` is `c.withTimer false` by unfolding `withTimer`
    exact key (c.withTimer true)
  · simp only [fit_stopped]; exact ⟨rfl, rfl⟩
end timer

/-! ### the first handler invocation that raises -/

/-- `calls [x]` is empty unless `x` is a `call`, so the one hypothesis covers every kind of entry -/
theorem cutAtRaise_cons {X : Nat → Event → Option PyErr} (x : Entry) (l : List Entry)
    (h : ∀ p ∈ calls [x], X p.1 p.2 = none) :
    cutAtRaise X (x :: l) = (cutAtRaise X l).map (fun p => (x :: p.1, p.2)) := by
  cases x with
  | call i ev seen ver =>
    have : X i ev = none := h (i, ev) (List.mem_singleton.mpr rfl)
    simp only [cutAtRaise, this]
  | _ => rfl

theorem cutAtRaise_some {X : Nat → Event → Option PyErr} :
    ∀ {l pre : List Entry} {e : PyErr}, cutAtRaise X l = some (pre, e) →
      ∃ pre' i ev seen ver post, pre = pre' ++ [Entry.call i ev seen ver] ∧ l = pre ++ post ∧ X i ev = some e ∧
        (∀ p ∈ calls pre', X p.1 p.2 = none) := by
  intro l
  induction l with
  | nil => intro pre e h; simp [cutAtRaise] at h
  | cons x l ih =>
    intro pre e h
    by_cases hx : ∀ p ∈ calls [x], X p.1 p.2 = none
    · rw [cutAtRaise_cons x l hx] at h
      obtain ⟨⟨q, e'⟩, hq, hm⟩ := Option.map_eq_some_iff.mp h
      cases hm
      obtain ⟨pre', i, ev, seen, ver, post, rfl, rfl, e3, e4⟩ := ih hq
      refine ⟨x :: pre', i, ev, seen, ver, post, rfl, rfl, e3, fun p hp => ?_⟩
      rw [calls_cons, List.mem_append] at hp
      exact hp.elim (hx p) (e4 p)
    · cases x <;> simp at hx
      next i ev seen ver =>
      obtain ⟨e', he'⟩ := Option.ne_none_iff_exists'.mp hx
      simp only [cutAtRaise, he', Option.some.injEq, Prod.mk.injEq] at h
      obtain ⟨rfl, rfl⟩ := h
      exact ⟨[], i, ev, seen, ver, l, rfl, rfl, he', fun p hp => by simp at hp⟩

theorem cutAtRaise_none {X : Nat → Event → Option PyErr} :
    ∀ {l : List Entry}, (∀ p ∈ calls l, X p.1 p.2 = none) → cutAtRaise X l = none := by
  intro l
  induction l with
  | nil => intro _; rfl
  | cons x l ih =>
    intro h
    rw [calls_cons] at h
    rw [cutAtRaise_cons x l (fun p hp => h p (List.mem_append_left _ hp)),
      ih (fun p hp => h p (List.mem_append_right _ hp))]; rfl

/-! ### `CallbackList` container operations as plain list surgery -/

theorem insertIdx_take_drop {α : Type} (x : α) : ∀ (l : List α) (i : Nat), i ≤ l.length →
    l.insertIdx i x = l.take i ++ x :: l.drop i := by
  intro l
  induction l with
  | nil => intro i h; have : i = 0 := by simpa using h
           subst this; rfl
  | cons a l ih =>
    intro i h
    cases i with
    | zero => rfl
    | succ i =>
      rw [List.insertIdx_succ_cons, ih i (by simpa using h)]
      rfl

theorem pyIdx_eq_some_iff {n : Nat} {k : Int} {j : Nat} : pyIdx n k = some j ↔
    ((0 ≤ k ∧ k < n ∧ (j : Int) = k) ∨ (k < 0 ∧ -(n : Int) ≤ k ∧ (j : Int) = k + n)) := by
  unfold pyIdx
  by_cases hk : k < 0
  · simp only [if_pos hk]
    by_cases h1 : k + (n : Int) < 0
    · simp only [if_pos h1, reduceCtorEq, false_iff]; omega
    · by_cases h2 : (k + (n : Int)).toNat < n
      · simp only [if_neg h1, if_pos h2, Option.some.injEq]; omega
      · simp only [if_neg h1, if_neg h2, reduceCtorEq, false_iff]; omega
  · simp only [if_neg hk]
    by_cases h2 : k.toNat < n
    · simp only [if_pos h2, Option.some.injEq]; omega
    · simp only [if_neg h2, reduceCtorEq, false_iff]; omega

theorem pyIdx_none {n : Nat} {k : Int} (h : pyIdx n k = none) : k < -(n : Int) ∨ (n : Int) ≤ k := by
  by_cases h0 : 0 ≤ k
  · by_cases h1 : k < n
    · rw [pyIdx_eq_some_iff.mpr (.inl ⟨h0, h1, Int.toNat_of_nonneg h0⟩)] at h; cases h
    · exact .inr (by omega)
  · by_cases h1 : -(n : Int) ≤ k
    · rw [pyIdx_eq_some_iff.mpr (.inr ⟨by omega, h1, Int.toNat_of_nonneg (by omega)⟩)] at h; cases h
    · exact .inl (by omega)

theorem insIdx_le (n : Nat) (k : Int) : insIdx n k ≤ n := by
  unfold insIdx
  by_cases hk : k < 0 <;> simp only [hk, if_true, if_false] <;> (try split) <;> omega

/-! ### what the `Timer` prints -/

/-- an end event (`on_batch_end` / `on_epoch_end`) after whose user callbacks the flag is set -/
def endSet (x : Event × Bool) : Bool := x.1.isEnd && x.2

/-- the line the Timer prints when it first sees the flag set at this event -/
def timerLine : Event → List TimerMsg
  | .batchEnd e b => [.terminatedBatch e b]
  | .epochEnd e => [.terminatedEpoch e]
  | _ => []

/-- the "Training terminated" line of a flagged trace: at its first end event with the flag set -/
def firstMsg (r : List (Event × Bool)) : List TimerMsg :=
  match r.find? endSet with
  | some x => timerLine x.1
  | none => []

theorem firstMsg_append (r1 r2 : List (Event × Bool)) :
    firstMsg (r1 ++ r2) = if r1.any endSet then firstMsg r1 else firstMsg r2 := by
  unfold firstMsg
  rw [List.find?_append]
  cases h : r1.find? endSet with
  | some x => rw [if_pos (List.any_eq_true.mpr ⟨x, List.mem_of_find?_eq_some h, List.find?_some h⟩)]; rfl
  | none => rw [List.any_eq_false.mpr (List.find?_eq_none.mp h)]; rfl

theorem firstMsg_of_not_any {r : List (Event × Bool)} (h : r.any endSet = false) : firstMsg r = [] := by
  rw [firstMsg, List.find?_eq_none.mpr (List.any_eq_false.mp h)]

/-- a log segment run from a state with `already_notified = n` to one with `n'` behaves like the Timer: it prints
the terminated-line of its first flagged end event unless already notified -/
def TimerSeg (l : List Entry) (n n' : Bool) : Prop :=
  prints l = (if n then [] else firstMsg (rets l)) ∧ n' = (n || (rets l).any endSet)

theorem TimerSeg.append {l1 l2 : List Entry} {n n1 n2 : Bool} (h1 : TimerSeg l1 n n1) (h2 : TimerSeg l2 n1 n2) :
    TimerSeg (l1 ++ l2) n n2 := by
  obtain ⟨a1, a2⟩ := h1
  obtain ⟨b1, b2⟩ := h2
  refine ⟨?_, ?_⟩
  · rw [prints_append, rets_append, a1, b1, a2, firstMsg_append]
    cases n <;> cases h : (rets l1).any endSet <;> simp [firstMsg_of_not_any, h]
  · rw [rets_append, List.any_append, b2, a2, Bool.or_assoc]

theorem TimerSeg.nil (n : Bool) : TimerSeg [] n n := by simp [TimerSeg, firstMsg]

theorem TimerSeg.silent {l : List Entry} (n : Bool) (hp : prints l = []) (hr : rets l = []) : TimerSeg l n n := by
  simp [TimerSeg, hp, hr, firstMsg]

section timerprints
variable (c : Cfg) (R : Req)

theorem dispatch_timerSeg (ev : Event) (s : S) (hev : ev ≠ .trainEnd) :
    TimerSeg (dispatch (c.withTimer true) R ev s).1 s.notified (dispatch (c.withTimer true) R ev s).2.notified := by
  unfold TimerSeg
  rw [dispatch_rets]
  unfold dispatch Cfg.withTimer
  simp only [if_true, prints_emit, prints_append, dispatchCbs_prints, List.nil_append,
    dispatchCbs_stop, reqEv]
  cases ev with
  | trainEnd => exact absurd rfl hev
  | batchEnd e b =>
    cases hn : s.notified <;> cases hs : (s.stop || c.cbs.any fun i => R.cb i (.batchEnd e b)) <;>
      simp [timerHandle, firstMsg, endSet, Event.isEnd, timerLine, *]
  | epochEnd e =>
    cases hn : s.notified <;> cases hs : (s.stop || c.cbs.any fun i => R.cb i (.epochEnd e)) <;>
      simp [timerHandle, firstMsg, endSet, Event.isEnd, timerLine, *]
  | _ => cases hn : s.notified <;> simp [timerHandle, firstMsg, endSet, Event.isEnd]

theorem timer_seg : Seg (c.withTimer true) R (fun l s s' => TimerSeg l s.notified s'.notified) where
  nil s := TimerSeg.nil s.notified
  append := TimerSeg.append
  dispatch := dispatch_timerSeg c R
  shuffle _ _ := TimerSeg.silent _ rfl rfl
  optStep _ _ _ := TimerSeg.silent _ rfl rfl
  schedStep _ _ := TimerSeg.silent _ rfl rfl

theorem dispatch_trainEnd_prints (s : S) :
    prints (dispatch (c.withTimer true) R .trainEnd s).1 = [.total] := by
  unfold dispatch Cfg.withTimer
  simp [timerHandle, dispatchCbs_prints]

theorem fit_prints :
    ∃ pre, rets (fit (c.withTimer true) R false).1 = pre ++ [(.trainEnd, (fit (c.withTimer true) R false).2.stop)] ∧
      prints (fit (c.withTimer true) R false).1 = firstMsg pre ++ [.total] := by
  have h := ((timer_seg c R).beforeTrainEnd { stop := false, notified := false, ver := 0, sched := 0 }).1
  simp only [fit, Bool.false_eq_true, if_false] at h ⊢
  rw [rets_append, prints_append, h, dispatch_rets, dispatch_stop, dispatch_trainEnd_prints]
  exact ⟨_, rfl, rfl⟩
end timerprints

/-! ### every handler invocation is for the event emitted last -/

/-- the event being dispatched after the log `l` (the last one emitted), `cur` if none was emitted in `l` -/
def curAfter (cur : Option Event) : List Entry → Option Event
  | [] => cur
  | .emit ev :: l => curAfter (some ev) l
  | _ :: l => curAfter cur l

/-- every handler invocation in `l` is for the event emitted last before it -/
def callsOK (cur : Option Event) : List Entry → Bool
  | [] => true
  | .emit ev :: l => callsOK (some ev) l
  | .call _ ev _ _ :: l => (cur == some ev) && callsOK cur l
  | _ :: l => callsOK cur l

theorem curAfter_append (cur : Option Event) (l₁ l₂ : List Entry) :
    curAfter cur (l₁ ++ l₂) = curAfter (curAfter cur l₁) l₂ := by
  induction l₁ generalizing cur with
  | nil => rfl
  | cons x l ih => cases x <;> simp [curAfter, ih]

theorem callsOK_append (cur : Option Event) (l₁ l₂ : List Entry) :
    callsOK cur (l₁ ++ l₂) = (callsOK cur l₁ && callsOK (curAfter cur l₁) l₂) := by
  induction l₁ generalizing cur with
  | nil => simp [callsOK, curAfter]
  | cons x l ih => cases x <;> simp [callsOK, curAfter, ih, Bool.and_assoc]

theorem curAfter_eq_getLast? (l : List Entry) (cur : Option Event) :
    curAfter cur l = ((events l).getLast?).or cur := by
  induction l generalizing cur with
  | nil => simp [curAfter]
  | cons x l ih =>
    cases x <;> simp [curAfter, ih]
    rename_i ev
    cases h : (events l).getLast? with
    | none => simp [List.getLast?_eq_none_iff.mp h]
    | some y =>
      have hne : events l ≠ [] := by intro h0; rw [h0] at h; simp at h
      rw [List.getLast?_cons_of_ne_nil hne] <;> simp [h]

section callsok
variable (c : Cfg) (R : Req)

theorem dispatchCbs_callsOK (ev : Event) (ver : Nat) (cbs : List Nat) (stop : Bool) :
    callsOK (some ev) (dispatchCbs R ev ver cbs stop).1 = true ∧
    curAfter (some ev) (dispatchCbs R ev ver cbs stop).1 = some ev := by
  induction cbs generalizing stop with
  | nil => simp [dispatchCbs, callsOK, curAfter]
  | cons i rest ih => simp [dispatchCbs, callsOK, curAfter, ih]

theorem timerHandle_callsOK (ev : Event) (s : S) (cur : Option Event) :
    callsOK cur (timerHandle ev s).1 = true ∧ curAfter cur (timerHandle ev s).1 = cur := by
  unfold timerHandle
  split <;> (try split) <;> simp [callsOK, curAfter]

theorem dispatch_callsOK (ev : Event) (s : S) (cur : Option Event) :
    callsOK cur (dispatch c R ev s).1 = true := by
  unfold dispatch
  simp only [callsOK, callsOK_append, (dispatchCbs_callsOK R ev s.ver c.cbs s.stop).1,
    (dispatchCbs_callsOK R ev s.ver c.cbs s.stop).2, Bool.true_and]
  split <;> simp [callsOK, (timerHandle_callsOK _ _ _).1]

/-- whatever was emitted before a segment of `fit`'s log, its invocations are for the event emitted last -/
theorem callsOK_seg : Seg c R (fun l _ _ => ∀ cur, callsOK cur l = true) where
  nil _ _ := rfl
  append h₁ h₂ cur := by rw [callsOK_append, h₁, h₂]; rfl
  dispatch ev s _ := dispatch_callsOK c R ev s
  shuffle _ _ _ := rfl
  optStep _ _ _ _ := rfl
  schedStep _ _ _ := rfl

theorem fit_callsOK (stop₀ : Bool) : callsOK none (fit c R stop₀).1 = true := by
  cases stop₀
  · exact (callsOK_seg c R).fit (dispatch_callsOK c R _) none
  · rw [fit_stopped]; rfl
end callsok

theorem callsOK_split {cur : Option Event} {pre post : List Entry} {i : Nat} {ev : Event} {seen : Bool} {v : Nat}
    (h : callsOK cur (pre ++ Entry.call i ev seen v :: post) = true) : curAfter cur pre = some ev := by
  rw [callsOK_append] at h
  simp only [callsOK, Bool.and_eq_true, beq_iff_eq] at h
  exact h.2.1

end QV.Train
