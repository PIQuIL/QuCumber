/-
QV.Lemmas.StoreLoc — helper lemmas about `QV.Model.StoreLoc`.  A file object is a list of segments with a position; with
the position at the boundary in front of a checkpoint (`offset recs k`, all segments non-empty) `load` / `autoload` through
the object are the path-form operations on that archive and leave the object at the next boundary (`*_boundary`); a
`save` at the end appends (`writeS_end`); the machine with file objects keeps `WorldWF` (`sstep_wf`, `srun_wf`).
`ModelSaver` paths: a resolved folder resolves to itself under any working directory (`resolvePath_resolved`).
-/
import QV.Lemmas.StoreIO
import QV.Model.StoreLoc

namespace QV.Store

theorem offset_zero (rs : List Rec) : offset rs 0 = 0 := by simp [offset, totalSize]

theorem offset_cons_succ (r : Rec) (rs : List Rec) (k : Nat) : offset (r :: rs) (k + 1) = r.size + offset rs k := by
  simp [offset, totalSize]

theorem offset_succ (rs : List Rec) (k : Nat) (hk : k < rs.length) : offset rs (k + 1) = offset rs k + rs[k].size := by
  induction rs generalizing k with
  | nil => simp at hk
  | cons r rest ih =>
    cases k with
    | zero => simp [offset, totalSize]
    | succ k =>
      have hk' : k < rest.length := by simpa using hk
      rw [offset_cons_succ, offset_cons_succ, ih k hk']
      simp only [List.getElem_cons_succ]
      omega

theorem offset_length (rs : List Rec) : offset rs rs.length = totalSize rs := by simp [offset]

theorem offset_append_le (a b : List Rec) (k : Nat) (hk : k ≤ a.length) : offset (a ++ b) k = offset a k := by
  unfold offset; rw [List.take_append_of_le_length hk]

/-- `hpos`: an empty segment would share its boundary with the next one, and `recAt` returns the first. -/
theorem recAt_offset (rs : List Rec) (hpos : ∀ r ∈ rs, 0 < r.size) (k : Nat) (hk : k < rs.length) :
    recAt rs (offset rs k) = some rs[k] := by
  induction rs generalizing k with
  | nil => simp at hk
  | cons r rest ih =>
    cases k with
    | zero => simp [offset, totalSize, recAt]
    | succ k =>
      have hr : 0 < r.size := hpos r (by simp)
      have hk' : k < rest.length := by simpa using hk
      have ih' := ih (fun x hx => hpos x (by simp [hx])) k hk'
      rw [offset_cons_succ]
      have h1 : ¬ (r.size + offset rest k = 0) := by omega
      have h2 : ¬ (r.size + offset rest k < r.size) := by omega
      simp only [recAt, h1, h2, if_false, Nat.add_sub_cancel_left, List.getElem_cons_succ]
      exact ih'

theorem keepBefore_total (rs : List Rec) : keepBefore rs (totalSize rs) = (rs, totalSize rs) := by
  induction rs with
  | nil => rfl
  | cons r rest ih =>
    have h1 : r.size ≤ r.size + totalSize rest := by omega
    simp only [keepBefore, totalSize, h1, if_true, Nat.add_sub_cancel_left, ih]

theorem writeS_end (s : Stream) (size : Nat) (d : Option File) (hend : s.pos = totalSize s.recs) :
    writeS s size d = ⟨s.recs ++ [⟨size, d⟩], s.pos + size⟩ := by
  unfold writeS
  rw [hend, keepBefore_total]
  have h2 : ¬ (totalSize s.recs + size < totalSize s.recs) := by omega
  simp [h2]

theorem totalSize_append (a b : List Rec) : totalSize (a ++ b) = totalSize a + totalSize b := by
  induction a with
  | nil => simp [totalSize]
  | cons r rest ih => simp [totalSize, ih]; omega

theorem torchLoadS_boundary (recs : List Rec) (hpos : ∀ r ∈ recs, 0 < r.size) (k : Nat) (hk : k < recs.length)
    (sz : Nat) (file : File) (hrec : recs[k] = ⟨sz, some file⟩) :
    torchLoadS ⟨recs, offset recs k⟩ = .ok (file, ⟨recs, offset recs (k + 1)⟩) := by
  simp only [torchLoadS, recAt_offset recs hpos k hk, hrec, offset_succ recs k hk]

theorem torchLoadS_header (recs : List Rec) (hpos : ∀ r ∈ recs, 0 < r.size) (k : Nat) (hk : k < recs.length)
    (sz : Nat) (hrec : recs[k] = ⟨sz, none⟩) :
    torchLoadS ⟨recs, offset recs k⟩ = .error .RuntimeError := by
  simp only [torchLoadS, recAt_offset recs hpos k hk, hrec]

theorem loadStream_boundary (h : Heap) (st : NState) (recs : List Rec) (hpos : ∀ r ∈ recs, 0 < r.size) (k : Nat)
    (hk : k < recs.length) (sz : Nat) (file : File) (hrec : recs[k] = ⟨sz, some file⟩) :
    loadStream h ⟨recs, offset recs k⟩ st =
      ((load h (fun _ => some file) st 0).1, (load h (fun _ => some file) st 0).2.1,
        ⟨recs, offset recs (k + 1)⟩, (load h (fun _ => some file) st 0).2.2) := by
  simp only [loadStream, torchLoadS_boundary recs hpos k hk sz file hrec]

/-- **The remember-and-rewind step of `autoload` (fix F21) is right**: on a file object positioned at ANY checkpoint
boundary it is the path-form `autoload` of the archive stored at THAT boundary, and the object is left at the next
boundary. `seek(start)` puts the object back at `offset recs k`, so the second read is `loadStream_boundary` again. -/
theorem autoloadStream_boundary (h : Heap) (kind : Kind) (rand : List (List Tok)) (recs : List Rec)
    (hpos : ∀ r ∈ recs, 0 < r.size) (k : Nat) (hk : k < recs.length) (sz : Nat) (file : File)
    (hrec : recs[k] = ⟨sz, some file⟩) :
    autoloadStream h ⟨recs, offset recs k⟩ kind rand =
      match autoload h (fun _ => some file) kind 0 rand with
      | .error e => .error e
      | .ok r => .ok (r.1, r.2, ⟨recs, offset recs (k + 1)⟩) := by
  simp only [autoloadStream, autoloadStreamWith, Stream.tell, Stream.seek, autoload,
    torchLoadS_boundary recs hpos k hk sz file hrec]
  cases hargs : autoloadArgs file kind with
  | error e => rfl
  | ok args =>
    obtain ⟨ud, nv, nh, na⟩ := args
    simp only [loadStream_boundary _ _ recs hpos k hk sz file hrec]
    cases he : (load (constructSizes h kind nv (some nh) na ud rand).1 (fun _ => some file)
        (constructSizes h kind nv (some nh) na ud rand).2 0).2.2 with
    | some e => rfl
    | none => rfl

theorem saveStream_eq (h : Heap) (s : Stream) (st : NState) (md : Option Nat) (size : Nat) :
    saveStream h s st md size =
      match saveErr h st md with
      | some e => .error e
      | none => .ok (writeS s size (some (savedFile h st (mdEntries h md))), h) := by
  unfold saveStream
  rw [save_eq]
  cases saveErr h st md <;> rfl

theorem saveStream_heap (h : Heap) (s : Stream) (st : NState) (md : Option Nat) (size : Nat) (s' : Stream) (h' : Heap)
    (hs : saveStream h s st md size = .ok (s', h')) : h' = h := by
  rw [saveStream_eq] at hs
  split at hs
  · cases hs
  · cases hs; rfl

theorem WorldWF.setFiles {w : World} (wf : WorldWF w) (fs : Files) : WorldWF { w with files := fs } :=
  ⟨wf.heap, wf.st_nets, wf.st_ids, wf.st_names, wf.mods, wf.st_noud⟩

theorem loadStream_touches (h : Heap) (s : Stream) (st : NState) :
    Touches h (loadStream h s st).1 (netsIds h st.nets) ∧ (loadStream h s st).2.1.nets = st.nets := by
  unfold loadStream
  cases ht : torchLoadS s with
  | error e => exact ⟨Touches.refl _ _, rfl⟩
  | ok r => exact load_touches h (fun _ => some r.1) st 0

theorem autoloadStreamWith_wf {h : Heap} (wf : HeapWF h) (rewind : Nat → Option Nat) (s : Stream) (kind : Kind)
    (rand : List (List Tok)) (h' : Heap) (st : NState) (s' : Stream)
    (ha : autoloadStreamWith rewind h s kind rand = .ok (h', st, s')) :
    HeapWF h' ∧ NetsGrow h h' ∧ StateOK h' st := by
  unfold autoloadStreamWith at ha
  cases ht : torchLoadS s with
  | error e => simp [ht] at ha
  | ok r =>
    obtain ⟨file, s1⟩ := r
    simp only [ht] at ha
    cases hargs : autoloadArgs file kind with
    | error e => simp [hargs] at ha
    | ok args =>
      obtain ⟨ud, nv, nh, na⟩ := args
      simp only [hargs] at ha
      obtain ⟨c1, c2, c3⟩ := constructSizes_wf wf kind nv (some nh) na ud rand
      -- wherever the second read starts, it only writes into the parameters of the new object
      split at ha
      · cases ha
      · cases ha
        exact c3.touches c1 c2 (loadStream_touches _ _ _).1 (loadStream_touches _ _ _).2

theorem sstep_wf (sw : SWorld) (wf : WorldWF sw.w) (op : SOp) : WorldWF (sstep sw op).1.w := by
  cases op with
  | base op => exact step_wf sw.w wf op
  | openS sid => exact wf
  | writeHdr sid n =>
    dsimp only [sstep]
    split <;> exact wf
  | seekS sid pos =>
    dsimp only [sstep]
    split <;> exact wf
  | saveS slot md sid size =>
    dsimp only [sstep]
    split
    · split
      · exact wf
      · split
        · exact wf
        · rename_i r hsv
          cases r with
          | mk s' h' =>
            cases saveStream_heap _ _ _ _ _ _ _ hsv
            exact wf
    · exact wf
  | loadS slot sid =>
    dsimp only [sstep]
    split
    · rename_i st s hs _
      exact wf.bindState slot ((wf.stateOK hs).touches wf.heap (NetsGrow.refl _) (loadStream_touches sw.w.heap s st).1
        (loadStream_touches sw.w.heap s st).2)
    · exact wf
  | autoloadS slot kind sid rand =>
    dsimp only [sstep]
    split
    · exact wf
    · rename_i s _
      split
      · exact wf
      · rename_i r ha
        exact wf.bindState slot (autoloadStreamWith_wf wf.heap some s kind rand r.1 r.2.1 r.2.2 ha)

theorem srun_wf (sw : SWorld) (wf : WorldWF sw.w) (ops : List SOp) : WorldWF (srun sw ops).w := by
  induction ops generalizing sw with
  | nil => exact wf
  | cons op r ih => exact ih _ (sstep_wf sw wf op)

/-- a component that `normComps` keeps as a directory level -/
def Plain (c : String) : Prop := isDot c = false ∧ (c == "..") = false

theorem normComps_plain (acc l : List String) (hl : ∀ c ∈ l, Plain c) : normComps acc l = acc.reverse ++ l := by
  induction l generalizing acc with
  | nil => simp [normComps]
  | cons c rest ih =>
    have hc := hl c (by simp)
    simp only [normComps, hc.1, hc.2, Bool.false_eq_true, if_false]
    rw [ih _ (fun x hx => hl x (by simp [hx]))]
    simp

theorem normComps_out_plain (acc l : List String) (ha : ∀ c ∈ acc, Plain c) : ∀ c ∈ normComps acc l, Plain c := by
  induction l generalizing acc with
  | nil => intro c hc; simp only [normComps, List.mem_reverse] at hc; exact ha c hc
  | cons x rest ih =>
    simp only [normComps]
    split
    · exact ih acc ha
    · split
      · exact ih acc.tail (fun c hc => ha c (List.mem_of_mem_tail hc))
      · rename_i h1 h2
        refine ih (x :: acc) ?_
        intro c hc
        rcases List.mem_cons.1 hc with rfl | hc
        · exact ⟨by simpa using h1, by simpa using h2⟩
        · exact ha c hc

/-- Why `resolve()` in `ModelSaver.__init__` makes the target independent of later `chdir`s (`C11_saver_path`): a
resolved path is absolute and has only `Plain` components, so resolving it again under ANY working directory gives
it back. -/
theorem resolvePath_resolved (cwd0 cwd1 : List String) (p : PathArg) :
    resolvePath cwd1 ⟨true, resolvePath cwd0 p⟩ = resolvePath cwd0 p := by
  have hp : ∀ c ∈ resolvePath cwd0 p, Plain c := normComps_out_plain [] _ (by simp)
  show normComps [] ((if true = true then [] else cwd1) ++ resolvePath cwd0 p) = _
  simp only [if_true, List.nil_append]
  rw [normComps_plain [] _ hp]
  simp

theorem mkdirAll_keeps (fs fs' : DirFs) (pre comps : List String) (hm : mkdirAll fs pre comps = .ok fs') (q : List String)
    (hq : fs q = some true) : fs' q = some true := by
  induction comps generalizing fs pre with
  | nil => simp only [mkdirAll, Except.ok.injEq] at hm; rw [← hm]; exact hq
  | cons c rest ih =>
    simp only [mkdirAll] at hm
    split at hm
    · simp at hm
    · refine ih _ _ hm ?_
      by_cases h : q = pre ++ [c]
      · simp [h]
      · simp [h, hq]

theorem mkdirAll_dir (fs fs' : DirFs) (pre comps : List String) (hm : mkdirAll fs pre comps = .ok fs')
    (hpre : fs pre = some true) : fs' (pre ++ comps) = some true := by
  induction comps generalizing fs pre with
  | nil => simp only [mkdirAll, Except.ok.injEq] at hm; rw [← hm]; simpa using hpre
  | cons c rest ih =>
    simp only [mkdirAll] at hm
    split at hm
    · simp at hm
    · have := ih _ _ hm (by simp)
      simpa using this

end QV.Store
