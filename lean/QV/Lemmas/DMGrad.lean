/-
QV.Lemmas.DMGrad — derivative of the density-matrix elements and of the rotated Born probability `UrhoU` of the mixed
state along differentiable parameter curves (amplitude and phase PurificationRBMs).
Where no factor vanishes, `ρ(v,v') = exp(Γ⁺_λ + iΓ⁻_μ) · Π_k (1 + e^{z_k})` (`rhoProd`), so its logarithmic derivative is
`Γ⁺' + iΓ⁻' + Σ_k sigC(z_k) z_k'`; `gamma_grad` pairs to the first two terms (`PRBM.hasDerivAt_gamma`) and `pi_grad` to the
third (`pairC_piGrad`), which makes `am_grads` / `ph_grads` the logarithmic gradient of `ρ` (`hasDerivAt_toC_rho`). `UrhoU`
is a real-linear combination of the `ρ(τ1,τ2)` with parameter-free coefficients (`dmCoefFree`), and `dmRotComp` applies the same
combination to the gradient entries (`pair_dmRot`).
-/
import Mathlib.Analysis.SpecialFunctions.ExpDeriv
import Mathlib.Analysis.SpecialFunctions.Log.Deriv
import Mathlib.Analysis.Calculus.Deriv.Prod
import QV.Lemmas.Deriv
import QV.Lemmas.GradLin
import QV.Lemmas.Cplx
import QV.Lemmas.CplxGrad
import QV.Lemmas.Density

namespace QV
open Finset Grads Density Complex

variable {n h a : ℕ}

/-! ### the density-matrix element in product form -/

/-- argument of the `k`-th auxiliary factor `1 + e^{z_k}` of `ρ`: `z_k = x_k + i y_k` with `x_k` from the amplitude network
(`piArgRe`, auxiliary bias included) and `y_k` from the phase network (`piArgIm`, couplings `U_μ` only) -/
noncomputable def zArg (am ph : PRBM ℝ n h a) (v vp : Fin n → ℝ) (k : Fin a) : ℂ :=
  ((piArgRe am v vp k : ℝ) : ℂ) + ((piArgIm ph v vp k : ℝ) : ℂ) * I

/-- `ρ(v,v') = exp(Γ⁺ + iΓ⁻) Π_k (1 + e^{z_k})`. The model computes `rho` as the code does, in polar form through
`log sqrt(…)` and `atan2` per auxiliary unit (`Density.pi`), which is this product only where no factor vanishes. -/
noncomputable def rhoProd (am ph : PRBM ℝ n h a) (v vp : Fin n → ℝ) : ℂ :=
  Complex.exp (((am.gamma 1 v vp : ℝ) : ℂ) + ((ph.gamma (-1) v vp : ℝ) : ℂ) * I) * ∏ k, (1 + Complex.exp (zArg am ph v vp k))

/-- the logistic function on ℂ, to which the model's pair-valued `csigmoid` (= `C.csigmoidH`) decodes under the guard
(`toC_csigmoid`). Not to be confused with `Cplx.sigC`, the code's branch form on pairs. -/
noncomputable def sigC (z : ℂ) : ℂ := Complex.exp z / (1 + Complex.exp z)

theorem hasDerivAt_prod_one_add_cexp {ι : Type*} [Fintype ι] {z : ι → ℝ → ℂ} {z' : ι → ℂ} {t : ℝ}
    (hz : ∀ k, HasDerivAt (z k) (z' k) t) (h0 : ∀ k, (1 : ℂ) + Complex.exp (z k t) ≠ 0) :
    HasDerivAt (fun s => ∏ k, (1 + Complex.exp (z k s)))
      ((∏ k, (1 + Complex.exp (z k t))) * ∑ k, sigC (z k t) * z' k) t := by
  classical
  refine (HasDerivAt.fun_finsetProd fun k _ => (hz k).cexp.const_add 1).congr_deriv ?_
  rw [Finset.mul_sum]
  refine Finset.sum_congr rfl fun k _ => ?_
  have hs : Complex.exp (z k t) = (1 + Complex.exp (z k t)) * sigC (z k t) := by rw [sigC, mul_div_cancel₀ _ (h0 k)]
  rw [smul_eq_mul, ← Finset.mul_prod_erase univ _ (mem_univ k)]
  linear_combination ((∏ j ∈ univ.erase k, (1 + Complex.exp (z j t))) * z' k) * hs

/-! ### the model's `am_grads` / `ph_grads` entries paired with a direction -/

noncomputable def pairC (g : CPRBM ℝ n h a) (d : PRBM ℝ n h a) : ℂ := ⟨g.1.pair d, g.2.pair d⟩

theorem pairC_add_re (x : PRBM ℝ n h a) (p : CPRBM ℝ n h a) (d : PRBM ℝ n h a) :
    pairC (x.add p.1, p.2) d = ((x.pair d : ℝ) : ℂ) + pairC p d := by
  apply Complex.ext <;> simp [pairC, PRBM.pair_add]

theorem pairC_add_im (x : PRBM ℝ n h a) (p : CPRBM ℝ n h a) (d : PRBM ℝ n h a) :
    pairC (p.1, x.add p.2) d = ((x.pair d : ℝ) : ℂ) * I + pairC p d := by
  apply Complex.ext <;> simp [pairC, PRBM.pair_add]

theorem toC_csigmoid (x y : ℝ) (hz : (1 : ℂ) + Complex.exp ((x : ℂ) + (y : ℂ) * I) ≠ 0) :
    toC (csigmoid x y) = sigC ((x : ℂ) + (y : ℂ) * I) := by
  have hez : toC ((Transc.exp x * Transc.cos y, Transc.exp x * Transc.sin y) : C ℝ) = Complex.exp ((x : ℂ) + (y : ℂ) * I) := by
    apply Complex.ext <;> simp [Complex.exp_re, Complex.exp_im]
  unfold csigmoid sigC
  rw [toC_div _ _ (by rw [toC_add, toC_one, hez]; exact hz), toC_add, toC_one, hez]

theorem PRBM.pair_auxOnly (c e : Fin a → ℝ) (w : Fin n → ℝ) (d : PRBM ℝ n h a) :
    PRBM.pair ⟨fun _ _ => 0, fun k j => 1 / two * (c k * w j), fun _ => 0, fun _ => 0, e⟩ d
      = ∑ k, (c k * ((∑ j, w j * d.U k j) / 2) + e k * d.d k) := by
  simp only [PRBM.pair, zero_mul, Finset.sum_const_zero, zero_add, add_zero, two_eq, Finset.sum_add_distrib,
    Finset.sum_div, Finset.mul_sum]
  congr 1
  exact Finset.sum_congr rfl fun k _ => Finset.sum_congr rfl fun j _ => by ring

/-- `piArgRe d`, `piArgIm d` — the arguments evaluated at the DIRECTION record — are the velocities of `x_k`, `y_k`, which
are linear in the parameters (`hasDerivAt_zArg`): `pi_grad` pairs to the complex sigmoid against the velocity of `z_k`'s real
(`phase=False`) resp. imaginary (`phase=True`) part -/
theorem pairC_piGrad (am ph d : PRBM ℝ n h a) (phase : Bool) (v vp : Fin n → ℝ) :
    pairC (piGrad am ph phase v vp) d
      = ∑ k, toC (csigmoid (piArgRe am v vp k) (piArgIm ph v vp k))
          * (if phase then ((piArgIm d v vp k : ℝ) : ℂ) * I else ((piArgRe d v vp k : ℝ) : ℂ)) := by
  have hx (k : Fin a) : piArgRe d v vp k = (∑ j, (v j + vp j) * d.U k j) / 2 + d.d k := by
    simp only [piArgRe, PRBM.preactA, sumFin_eq, two_eq, add_mul, Finset.sum_add_distrib]
    ring
  have hy (k : Fin a) : piArgIm d v vp k = (∑ j, (v j - vp j) * d.U k j) / 2 := by
    simp only [piArgIm, sumFin_eq, two_eq, sub_mul, Finset.sum_sub_distrib]
  -- four goals (flag × real / imaginary part). `pair_auxOnly` turns each into a sum over the auxiliary units …
  cases phase <;> apply Complex.ext <;>
    simp only [pairC, piGrad, C.csigmoidH_eq, PRBM.pair_auxOnly, Bool.false_eq_true, if_false, if_true, Complex.re_sum,
      Complex.im_sum, Complex.mul_re, Complex.mul_im, Complex.ofReal_re, Complex.ofReal_im, Complex.I_re, Complex.I_im,
      toC_re, toC_im]
  -- … whose `k`-th terms agree: `c · ((Σ_j (v_j ± v'_j) U'_kj) / 2 (+ d'_k)) = c · x'_k` resp. `c · y'_k`, `c` a component of
  -- `s_k` (`phase=False`) or of `i·s_k` (`phase=True`), after unfolding `piArgRe d`, `piArgIm d`
  all_goals
    refine Finset.sum_congr rfl fun k _ => ?_
    simp only [hx, hy, C.mul, C.I]
    ring

theorem pairC_dmAmGrads (am ph dam : PRBM ℝ n h a) (v vp : Fin n → ℝ)
    (hz : ∀ k, (1 : ℂ) + Complex.exp (zArg am ph v vp k) ≠ 0) :
    pairC (dmAmGrads am ph v vp) dam
      = (((gammaGrad am 1 v vp).pair dam : ℝ) : ℂ) + ∑ k, sigC (zArg am ph v vp k) * ((piArgRe dam v vp k : ℝ) : ℂ) := by
  rw [dmAmGrads, pairC_add_re, pairC_piGrad]
  simp only [Bool.false_eq_true, if_false, fun k => toC_csigmoid _ _ (hz k), zArg]

theorem pairC_dmPhGrads (am ph dph : PRBM ℝ n h a) (v vp : Fin n → ℝ)
    (hz : ∀ k, (1 : ℂ) + Complex.exp (zArg am ph v vp k) ≠ 0) :
    pairC (dmPhGrads am ph v vp) dph
      = (((gammaGrad ph (-1) v vp).pair dph : ℝ) : ℂ) * I
        + ∑ k, sigC (zArg am ph v vp k) * (((piArgIm dph v vp k : ℝ) : ℂ) * I) := by
  rw [dmPhGrads, pairC_add_im, pairC_piGrad]
  simp only [if_true, fun k => toC_csigmoid _ _ (hz k), zArg]

/-! ### the rotated Born probability of one sample and the model's `DensityMatrix.rotated_gradient` -/

open Unitaries

/-- parameter-independent part of `UrhoU_v[τ1,τ2]`: `[τ1, τ2 expansions of σ] · Ut_τ1 · conj(Ut_τ2)` -/
noncomputable def dmCoefFree (dict : Char → M2 ℝ) (smp : Sample n) (τ1 τ2 : Fin n → Bool) : ℂ :=
  if (agreesOff n smp.rot smp.σ τ1 && agreesOff n smp.rot smp.σ τ2) = true then
    toC (rotCoeff n (fun j => dict (smp.letter j)) smp.rot smp.σ τ1)
      * (starRingEnd ℂ) (toC (rotCoeff n (fun j => dict (smp.letter j)) smp.rot smp.σ τ2))
  else 0

theorem toC_dmCoef (am ph : PRBM ℝ n h a) (dict : Char → M2 ℝ) (smp : Sample n) (τ1 τ2 : Fin n → Bool) :
    toC (dmCoef am ph dict smp τ1 τ2) = dmCoefFree dict smp τ1 τ2 * toC (rho am ph (visOf τ1) (visOf τ2)) := by
  unfold dmCoef dmCoefFree
  split
  · rw [toC_mul, toC_mul, toC_conj]
  · rw [toC_zero, zero_mul]

/-- the double sums over `(τ1, τ2)` are written as ONE sum over this index, the form `PRBM.pair_weighted` takes -/
abbrev PairIx (n : ℕ) := Fin (2 ^ n) × Fin (2 ^ n)
def pairSt (x : PairIx n) : (Fin n → Bool) × (Fin n → Bool) :=
  (fun j => spaceBit n x.1.val j, fun j => spaceBit n x.2.val j)

theorem dmUrhoU_eq (am ph : PRBM ℝ n h a) (dict : Char → M2 ℝ) (smp : Sample n) :
    dmUrhoU am ph dict smp
      = ∑ x : PairIx n, (dmCoefFree dict smp (pairSt x).1 (pairSt x).2
          * toC (rho am ph (visOf (pairSt x).1) (visOf (pairSt x).2))).re := by
  unfold dmUrhoU
  simp only [sumFin_eq]
  rw [Fintype.sum_prod_type]
  refine Finset.sum_congr rfl (fun k _ => Finset.sum_congr rfl (fun l _ => ?_))
  rw [← toC_dmCoef]; rfl

/-- no factor of `rhoProd` vanishes, for every pair of basis states: the guard of the mixed-state theorems (it fails only at
`x_k = 0`, `y_k` an odd multiple of `π`); the C02 guard `C02.NZ` for every pair, `NZall_iff` -/
def NZall (am ph : PRBM ℝ n h a) : Prop :=
  ∀ (τ1 τ2 : Fin n → Bool) (k : Fin a), (1 : ℂ) + Complex.exp (zArg am ph (visOf τ1) (visOf τ2) k) ≠ 0

/-- `dmRotComp` is a real-linear functional of the raw gradient entries (real and imaginary parts) -/
theorem dmRotComp_split (am ph : PRBM ℝ n h a) (dict : Char → M2 ℝ) (eps : ℝ) (smp : Sample n)
    (g : (Fin n → Bool) → (Fin n → Bool) → C ℝ) :
    dmRotComp am ph dict eps smp g
      = (∑ x : PairIx n, (g (pairSt x).1 (pairSt x).2).1
            * (-((dmCoef am ph dict smp (pairSt x).1 (pairSt x).2).1) * (1 / (dmUrhoU am ph dict smp + eps))))
        + ∑ x : PairIx n, (g (pairSt x).1 (pairSt x).2).2
            * ((dmCoef am ph dict smp (pairSt x).1 (pairSt x).2).2 * (1 / (dmUrhoU am ph dict smp + eps))) := by
  unfold dmRotComp
  simp only [sumFin_eq]
  rw [Fintype.sum_prod_type, Fintype.sum_prod_type, neg_mul, Finset.sum_mul, ← Finset.sum_neg_distrib, ← Finset.sum_add_distrib]
  refine Finset.sum_congr rfl (fun k _ => ?_)
  rw [Finset.sum_mul, ← Finset.sum_neg_distrib, ← Finset.sum_add_distrib]
  refine Finset.sum_congr rfl (fun l _ => ?_)
  simp only [C.mul, pairSt]
  ring

theorem pair_dmRot (am ph d : PRBM ℝ n h a) (dict : Char → M2 ℝ) (eps : ℝ) (smp : Sample n)
    (g : (Fin n → Bool) → (Fin n → Bool) → CPRBM ℝ n h a) :
    PRBM.pair
      { W := fun i j => dmRotComp am ph dict eps smp (fun τ1 τ2 => ((g τ1 τ2).1.W i j, (g τ1 τ2).2.W i j))
        U := fun k j => dmRotComp am ph dict eps smp (fun τ1 τ2 => ((g τ1 τ2).1.U k j, (g τ1 τ2).2.U k j))
        b := fun j => dmRotComp am ph dict eps smp (fun τ1 τ2 => ((g τ1 τ2).1.b j, (g τ1 τ2).2.b j))
        c := fun i => dmRotComp am ph dict eps smp (fun τ1 τ2 => ((g τ1 τ2).1.c i, (g τ1 τ2).2.c i))
        d := fun k => dmRotComp am ph dict eps smp (fun τ1 τ2 => ((g τ1 τ2).1.d k, (g τ1 τ2).2.d k)) } d
      = -(∑ x : PairIx n, (toC (dmCoef am ph dict smp (pairSt x).1 (pairSt x).2)
            * pairC (g (pairSt x).1 (pairSt x).2) d).re) / (dmUrhoU am ph dict smp + eps) := by
  have hterm (c : C ℝ) (g : CPRBM ℝ n h a) (D : ℝ) :
      -((toC c * pairC g d).re / D) = -c.1 * (1 / D) * g.1.pair d + c.2 * (1 / D) * g.2.pair d := by
    simp only [pairC, Complex.mul_re, toC_re, toC_im]
    ring
  -- the right side, term by term, is the pairing of two weighted combinations: of the real parts `(g x).1` with weights
  -- `−Re c_x / (p̃ + ε)` and of the imaginary parts `(g x).2` with weights `Im c_x / (p̃ + ε)`, `c_x` the `dmCoef` of the pair
  rw [neg_div, Finset.sum_div, ← Finset.sum_neg_distrib, Finset.sum_congr rfl fun x _ => hterm _ _ _,
    Finset.sum_add_distrib,
    ← PRBM.pair_weighted (fun x : PairIx n => (g (pairSt x).1 (pairSt x).2).1)
      (fun x => -(dmCoef am ph dict smp (pairSt x).1 (pairSt x).2).1 * (1 / (dmUrhoU am ph dict smp + eps))) d,
    ← PRBM.pair_weighted (fun x : PairIx n => (g (pairSt x).1 (pairSt x).2).2)
      (fun x => (dmCoef am ph dict smp (pairSt x).1 (pairSt x).2).2 * (1 / (dmUrhoU am ph dict smp + eps))) d,
    ← PRBM.pair_add]
  -- and by `dmRotComp_split` every field of the record on the left is the sum of the same fields of these two
  simp only [dmRotComp_split]
  rfl

/-! ### derivatives along a pair of parameter curves (amplitude and phase network) -/

section Curves
variable (ram rph : ℝ → PRBM ℝ n h a) (dam dph : PRBM ℝ n h a) (t : ℝ)
  (ha : PRBM.CurveAt ram dam t) (hp : PRBM.CurveAt rph dph t)
include ha hp

/-- `z_k` is linear in the parameters (`U_λ`, `d_λ`, `U_μ`): its derivative along a curve is `z_k` of the velocities -/
theorem hasDerivAt_zArg (v vp : Fin n → ℝ) (k : Fin a) :
    HasDerivAt (fun s => zArg (ram s) (rph s) v vp k) (zArg dam dph v vp k) t := by
  have hre : HasDerivAt (fun s => piArgRe (ram s) v vp k) (piArgRe dam v vp k) t := by
    simpa only [piArgRe, PRBM.preactA, sumFin_eq] using
      ((PRBM.hasDerivAt_preactA ram dam t ha v k).fun_add (PRBM.hasDerivAt_preactA ram dam t ha vp k)).div_const two
  have him : HasDerivAt (fun s => piArgIm (rph s) v vp k) (piArgIm dph v vp k) t := by
    simpa only [piArgIm, sumFin_eq] using
      ((hasDerivAt_dotRow v (hp.U k)).fun_sub (hasDerivAt_dotRow vp (hp.U k))).div_const two
  exact hre.ofReal_comp.fun_add (him.ofReal_comp.mul_const I)

theorem hasDerivAt_rhoProd (v vp : Fin n → ℝ)
    (hz : ∀ k, (1 : ℂ) + Complex.exp (zArg (ram t) (rph t) v vp k) ≠ 0) :
    HasDerivAt (fun s => rhoProd (ram s) (rph s) v vp)
      (rhoProd (ram t) (rph t) v vp *
        ((((gammaGrad (ram t) 1 v vp).pair dam : ℝ) : ℂ) + (((gammaGrad (rph t) (-1) v vp).pair dph : ℝ) : ℂ) * I
          + ∑ k, sigC (zArg (ram t) (rph t) v vp k) * zArg dam dph v vp k)) t := by
  have hg := ((PRBM.hasDerivAt_gamma ram dam t ha 1 v vp).ofReal_comp.fun_add
    ((PRBM.hasDerivAt_gamma rph dph t hp (-1) v vp).ofReal_comp.mul_const I)).cexp
  refine (hg.fun_mul (hasDerivAt_prod_one_add_cexp
    (fun k => hasDerivAt_zArg ram rph dam dph t ha hp v vp k) hz)).congr_deriv ?_
  rw [rhoProd]
  ring

/-- `ρ(v,v')` of the model is differentiable along parameter curves (where the guard holds), with logarithmic
derivative the pairing of the model's `am_grads` / `ph_grads` entries with the velocities. -/
theorem hasDerivAt_toC_rho (v vp : Fin n → ℝ)
    (hz : ∀ k, (1 : ℂ) + Complex.exp (zArg (ram t) (rph t) v vp k) ≠ 0) :
    HasDerivAt (fun s => toC (rho (ram s) (rph s) v vp))
      (toC (rho (ram t) (rph t) v vp) *
        (pairC (dmAmGrads (ram t) (rph t) v vp) dam + pairC (dmPhGrads (ram t) (rph t) v vp) dph)) t := by
  -- the guard holds in a neighbourhood of t
  have hev : ∀ᶠ s in nhds t, ∀ k, (1 : ℂ) + Complex.exp (zArg (ram s) (rph s) v vp k) ≠ 0 :=
    Filter.eventually_all.mpr fun k =>
      ((hasDerivAt_zArg ram rph dam dph t ha hp v vp k).cexp.const_add 1).continuousAt.eventually_ne (hz k)
  have heq : (fun s => toC (rho (ram s) (rph s) v vp)) =ᶠ[nhds t] fun s => rhoProd (ram s) (rph s) v vp :=
    hev.mono (fun s hs => rho_complex_eq _ _ _ _ hs)
  refine ((hasDerivAt_rhoProd ram rph dam dph t ha hp v vp hz).congr_of_eventuallyEq heq).congr_deriv ?_
  rw [show toC (rho (ram t) (rph t) v vp) = rhoProd (ram t) (rph t) v vp from rho_complex_eq _ _ _ _ hz, pairC_dmAmGrads _ _ _ _ _ hz, pairC_dmPhGrads _ _ _ _ _ hz]
  simp only [zArg, mul_add, Finset.sum_add_distrib]
  ring

theorem hasDerivAt_dmUrhoU (dict : Char → M2 ℝ) (smp : Sample n)
    (hz : NZall (ram t) (rph t)) :
    HasDerivAt (fun s => dmUrhoU (ram s) (rph s) dict smp)
      (∑ x : PairIx n, (toC (dmCoef (ram t) (rph t) dict smp (pairSt x).1 (pairSt x).2)
          * (pairC (dmAmGrads (ram t) (rph t) (visOf (pairSt x).1) (visOf (pairSt x).2)) dam
             + pairC (dmPhGrads (ram t) (rph t) (visOf (pairSt x).1) (visOf (pairSt x).2)) dph)).re) t := by
  simp only [dmUrhoU_eq]
  refine (HasDerivAt.fun_sum (fun x _ => re_hasDerivAt
    ((hasDerivAt_toC_rho ram rph dam dph t ha hp (visOf (pairSt x).1) (visOf (pairSt x).2)
      (hz (pairSt x).1 (pairSt x).2)).const_mul (dmCoefFree dict smp (pairSt x).1 (pairSt x).2)))).congr_deriv ?_
  exact Finset.sum_congr rfl fun x _ => by rw [toC_dmCoef, mul_assoc]

end Curves

end QV
