/-
QV.Lemmas.Kron — `_kron_mult` stage by stage equals the dense tensor-product operator.

On data indexed by bit-vectors a stage is `stageB`: the 2×2 block of one site applied at that site. Stages of pairwise
distinct sites `S` compose to the dense operator restricted to `S` (`partialOp`; one more site: `stageB_partialOp`), in any
order; all sites give the full operator. The model's stage works on positions `ℕ`; through the big-endian index `idxOf` it
is `stageB` (`liftIdx_stage`, by the index arithmetic of `QV.Lemmas.Index`).
-/
import Mathlib.Algebra.Module.BigOperators
import Mathlib.Algebra.Module.Pi
import Mathlib.Data.Fintype.Pi
import QV.Model.Unitaries
import QV.Lemmas.Cplx
import QV.Lemmas.Index

namespace QV
open Finset Unitaries

variable {n : ℕ} {V : Type*} [AddCommMonoid V] [Module ℂ V]

/-- one stage acting on bit-vector-indexed data: the 2×2 block `m` applied at site `s` -/
def stageB (m : Bool → Bool → ℂ) (s : Fin n) (y : (Fin n → Bool) → V) : (Fin n → Bool) → V :=
  fun σ => m (σ s) false • y (Function.update σ s false) + m (σ s) true • y (Function.update σ s true)

/-- the dense operator restricted to a set `S` of sites (identity elsewhere) -/
def partialOp (ms : Fin n → Bool → Bool → ℂ) (S : Finset (Fin n)) (x : (Fin n → Bool) → V) :
    (Fin n → Bool) → V :=
  fun σ => ∑ τ : Fin n → Bool,
    if (∀ j, j ∉ S → τ j = σ j) then (∏ j ∈ S, ms j (σ j) (τ j)) • x τ else 0

theorem partialOp_empty (ms : Fin n → Bool → Bool → ℂ) (x : (Fin n → Bool) → V) :
    partialOp ms ∅ x = x := by
  funext σ
  simp only [partialOp, Finset.notMem_empty, not_false_eq_true, forall_const, Finset.prod_empty, one_smul]
  rw [Finset.sum_eq_single σ]
  · simp
  · intro τ _ hτ
    rw [if_neg]
    intro h; exact hτ (funext h)
  · simp

theorem stageB_partialOp (ms : Fin n → Bool → Bool → ℂ) (S : Finset (Fin n)) (s : Fin n) (hs : s ∉ S)
    (x : (Fin n → Bool) → V) :
    stageB (ms s) s (partialOp ms S x) = partialOp ms (insert s S) x := by
  funext σ
  simp only [stageB, partialOp]
  rw [Finset.smul_sum, Finset.smul_sum, ← Finset.sum_add_distrib]
  refine Finset.sum_congr rfl (fun τ _ => ?_)
  -- the product over S does not see the update at s
  have hprod (t : Bool) : (∏ j ∈ S, ms j (Function.update σ s t j) (τ j)) = ∏ j ∈ S, ms j (σ j) (τ j) :=
    Finset.prod_congr rfl fun j hj => by rw [Function.update_of_ne (ne_of_mem_of_not_mem hj hs)]
  -- agreeing with the updated σ off S: the value at s is the new one, off `insert s S` nothing has changed
  have hcond (t : Bool) : (∀ j, j ∉ S → τ j = Function.update σ s t j)
      ↔ (τ s = t ∧ ∀ j, j ∉ insert s S → τ j = σ j) := by
    constructor
    · intro h
      refine ⟨by rw [h s hs, Function.update_self], fun j hj => ?_⟩
      rw [Finset.mem_insert, not_or] at hj
      rw [h j hj.2, Function.update_of_ne hj.1]
    · rintro ⟨h1, h2⟩ j hj
      obtain rfl | hjs := eq_or_ne j s
      · rw [h1, Function.update_self]
      · rw [Function.update_of_ne hjs, h2 j (by rw [Finset.mem_insert, not_or]; exact ⟨hjs, hj⟩)]
  simp only [hprod]
  by_cases hD : ∀ j, j ∉ insert s S → τ j = σ j
  · rw [if_pos hD, Finset.prod_insert hs, mul_smul]
    cases hτ : τ s
    · rw [if_pos ((hcond false).mpr ⟨hτ, hD⟩), if_neg fun h => Bool.false_ne_true (hτ ▸ ((hcond true).mp h).1),
        smul_zero, add_zero]
    · rw [if_neg fun h => Bool.false_ne_true (((hcond false).mp h).1.symm.trans hτ),
        if_pos ((hcond true).mpr ⟨hτ, hD⟩), smul_zero, zero_add]
  · rw [if_neg hD, if_neg fun h => hD ((hcond false).mp h).2, if_neg fun h => hD ((hcond true).mp h).2,
      smul_zero, smul_zero, add_zero]

theorem foldr_stageB (ms : Fin n → Bool → Bool → ℂ) (l : List (Fin n)) (hl : l.Nodup)
    (x : (Fin n → Bool) → V) :
    l.foldr (fun s y => stageB (ms s) s y) x = partialOp ms l.toFinset x := by
  induction l with
  | nil => simp [partialOp_empty]
  | cons s l ih =>
    rw [List.foldr_cons, ih (List.nodup_cons.mp hl).2, List.toFinset_cons]
    exact stageB_partialOp ms _ s (by simpa using (List.nodup_cons.mp hl).1) x

/-! ### the model's index-based stage is `stageB` after decoding -/

variable {β : Type}

/-- view Nat-indexed data through the big-endian index and a decoding into a ℂ-module (`β = C ℝ`, `V = ℂ` for `rotate_psi`;
`β = Row ℝ`, `V = ℕ → ℂ` for the row-valued calls of `rotate_rho`) -/
def liftIdx (dec : β → V) (y : ℕ → β) : (Fin n → Bool) → V := fun σ => dec (y (idxOf σ))

section decode
variable {addβ : β → β → β} {act : C ℝ → β → β} {dec : β → V}
  (hadd : ∀ a b, dec (addβ a b) = dec a + dec b) (hact : ∀ c a, dec (act c a) = toC c • dec a)
include hadd hact

theorem liftIdx_stage (m : M2 ℝ) (s : Fin n) (y : ℕ → β) :
    liftIdx dec (stage addβ act m (2 ^ (n - 1 - s.val)) y)
      = stageB (fun r c => toC (m r c)) s (liftIdx (n := n) dec y) := by
  funext σ
  simp only [liftIdx, stage, stageB, hadd, hact]
  rw [idxOf_div_mod, ← idxOf_update_false, ← idxOf_update_true]

theorem liftIdx_foldr (us : Fin n → M2 ℝ) (l : List (Fin n)) (x : ℕ → β) :
    liftIdx dec (l.foldr (fun s y => stage addβ act (us s) (2 ^ (n - 1 - s.val)) y) x)
      = l.foldr (fun s y => stageB (fun r c => toC (us s r c)) s y) (liftIdx (n := n) dec x) := by
  induction l with
  | nil => rfl
  | cons s l ih => rw [List.foldr_cons, List.foldr_cons, liftIdx_stage hadd hact, ih]

end decode

/-- **core of C04.1**: decoding `_kron_mult` at the index of `σ` gives the dense tensor-product operator. -/
theorem kronMult_dense (addβ : β → β → β) (act : C ℝ → β → β) (dec : β → V)
    (hadd : ∀ a b, dec (addβ a b) = dec a + dec b) (hact : ∀ c a, dec (act c a) = toC c • dec a)
    (us : Fin n → M2 ℝ) (x : ℕ → β) (σ : Fin n → Bool) :
    dec (kronMult addβ act n us x (idxOf σ))
      = ∑ τ : Fin n → Bool, (∏ j, toC (us j (σ j) (τ j))) • dec (x (idxOf τ)) := by
  unfold kronMult
  rw [Fin.foldr_eq_finRange_foldr]
  -- decode stage by stage; all sites together make the operator of the full site set
  rw [show dec _ = _ from congrFun (liftIdx_foldr hadd hact us (List.finRange n) x) σ,
    foldr_stageB _ _ (List.nodup_finRange n)]
  simp only [partialOp, liftIdx, List.toFinset_finRange, Finset.mem_univ, not_true_eq_false, false_imp_iff, implies_true,
    if_true]

end QV
