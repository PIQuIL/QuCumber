/-
QV.Lemmas.Cplx — decoding of the model's real pairs into Mathlib's ℂ and the homomorphism lemmas.
-/
import Mathlib.Data.Complex.Basic
import Mathlib.Data.Complex.BigOperators
import Mathlib.Algebra.BigOperators.Fin
import QV.Model.CplxScalar
import QV.Lemmas.Basic

namespace QV
open Finset

def toC (p : C ℝ) : ℂ := ⟨p.1, p.2⟩

@[simp] theorem toC_re (p : C ℝ) : (toC p).re = p.1 := rfl
@[simp] theorem toC_im (p : C ℝ) : (toC p).im = p.2 := rfl
@[simp] theorem toC_mk (a b : ℝ) : toC (a, b) = ⟨a, b⟩ := rfl
@[simp] theorem toC_zero : toC (C.zero : C ℝ) = 0 := by apply Complex.ext <;> simp [C.zero]
@[simp] theorem toC_one : toC (C.one : C ℝ) = 1 := by apply Complex.ext <;> simp [C.one]
@[simp] theorem toC_I : toC (C.I : C ℝ) = Complex.I := by apply Complex.ext <;> simp [C.I]
@[simp] theorem toC_ofReal (x : ℝ) : toC (C.ofReal x) = (x : ℂ) := by apply Complex.ext <;> simp [C.ofReal]
@[simp] theorem toC_add (x y : C ℝ) : toC (C.add x y) = toC x + toC y := by
  apply Complex.ext <;> simp [C.add]
@[simp] theorem toC_sub (x y : C ℝ) : toC (C.sub x y) = toC x - toC y := by
  apply Complex.ext <;> simp [C.sub]
@[simp] theorem toC_neg (x : C ℝ) : toC (C.neg x) = -toC x := by
  apply Complex.ext <;> simp [C.neg]
@[simp] theorem toC_mul (x y : C ℝ) : toC (C.mul x y) = toC x * toC y := by
  apply Complex.ext <;> simp [C.mul]
@[simp] theorem toC_conj (x : C ℝ) : toC (C.conj x) = (starRingEnd ℂ) (toC x) := by
  apply Complex.ext <;> simp [C.conj]
@[simp] theorem toC_smul (s : ℝ) (x : C ℝ) : toC (C.smul s x) = (s : ℂ) * toC x := by
  apply Complex.ext <;> simp [C.smul]
theorem normSq_eq (x : C ℝ) : C.normSq x = Complex.normSq (toC x) := by
  simp [C.normSq, Complex.normSq_apply]

theorem toC_injective : Function.Injective toC := by
  intro x y h
  have h1 := congrArg Complex.re h
  have h2 := congrArg Complex.im h
  simp at h1 h2
  exact Prod.ext h1 h2

@[simp] theorem toC_sum (n : ℕ) (f : Fin n → C ℝ) : toC (C.sum n f) = ∑ i, toC (f i) := by
  -- `C.add` is the `+` of `ℝ × ℝ`
  have h : C.sum n f = ∑ i, f i := (foldl_add_eq n f 0).trans (zero_add _)
  rw [h]
  apply Complex.ext
  · rw [Complex.re_sum]; exact Prod.fst_sum
  · rw [Complex.im_sum]; exact Prod.snd_sum

@[simp] theorem toC_prod (n : ℕ) (f : Fin n → C ℝ) : toC (C.prod n f) = ∏ i, toC (f i) := by
  suffices h : ∀ a, toC (Fin.foldl n (fun acc i => C.mul acc (f i)) a) = toC a * ∏ i, toC (f i) by
    rw [C.prod, h, toC_one, one_mul]
  induction n with
  | zero => intro a; simp [Fin.foldl_zero]
  | succ k ih => intro a; rw [Fin.foldl_succ, ih, Fin.prod_univ_succ, toC_mul, mul_assoc]

theorem toC_div_real (p : C ℝ) (s : ℝ) : toC (p.1 / s, p.2 / s) = toC p / (s : ℂ) := by
  apply Complex.ext <;> simp

/-- `C.inv z = conj z / |z|²`; no guard: at `0` both sides are `0` -/
theorem toC_inv' (z : C ℝ) : toC (C.inv z) = (toC z)⁻¹ := by
  rw [Complex.inv_def, ← toC_conj, ← normSq_eq, Complex.ofReal_inv, ← div_eq_mul_inv]
  exact toC_div_real _ _

/-- `C.div x y = x · conj y / |y|²`; no guard: at `y = 0` both sides are `0` -/
theorem toC_div' (x y : C ℝ) : toC (C.div x y) = toC x / toC y := by
  rw [div_eq_mul_inv, Complex.inv_def, ← mul_assoc, ← toC_conj, ← toC_mul, ← normSq_eq, Complex.ofReal_inv,
    ← div_eq_mul_inv]
  exact toC_div_real _ _

/-- `toC_inv'` under the guard its callers carry. The proof does not use `hz`: the guard marks the point where the float
code yields `nan`, not a limit of the real-number statement. -/
theorem toC_inv (z : C ℝ) (hz : toC z ≠ 0) : toC (C.inv z) = (toC z)⁻¹ :=
  have _ := hz; toC_inv' z

/-- `toC_div'` under the guard `y ≠ 0`, unused in the same way -/
theorem toC_div (x y : C ℝ) (hy : toC y ≠ 0) : toC (C.div x y) = toC x / toC y :=
  have _ := hy; toC_div' x y

end QV
