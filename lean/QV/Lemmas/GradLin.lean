/-
QV.Lemmas.GradLin — linearity of the pairing `g.pair d` in `g`, for the record operations of the model (`add`, `sub`,
`sdiv`, `smul`, `zero`) and for records written entry by entry as weighted sums `Σ_k (f k).entry · w k` (`pair_weighted`):
that is the shape in which the model writes the exact negative phase (Boltzmann weights), the rotated gradients
(`Re`/`Im` of `Upsi_v / Upsi`) and, with unit weights, the `reduce=True` energy gradient of a batch.
-/
import QV.Lemmas.Deriv
import Mathlib.Algebra.BigOperators.Field

namespace QV
open Finset
variable {n h a : ℕ}

theorem RBM.pair_sub (x y d : RBM ℝ n h) : (x.sub y).pair d = x.pair d - y.pair d := by
  simp only [RBM.pair, RBM.sub, sub_mul, Finset.sum_sub_distrib]; ring

theorem RBM.pair_add (x y d : RBM ℝ n h) : (x.add y).pair d = x.pair d + y.pair d := by
  simp only [RBM.pair, RBM.add, add_mul, Finset.sum_add_distrib]; ring

theorem RBM.pair_zero (d : RBM ℝ n h) : (RBM.zero : RBM ℝ n h).pair d = 0 := by
  simp only [RBM.pair, RBM.zero, zero_mul, Finset.sum_const_zero, add_zero]

theorem RBM.pair_sdiv (x d : RBM ℝ n h) (s : ℝ) : (x.sdiv s).pair d = x.pair d / s := by
  simp only [RBM.pair, RBM.sdiv, div_mul_eq_mul_div, ← Finset.sum_div, add_div]

theorem RBM.pair_smul (x d : RBM ℝ n h) (s : ℝ) : (RBM.smul s x).pair d = s * x.pair d := by
  simp only [RBM.pair, RBM.smul, mul_assoc, ← Finset.mul_sum, mul_add]

theorem PRBM.pair_sub (x y d : PRBM ℝ n h a) : (x.sub y).pair d = x.pair d - y.pair d := by
  simp only [PRBM.pair, PRBM.sub, sub_mul, Finset.sum_sub_distrib]; ring

theorem PRBM.pair_add (x y d : PRBM ℝ n h a) : (x.add y).pair d = x.pair d + y.pair d := by
  simp only [PRBM.pair, PRBM.add, add_mul, Finset.sum_add_distrib]; ring

theorem PRBM.pair_zero (d : PRBM ℝ n h a) : (PRBM.zero : PRBM ℝ n h a).pair d = 0 := by
  simp only [PRBM.pair, PRBM.zero, zero_mul, Finset.sum_const_zero, add_zero]

theorem PRBM.pair_sdiv (x d : PRBM ℝ n h a) (s : ℝ) : (x.sdiv s).pair d = x.pair d / s := by
  simp only [PRBM.pair, PRBM.sdiv, div_mul_eq_mul_div, ← Finset.sum_div, add_div]

theorem sum_weighted_mul {ι κ : Type*} [Fintype ι] [Fintype κ] (F : κ → ι → ℝ) (w : κ → ℝ) (D : ι → ℝ) :
    ∑ x, (∑ k, F k x * w k) * D x = ∑ k, w k * ∑ x, F k x * D x := by
  simp only [Finset.sum_mul, Finset.mul_sum]
  rw [Finset.sum_comm]
  exact Finset.sum_congr rfl fun k _ => Finset.sum_congr rfl fun x _ => by ring

theorem RBM.pair_weighted {ι : Type*} [Fintype ι] (f : ι → RBM ℝ n h) (w : ι → ℝ) (d : RBM ℝ n h) :
    RBM.pair ⟨fun i j => ∑ k, (f k).W i j * w k, fun j => ∑ k, (f k).b j * w k, fun i => ∑ k, (f k).c i * w k⟩ d
      = ∑ k, w k * (f k).pair d := by
  simp only [RBM.pair, ← Fintype.sum_prod_type']
  simp only [sum_weighted_mul, mul_add, Finset.sum_add_distrib]

theorem PRBM.pair_weighted {ι : Type*} [Fintype ι] (f : ι → PRBM ℝ n h a) (w : ι → ℝ) (d : PRBM ℝ n h a) :
    PRBM.pair ⟨fun i j => ∑ k, (f k).W i j * w k, fun i j => ∑ k, (f k).U i j * w k, fun j => ∑ k, (f k).b j * w k,
        fun i => ∑ k, (f k).c i * w k, fun i => ∑ k, (f k).d i * w k⟩ d
      = ∑ k, w k * (f k).pair d := by
  simp only [PRBM.pair, ← Fintype.sum_prod_type']
  simp only [sum_weighted_mul, mul_add, Finset.sum_add_distrib]

/-- `effective_energy_gradient(vs, reduce=True)`, which the code computes by `matmul` / `sum` over the batch axis, against the
rows of `reduce=False` -/
theorem RBM.pair_effEnergyGrad (r d : RBM ℝ n h) {B : ℕ} (vs : Fin B → Fin n → ℝ) :
    (r.effEnergyGrad vs).pair d = ∑ s, (r.effEnergyGrad1 (vs s)).pair d := by
  have := RBM.pair_weighted (fun s => r.effEnergyGrad1 (vs s)) (fun _ : Fin B => (1 : ℝ)) d
  simp only [mul_one, one_mul] at this
  rw [← this]
  exact congrArg (RBM.pair · d)
    (by simp only [RBM.effEnergyGrad, RBM.effEnergyGrad1, sumFin_eq, Finset.sum_neg_distrib])

theorem PRBM.pair_effEnergyGrad (r d : PRBM ℝ n h a) {B : ℕ} (vs : Fin B → Fin n → ℝ) :
    (r.effEnergyGrad vs).pair d = ∑ s, (r.effEnergyGrad1 (vs s)).pair d := by
  have := PRBM.pair_weighted (fun s => r.effEnergyGrad1 (vs s)) (fun _ : Fin B => (1 : ℝ)) d
  simp only [mul_one, one_mul] at this
  rw [← this]
  exact congrArg (PRBM.pair · d)
    (by simp only [PRBM.effEnergyGrad, PRBM.effEnergyGrad1, sumFin_eq, Finset.sum_neg_distrib])

end QV
