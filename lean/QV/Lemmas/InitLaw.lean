/-
Lemmas about `QV.Model.InitLaw.tab2` (row-major tabulation) used by the C20 initialisation-law theorems.
-/
import Mathlib.Data.List.Basic
import QV.Model.InitLaw

namespace QV.InitLaw

variable {α : Type}

def entryD (z : α) (M : List (List α)) (i j : Nat) : α := (M.getD i []).getD j z

theorem tab2_length (rows cols : Nat) (f : Nat → Nat → α) : (tab2 rows cols f).length = rows := by
  simp [tab2]

theorem tab2_row_length (rows cols : Nat) (f : Nat → Nat → α) :
    ∀ row ∈ tab2 rows cols f, row.length = cols := by
  intro row hrow
  simp only [tab2, List.mem_map, List.mem_range] at hrow
  obtain ⟨i, _, rfl⟩ := hrow
  simp

theorem tab2_entry (z : α) (rows cols : Nat) (f : Nat → Nat → α) {i j : Nat} (hi : i < rows) (hj : j < cols) :
    entryD z (tab2 rows cols f) i j = f i j := by
  simp [entryD, tab2, List.getD_eq_getElem?_getD, hi, hj]

theorem tab2_mem_const (rows cols : Nat) (c : α) :
    ∀ row ∈ tab2 rows cols (fun _ _ => c), ∀ x ∈ row, x = c := by
  intro row hrow x hx
  simp only [tab2, List.mem_map, List.mem_range] at hrow
  obtain ⟨i, _, rfl⟩ := hrow
  simp only [List.mem_map, List.mem_range] at hx
  obtain ⟨j, _, rfl⟩ := hx
  rfl

end QV.InitLaw
