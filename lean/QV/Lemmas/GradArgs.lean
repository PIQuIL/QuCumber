/-
QV.Lemmas.GradArgs — lemmas for QV.Model.GradArgs (C03): the call forms of `bases` (what `normBases` accepts and refuses),
the index arithmetic of the flat `[W, U, b, c, d]` layout of `gamma_grad` / `pi_grad` (`catEntry_eq_flatten`, on the
row-major flattening of a matrix, which C06 uses too), and shape and entries of the tensor `layoutT` returns in each
combination of `expand` and operand ranks.
-/
import Mathlib.Data.List.Basic
import Mathlib.Data.List.GetD
import Mathlib.Data.Real.Basic
import Mathlib.Tactic.Ring
import QV.Model.GradArgs
import QV.Lemmas.CallShape

namespace QV
namespace Grads

/-! ### call forms -/

theorem rect_ok_of_lengths (rows : List (List Letter)) (L : ℕ) (hL : ∀ r ∈ rows, r.length = L) :
    rect rows = .ok rows := by
  cases rows with
  | nil => rfl
  | cons r rs =>
    have h0 : r.length = L := hL r (by simp)
    have : rs.all (fun x => x.length == r.length) = true := by
      rw [List.all_eq_true]
      intro x hx
      have := hL x (by simp [hx])
      simp [this, h0]
    simp [rect, this]

theorem rect_error_of_ragged (r : List Letter) (rs : List (List Letter)) (x : List Letter) (hx : x ∈ rs)
    (hne : x.length ≠ r.length) : rect (r :: rs) = .error .ValueError := by
  have : rs.all (fun x => x.length == r.length) = false := by
    rw [List.all_eq_false]
    exact ⟨x, hx, by simpa using hne⟩
  simp [rect, this]

theorem rect_cases (rows : List (List Letter)) : rect rows = .ok rows ∨ rect rows = .error .ValueError := by
  cases rows with
  | nil => exact .inl rfl
  | cons r rs =>
    rw [rect]
    split
    · exact .inl rfl
    · exact .inr rfl

/-- a `bases` argument other than `None` whose array is `np.array` of `rows`, with the wrong number of rows, is refused: by
the array construction (`ValueError`) if the rows are ragged, with `IndexError` otherwise (the boolean mask `indices == i`
has the wrong length) -/
theorem normBases_error_of_rect (b : BasesArg) (oneD : Bool) (rows : List (List Letter)) (hb : b ≠ .none)
    (h : toArray b oneD = rect rows) {nS nSites : ℕ} (hl : rows.length ≠ nS) {keys : List Char} :
    ∃ e, normBases b oneD nS nSites keys = .error e := by
  cases b with
  | none => exact absurd rfl hb
  | str _ | seq1 _ | seq2 _ =>
    rcases rect_cases rows with h' | h'
    · exact ⟨.IndexError, by simp only [normBases, h.trans h', ne_eq, hl, not_false_eq_true, if_true]⟩
    · exact ⟨.ValueError, by simp only [normBases, h.trans h']⟩

/-- … and one whose array has one admissible row per sample is accepted as that array -/
theorem normBases_ok {b : BasesArg} (hb : b ≠ .none) {oneD : Bool} {rows : List (List Letter)}
    (h : toArray b oneD = .ok rows) {nS nSites : ℕ} {keys : List Char} (hl : rows.length = nS)
    (hall : rows.all (rowOk keys nSites) = true) : normBases b oneD nS nSites keys = .ok rows := by
  cases b with
  | none => exact absurd rfl hb
  | str _ | seq1 _ | seq2 _ => simp only [normBases, h, hl, ne_eq, not_true_eq_false, if_false, hall, if_true]

theorem gradientArgs_ok {n : ℕ} {γ : Type} {keys : List Char} {noBases : List (Fin n → Bool) → γ}
    {core : List (Sample n) → γ} {samples : SamplesArg n} {b : BasesArg} (hb : b ≠ .none) {arr : List (List Letter)}
    (h : normBases b samples.isOne samples.rows.length n keys = .ok arr) :
    gradientArgs keys noBases core samples b = .ok (core (List.zipWith toSample samples.rows arr)) := by
  cases b with
  | none => exact absurd rfl hb
  | str _ | seq1 _ | seq2 _ => simp only [gradientArgs, h]

theorem rowOk_lettersOf (keys : List Char) (b : List Char) (k : ℕ) (hk : b.length ≤ k)
    (hb : ∀ c ∈ b, c = 'Z' ∨ c ∈ keys) : rowOk keys k (lettersOf b) = true := by
  induction b generalizing k with
  | nil => rfl
  | cons c cs ih =>
    have hk' : 0 < k := by simp at hk; omega
    have hcs : cs.length ≤ k - 1 := by simp at hk; omega
    have hc := hb c (by simp)
    have ih' := ih (k - 1) hcs (fun c' hc' => hb c' (by simp [hc']))
    simp only [lettersOf, List.map_cons, rowOk] at ih' ⊢
    rw [ih', Bool.and_true]
    rcases hc with rfl | hc
    · simp
    · simp [isKey, hk', hc]

theorem toSample_lettersOf {n : ℕ} (σ : Fin n → Bool) (b : List Char) : toSample σ (lettersOf b) = ⟨σ, b⟩ := by
  simp [toSample, lettersOf, List.map_map, Function.comp_def]

theorem zipWith_toSample_lettersOf {n : ℕ} (σs : List (Fin n → Bool)) (bs : List (List Char)) :
    List.zipWith toSample σs (bs.map lettersOf) = List.zipWith Sample.mk σs bs := by
  induction σs generalizing bs with
  | nil => simp
  | cons σ σs ih =>
    cases bs with
    | nil => simp
    | cons b bs => simp [ih, toSample_lettersOf]

theorem rowOk_entries (keys : List Char) (k : ℕ) (row : List Letter) (h : rowOk keys k row = true) :
    ∀ e ∈ row, e = ['Z'] ∨ ∃ c ∈ keys, e = [c] := by
  induction row generalizing k with
  | nil => simp
  | cons e es ih =>
    simp only [rowOk, Bool.and_eq_true, Bool.or_eq_true, beq_iff_eq, decide_eq_true_eq] at h
    intro x hx
    rcases List.mem_cons.1 hx with rfl | hx
    · rcases h.1 with hz | ⟨_, hkey⟩
      · exact Or.inl hz
      · right
        unfold isKey at hkey
        split at hkey
        · rename_i c
          exact ⟨c, by simpa using hkey, rfl⟩
        · cases hkey
    · exact ih (k - 1) h.2 x hx

/-- whatever `normBases` accepts has one row per sample, whose entries are `"Z"` or one-letter dictionary keys -/
theorem normBases_ok_entries {b : BasesArg} {oneD : Bool} {nS nSites : ℕ} {keys : List Char} {arr : List (List Letter)}
    (hok : normBases b oneD nS nSites keys = .ok arr) :
    arr.length = nS ∧ ∀ row ∈ arr, ∀ e ∈ row, e = ['Z'] ∨ ∃ c ∈ keys, e = [c] := by
  cases b with
  | none =>
    simp only [normBases, Except.ok.injEq] at hok
    subst hok
    refine ⟨by simp, fun row hrow e he => Or.inl ?_⟩
    rw [List.eq_of_mem_replicate hrow] at he
    exact List.eq_of_mem_replicate he
  | str s | seq1 l | seq2 l =>
    simp only [normBases] at hok
    split at hok
    · cases hok
    · split_ifs at hok with hlen hall
      cases hok
      exact ⟨by simpa using hlen, fun row hrow => rowOk_entries keys nSites row (List.all_eq_true.mp hall row hrow)⟩

/-! ### flat layout -/

theorem length_flatMap_rows {α : Type} (r c : ℕ) (f : Fin r → Fin c → α) :
    ((List.finRange r).flatMap (fun i => (List.finRange c).map (fun j => f i j))).length = r * c := by
  induction r with
  | zero => simp
  | succ k ih =>
    rw [List.finRange_succ, List.flatMap_cons, List.length_append, List.flatMap_map]
    have := ih (fun i j => f i.succ j)
    simp only [List.length_map, List.length_finRange] at this ⊢
    rw [this]; ring

theorem getElem?_flatMap_rows {α : Type} (r c : ℕ) (f : Fin r → Fin c → α) (i : Fin r) (j : Fin c) :
    ((List.finRange r).flatMap (fun i => (List.finRange c).map (fun j => f i j)))[i.val * c + j.val]?
      = some (f i j) := by
  induction r with
  | zero => exact i.elim0
  | succ k ih =>
    rw [List.finRange_succ, List.flatMap_cons, List.flatMap_map]
    have hlen : ((List.finRange c).map fun j => f 0 j).length = c := by rw [List.length_map, List.length_finRange]
    refine Fin.cases ?_ (fun i' => ?_) i
    · rw [Fin.val_zero, Nat.zero_mul, Nat.zero_add, List.getElem?_append_left (hlen.symm ▸ j.isLt),
        List.getElem?_map, List.getElem?_eq_getElem (by rw [List.length_finRange]; exact j.isLt), List.getElem_finRange]
      rfl
    · rw [List.getElem?_append_right (by rw [hlen, Fin.val_succ, Nat.succ_mul]; omega), hlen, Fin.val_succ,
        Nat.succ_mul, Nat.add_right_comm, Nat.add_sub_cancel]
      exact ih (fun a b => f a.succ b) i'

/-- stated in the `dite` shape of the matrix branches of `catEntry` (same bounds proofs), so that `catEntry_eq_flatten` is a
`simp only` -/
theorem getD_flatMap_rows {β : Type} {h n : ℕ} (W : Fin h → Fin n → β) (q : ℕ) (d : β) :
    ((List.finRange h).flatMap (fun i => (List.finRange n).map (fun j => W i j))).getD q d
      = if hq : q < h * n then
          W ⟨q / n, Nat.div_lt_of_lt_mul (by rw [Nat.mul_comm n h]; exact hq)⟩
            ⟨q % n, Nat.mod_lt _ (Nat.pos_of_ne_zero (by intro h0; subst h0; simp at hq))⟩
        else d := by
  split
  · rename_i hq
    have := getElem?_flatMap_rows h n W ⟨q / n, Nat.div_lt_of_lt_mul (by rw [Nat.mul_comm n h]; exact hq)⟩
      ⟨q % n, Nat.mod_lt _ (Nat.pos_of_ne_zero (by intro h0; subst h0; simp at hq))⟩
    rw [show q / n * n + q % n = q by rw [Nat.mul_comm]; exact Nat.div_add_mod q n] at this
    rw [List.getD_eq_getElem?_getD, this]; rfl
  · rename_i hq
    exact List.getD_eq_default _ _ (by rw [length_flatMap_rows]; omega)

theorem getD_map_finRange {β : Type} {m : ℕ} (f : Fin m → β) (q : ℕ) (d : β) :
    ((List.finRange m).map f).getD q d = if hq : q < m then f ⟨q, hq⟩ else d := by
  split
  · rename_i hq
    rw [List.getD_eq_getElem?_getD, List.getElem?_map, List.getElem?_eq_getElem (by simpa using hq)]
    simp
  · rename_i hq
    exact List.getD_eq_default _ _ (by simpa using hq)

theorem ite_dite_same {c : Prop} [Decidable c] {β : Type} (x : c → β) (y z : β) :
    (if c then (if hc : c then x hc else y) else z) = if hc : c then x hc else z := by
  split <;> rfl

theorem getD_append_ite {β : Type} (l1 l2 : List β) (q : ℕ) (d : β) :
    (l1 ++ l2).getD q d = if q < l1.length then l1.getD q d else l2.getD (q - l1.length) d := by
  split
  · rename_i hq; exact List.getD_append _ _ _ _ hq
  · rename_i hq; exact List.getD_append_right _ _ _ _ (by omega)

/-- **the index arithmetic of `torch.cat([W.view(-1), U.view(-1), b, c, d], -1)` is the `parameters()` layout**:
position `q` of the concatenation is position `q` of `PRBM.flatten` of the record. -/
theorem catEntry_eq_flatten {n h a : ℕ} (g : PRBM ℝ n h a) (q : ℕ) : catEntry g q = g.flatten.getD q 0 := by
  -- read block by block from the left, `flatten` is the same chain of `if`s as `catEntry`
  simp only [catEntry, PRBM.flatten, List.append_assoc, getD_append_ite, getD_flatMap_rows, getD_map_finRange,
    length_flatMap_rows, List.length_map, List.length_finRange, ite_dite_same]

/-! ### batch layout (generic in the per-pair record)

In each accepted case the tensor is given by reducing `layoutT`; its entries are `catEntry` at the literal index, which is
`flatten.getD` by `catEntry_eq_flatten`. -/

/-- `expand=True`: shape `(B, B', P)`, entry `[i, j, :]` is the flat record of the pair (row `i` of `v`, row `j` of `vp`) -/
theorem layoutT_expand {n h a : ℕ} (v vp : RowsArg ℝ n) (entry : ℕ → ℕ → PRBM ℝ n h a) :
    ∃ t, layoutT true v vp entry = .ok t ∧ t.shape = [v.B, vp.B, h * n + a * n + n + h + a]
      ∧ ∀ i j q, t.get [i, j, q] = (entry i j).flatten.getD q 0 :=
  ⟨_, by simp only [layoutT, if_true]; rfl, rfl, fun _ _ _ => catEntry_eq_flatten _ _⟩

/-- `expand=False`, two 2-D batches of the same size (`B ≠ 1` or not: no 1-D operand, so no squeeze): shape `(B, P)`,
entry `[i, :]` is the flat record of the pair (row `i`, row `i`) -/
theorem layoutT_paired {n h a : ℕ} (v vp : RowsArg ℝ n) (entry : ℕ → ℕ → PRBM ℝ n h a) (B : ℕ)
    (hv : v.batch = some B) (hvp : vp.batch = some B) :
    ∃ t, layoutT false v vp entry = .ok t ∧ t.shape = [B, h * n + a * n + n + h + a]
      ∧ ∀ i q, i < B → t.get [i, q] = (entry i i).flatten.getD q 0 := by
  have hB : v.B = B := by rw [RowsArg.B, hv]; rfl
  have hBp : vp.B = B := by rw [RowsArg.B, hvp]; rfl
  refine ⟨_, by simp only [layoutT, RowsArg.isOne, hv, hvp, hB, hBp, Option.isNone_some, Bool.or_self,
    Bool.false_eq_true, if_false, true_or, if_true]; rfl, rfl, fun i q hi => ?_⟩
  refine (catEntry_eq_flatten _ _).trans ?_
  by_cases h1 : B = 1
  · rw [if_pos h1, show i = 0 by omega]; rfl
  · rw [if_neg h1]; rfl

/-- `expand=False`, a one-row or 1-D `vp` against a 2-D batch `v` of `B ≠ 1` rows (broadcast; `squeeze_(0)` is a no-op):
shape `(B, P)`, entry `[i, :]` is the flat record of the pair (row `i`, row `0`) -/
theorem layoutT_broadcast {n h a : ℕ} (v vp : RowsArg ℝ n) (entry : ℕ → ℕ → PRBM ℝ n h a) (B : ℕ) (hB1 : B ≠ 1)
    (hv : v.batch = some B) (hvp : vp.B = 1) :
    ∃ t, layoutT false v vp entry = .ok t ∧ t.shape = [B, h * n + a * n + n + h + a]
      ∧ ∀ i q, t.get [i, q] = (entry i 0).flatten.getD q 0 := by
  have hB : v.B = B := by rw [RowsArg.B, hv]; rfl
  refine ⟨_, by simp only [layoutT, Bool.false_eq_true, if_false, hvp, or_true, if_true, hB,
    FT.squeeze0_cons_ne _ _ _ hB1, ite_self]; rfl, rfl, fun _ _ => catEntry_eq_flatten _ _⟩

/-- `expand=False`, at least one 1-D operand and one row on each side: every block is squeezed, shape `(P,)`, the flat
record of the single pair -/
theorem layoutT_1d {n h a : ℕ} (v vp : RowsArg ℝ n) (entry : ℕ → ℕ → PRBM ℝ n h a)
    (hu : v.batch = none ∨ vp.batch = none) (hB : v.B = 1) (hBp : vp.B = 1) :
    ∃ t, layoutT false v vp entry = .ok t ∧ t.shape = [h * n + a * n + n + h + a]
      ∧ ∀ q, t.get [q] = (entry 0 0).flatten.getD q 0 := by
  have hu' : (v.isOne || vp.isOne) = true := by
    rcases hu with h | h <;> simp [RowsArg.isOne, h]
  exact ⟨_, by simp only [layoutT, Bool.false_eq_true, if_false, hBp, hB, or_true, if_true, hu']; rfl, rfl,
    fun _ => catEntry_eq_flatten _ _⟩

theorem layoutT_refused {n h a : ℕ} (v vp : RowsArg ℝ n) (entry : ℕ → ℕ → PRBM ℝ n h a)
    (h1 : vp.B ≠ v.B) (h2 : vp.B ≠ 1) : layoutT false v vp entry = .error .RuntimeError := by
  simp only [layoutT, Bool.false_eq_true, if_false, h1, h2, or_self]

end Grads
end QV
