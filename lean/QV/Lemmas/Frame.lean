/-
QV.Lemmas.Frame — helper lemmas and specification predicates for C14 (QV.Model.Frame).

 * counting lemmas: the ordered call lists of the model sum to the closed forms;
 * equations of `step` (seeding; an operation addressed to an object; a read-only operation), the case principle
   `Op.slotCases` for the addressed operations, and what each operation touches;
 * `Agree b`: two process states agree on everything the library can read
   (torch generator, allocation counter, object table from slot `b` on, files) — numpy's and Python's
   generators are NOT part of it;
 * unwinding lemmas: every non-foreign operation preserves `Agree b` and yields equal
   results; every foreign operation leaves everything but its own generator unchanged;
 * `step_gen`, `run_gen`: a run depends on the stream function and on the seed word in torch's generator only
   through the values drawn;
 * `run_torchGen`, `skeleton`: where torch's generator stands after a history; the read-only operations of a history
   replaced by plain draws of the same length leave the same final state.
-/
import Mathlib.Tactic.Ring
import QV.Model.Frame

namespace QV.Frame

/-! ### specification side: what the statements of `Props/C14` are written with -/

def listSum : List Nat → Nat
  | [] => 0
  | x :: xs => x + listSum xs

/-- Two process states agree on everything library code can read: torch's generator, the allocation counter, the
object table from slot `b` on, the files. numpy's and Python's generators are NOT compared. -/
structure Agree {P : Type} (b : Nat) (s₁ s₂ : St P) : Prop where
  torch : s₁.torchGen = s₂.torchGen
  nextId : s₁.nextId = s₂.nextId
  objs : ∀ i, b ≤ i → s₁.objs i = s₂.objs i
  files : ∀ p, s₁.files p = s₂.files p

/-- every slot the history addresses is `≥ b` -/
def ClosedAbove (b : Nat) (ops : List Op) : Prop := ∀ op ∈ ops, ∀ i, op.slot? = some i → b ≤ i

/-- the library part of a history: foreign numpy / `random` operations removed -/
def lib (ops : List Op) : List Op := ops.filter (fun o => !o.isExternal)

/-- the same semantics with another stream function -/
def Sem.withMix {P O : Type} (S : Sem P O) (mix' : Nat → Nat → Nat) : Sem P O := { S with mix := mix' }

/-- the two stream functions give the same stream for seed `s` -/
def StreamEq (mix mix' : Nat → Nat → Nat) (s : Nat) : Prop := ∀ i, mix s i = mix' s i

/-- the history with every read-only operation replaced by "draw as many values from torch's
generator as that operation draws" -/
def skeleton {P O : Type} (S : Sem P O) : St P → List Op → List Op
  | _, [] => []
  | st, op :: ops =>
    (if op.isPure then Op.burn (stepDraws st op) else op) :: skeleton S (step S st op).1 ops

/-! ### generators -/

theorem take_eq (mix : Nat → Nat → Nat) (m : Nat) (g : Gen) :
    Gen.take mix m g = ((List.range m).map (fun i => mix g.seedOf (g.pos + i)), ⟨g.seedOf, g.pos + m⟩) := by
  induction m generalizing g with
  | zero => rfl
  | succ m ih =>
    rw [Gen.take, ih, List.range_succ_eq_map, List.map_cons, List.map_map]
    simp only [Gen.next, Function.comp_def, Nat.add_zero, Nat.add_assoc, Nat.add_comm 1]

theorem take_snd (mix : Nat → Nat → Nat) (m : Nat) (g : Gen) :
    (Gen.take mix m g).2 = ⟨g.seedOf, g.pos + m⟩ := by rw [take_eq]

/-! ### counting -/

theorem callsTotal_append (a b : List Call) : callsTotal (a ++ b) = callsTotal a + callsTotal b := by
  induction a with
  | nil => simp [callsTotal]
  | cons c cs ih => simp [callsTotal, ih]; omega

theorem callsTotal_replicate_flatten (k : Nat) (l : List Call) :
    callsTotal (List.replicate k l).flatten = k * callsTotal l := by
  induction k with
  | zero => simp [callsTotal]
  | succ k ih =>
    rw [List.replicate_succ, List.flatten_cons, callsTotal_append, ih]
    ring

theorem callsTotal_gibbsStep (A : Arch) (rows : Nat) :
    callsTotal (gibbsStepCalls A rows) = rows * units A := by
  unfold gibbsStepCalls units
  cases A.kind <;> simp [callsTotal] <;> ring

theorem callsTotal_gibbs (A : Arch) (k rows : Nat) :
    callsTotal (gibbsCalls A k rows) = k * (rows * units A) := by
  unfold gibbsCalls
  rw [callsTotal_replicate_flatten, callsTotal_gibbsStep]

theorem callsTotal_init (A : Arch) : callsTotal (initCalls A) = initDraws A := by
  unfold initCalls initDraws netInitCalls numNets
  cases A.kind <;> simp [callsTotal, List.replicate]
  omega

theorem callsTotal_sample (A : Arch) (k num : Nat) (init : Option Nat) :
    callsTotal (sampleCalls A k num init) = sampleDraws A k num init := by
  unfold sampleCalls sampleDraws
  cases init <;> simp [callsTotal, callsTotal_gibbs]

theorem callsTotal_stat (A : Arch) (ns nc bi stp : Nat) (init : Option Nat)
    (hok : (statCalls A ns nc bi stp init).2 = none) :
    callsTotal (statCalls A ns nc bi stp init).1 = statDraws A ns nc bi stp init := by
  unfold statCalls at hok ⊢
  unfold statDraws
  by_cases hz : statChains ns nc init = 0 ∨ ns = 0
  · simp [hz] at hok
  · simp only [hz, if_false]
    rw [callsTotal_append, callsTotal_replicate_flatten, callsTotal_sample, callsTotal_gibbs]

/-! ### batch slicing -/

theorem ceilDiv_zero {B : Nat} (hB : 0 < B) : ceilDiv 0 B = 0 := Nat.div_eq_of_lt (by omega)

theorem ceilDiv_pos {T B : Nat} (hT : 0 < T) (hB : 0 < B) : ceilDiv T B = (T - 1) / B + 1 := by
  rw [ceilDiv, Nat.sub_add_comm hT, Nat.add_div_right _ hB]

theorem ceilDiv_succ (a : Nat) {p : Nat} (hp : 0 < p) :
    ceilDiv (a + 1) p = ceilDiv a p + if a % p = 0 then 1 else 0 := by
  rw [ceilDiv, ceilDiv, show a + 1 + p - 1 = a + p - 1 + 1 by omega, Nat.succ_div]
  simp only [show a + p - 1 + 1 = a + p by omega, Nat.dvd_iff_mod_eq_zero, Nat.add_mod_right]

/-- the multiples of `p` in `[a, a+n)`, counted additively: no truncated subtraction inside the induction -/
theorem multiples_count (p : Nat) (hp : 0 < p) (a n : Nat) :
    ((List.range n).filter (fun j => (a + j) % p = 0)).length + ceilDiv a p = ceilDiv (a + n) p := by
  induction n with
  | zero => exact Nat.zero_add _
  | succ n ih =>
    rw [List.range_succ, List.filter_append, List.length_append, Nat.add_right_comm, ih, ← Nat.add_assoc,
      ceilDiv_succ _ hp, List.filter_cons, List.filter_nil]
    by_cases hd : (a + n) % p = 0 <;> simp only [hd, decide_true, decide_false, if_true, if_false] <;> rfl

theorem sliceSizes_zero (B : Nat) : sliceSizes 0 B = [] := by
  rw [sliceSizes]; simp

theorem sliceSizes_pos {T B : Nat} (hT : 0 < T) (hB : 0 < B) :
    sliceSizes T B = min B T :: sliceSizes (T - B) B := by
  rw [sliceSizes, dif_neg (by omega)]

theorem sliceSizes_sum (T B : Nat) (hB : 0 < B) : listSum (sliceSizes T B) = T := by
  induction T using Nat.strong_induction_on with
  | _ T ih =>
    rcases Nat.eq_zero_or_pos T with rfl | hT
    · rw [sliceSizes_zero]; rfl
    · rw [sliceSizes_pos hT hB, listSum, ih (T - B) (by omega)]
      omega

theorem sliceSizes_length (T B : Nat) (hB : 0 < B) : (sliceSizes T B).length = ceilDiv T B := by
  induction T using Nat.strong_induction_on with
  | _ T ih =>
    rcases Nat.eq_zero_or_pos T with rfl | hT
    · rw [sliceSizes_zero, ceilDiv_zero hB]; rfl
    · rw [sliceSizes_pos hT hB, List.length_cons, ih (T - B) (by omega), ceilDiv_pos hT hB]
      rcases Nat.lt_or_ge B T with h | h
      · rw [ceilDiv_pos (by omega) hB, show T - 1 = T - B - 1 + B by omega, Nat.add_div_right _ hB]
      · rw [Nat.sub_eq_zero_of_le h, ceilDiv_zero hB, Nat.div_eq_of_lt (by omega)]

theorem sliceSizes_mul (m B : Nat) (hB : 0 < B) : sliceSizes (m * B) B = List.replicate m B := by
  induction m with
  | zero => simp [sliceSizes_zero]
  | succ m ih =>
    rw [sliceSizes_pos (Nat.mul_pos m.succ_pos hB) hB, Nat.succ_mul, Nat.add_sub_cancel, ih,
      Nat.min_eq_left (Nat.le_add_left _ _), List.replicate_succ]

theorem listSum_replicate (m B : Nat) : listSum (List.replicate m B) = m * B := by
  induction m with
  | zero => simp [listSum]
  | succ m ih => rw [List.replicate_succ, listSum, ih]; ring

theorem ceilDiv_mul (m B : Nat) (hB : 0 < B) : ceilDiv (m * B) B = m := by
  rw [← sliceSizes_length _ _ hB, sliceSizes_mul _ _ hB, List.length_replicate]

/-! ### the calls of `fit` -/

/-- `hlen`: `zip` stops at the shorter list, so every negative batch is run only if there are at least as many
positive ones; `_shuffle_data` always builds equally many (discharged in `callsTotal_fit`). -/
theorem callsTotal_batch (A : Arch) (k N posB negB negTotal : Nat)
    (hlen : (sliceSizes N posB).length = (sliceSizes negTotal negB).length) (hB : 0 < negB) :
    callsTotal (batchCalls A k N posB negB negTotal) = k * (negTotal * units A) := by
  have key : ∀ l : List Nat, callsTotal ((l.map (gibbsCalls A k)).flatten) = k * (listSum l * units A) := by
    intro l
    induction l with
    | nil => simp [callsTotal, listSum]
    | cons x xs ih =>
      rw [List.map_cons, List.flatten_cons, callsTotal_append, ih, callsTotal_gibbs, listSum]
      ring
  show callsTotal ((List.map (gibbsCalls A k ∘ Prod.snd) _).flatten) = _
  rw [← List.map_map, List.map_snd_zip (Nat.le_of_eq hlen.symm), key, sliceSizes_sum _ _ hB]

/-- the shape `fitCalls_ok` gives the calls of a completed `fit` -/
theorem callsTotal_epochs (epoch : List Call) (g : Nat → List Call) (n : Nat) :
    callsTotal (((List.range n).map (fun j => epoch ++ g j)).flatten)
      = n * callsTotal epoch + callsTotal (((List.range n).map g).flatten) := by
  induction n with
  | zero => simp [callsTotal]
  | succ n ih =>
    rw [List.range_succ, List.map_append, List.map_append, List.flatten_append, List.flatten_append,
      callsTotal_append, callsTotal_append, ih]
    simp only [List.map_cons, List.map_nil, List.flatten_cons, List.flatten_nil, List.append_nil, callsTotal_append]
    ring

theorem callsTotal_selected (P : Nat → Bool) (L : List Call) (n : Nat) :
    callsTotal (((List.range n).map (fun j => if P j then L else [])).flatten)
      = ((List.range n).filter P).length * callsTotal L := by
  induction n with
  | zero => simp [callsTotal]
  | succ n ih =>
    rw [List.range_succ, List.map_append, List.flatten_append, callsTotal_append, ih, List.filter_append,
      List.length_append]
    cases h : P n <;> simp [h, callsTotal]
    ring

theorem evalCb_stat_ok (A : Arch) (cb : EvalCb) :
    (statCalls A cb.numSamples cb.numChains cb.burnIn cb.steps none).2 = none := by
  unfold statCalls
  have hc : ¬ (statChains cb.numSamples cb.numChains none = 0 ∨ cb.numSamples = 0) := by
    unfold statChains EvalCb.numSamples
    simp only []
    split
    · rename_i h
      have : cb.numChains ≠ 0 := by simpa using h
      omega
    · omega
  rw [if_neg hc]

theorem callsTotal_evalCalls (A : Arch) (c : FitCfg) :
    callsTotal (((List.range c.numEpochs).map (fun j => evalCalls A c (c.startEpoch + j))).flatten) = evalDraws A c := by
  unfold evalCalls evalDraws
  cases c.evalCb with
  | none =>
    have := callsTotal_selected (fun _ => false) [] c.numEpochs
    simpa [callsTotal] using this
  | some cb =>
    simp only []
    have := callsTotal_selected (fun j => decide ((c.startEpoch + j) % cb.period = 0))
      (statCalls A cb.numSamples cb.numChains cb.burnIn cb.steps none).1 c.numEpochs
    simp only [decide_eq_true_eq] at this
    rw [this, callsTotal_stat _ _ _ _ _ _ (evalCb_stat_ok A cb)]
    rfl

theorem negB'_pos (c : FitCfg) (h : 0 < c.posB) : 0 < c.negB' := by
  unfold FitCfg.negB'
  cases hn : c.negB with
  | none => simpa
  | some b =>
    cases b with
    | zero => simpa
    | succ b => simp

/-- a shuffle that does not raise: `randperm(N)` and, unless the negative phase shares the permutation, one
`randint` of `nb * negB` elements, which is then the number of negative samples -/
theorem shuffleCalls_ok {N posB negB nb : Nat} {bases : Option Nat}
    (h : (shuffleCalls N posB negB nb bases).2.1 = none) :
    callsTotal (shuffleCalls N posB negB nb bases).1 = N + (if bases = none ∧ negB = posB then 0 else nb * negB)
      ∧ (shuffleCalls N posB negB nb bases).2.2 = if bases = none ∧ negB = posB then N else nb * negB := by
  unfold shuffleCalls at h ⊢
  rcases bases with _ | M <;> dsimp only at h ⊢
  · by_cases h1 : negB = posB
    · simp only [h1, if_true, and_self, callsTotal, Nat.add_zero]
    · simp only [h1, if_false, and_false] at h ⊢
      split_ifs at h ⊢
      simp only [callsTotal, Nat.add_zero, and_self]
  · simp only [reduceCtorEq, false_and, if_false]
    split_ifs at h ⊢
    simp only [callsTotal, Nat.add_zero, and_self]

/-- the training calls of one epoch of `fit`: the shuffle, then the Gibbs chains of the batches -/
def epochCalls (A : Arch) (c : FitCfg) : List Call :=
  (shuffleCalls c.N c.posB c.negB' (ceilDiv c.N c.posB) (effBases A c)).1
    ++ batchCalls A c.k c.N c.posB c.negB' (shuffleCalls c.N c.posB c.negB' (ceilDiv c.N c.posB) (effBases A c)).2.2

/-- whether `fit` raises does not depend on the evaluator callback -/
theorem fitCalls_err (A : Arch) (c : FitCfg) :
    (fitCalls A c).2 =
      if A.kind ≠ .pos ∧ c.bases = none then some .ValueError
      else if c.posB = 0 then some .ZeroDivisionError
      else if c.numEpochs = 0 then none
      else (shuffleCalls c.N c.posB c.negB' (ceilDiv c.N c.posB) (effBases A c)).2.1 := by
  rw [fitCalls]
  by_cases h1 : A.kind ≠ .pos ∧ c.bases = none
  · rw [if_pos h1, if_pos h1]
  rw [if_neg h1, if_neg h1]
  by_cases h2 : c.posB = 0
  · rw [if_pos h2, if_pos h2]
  rw [if_neg h2, if_neg h2]
  by_cases h3 : c.numEpochs = 0
  · rw [if_pos h3, if_pos h3]
  rw [if_neg h3, if_neg h3]
  dsimp only
  split <;> simp only [*]

theorem fitCalls_ok {A : Arch} {c : FitCfg} (hok : (fitCalls A c).2 = none) :
    (fitCalls A c).1
      = ((List.range c.numEpochs).map (fun j => epochCalls A c ++ evalCalls A c (c.startEpoch + j))).flatten := by
  rw [fitCalls] at hok ⊢
  by_cases h1 : A.kind ≠ .pos ∧ c.bases = none
  · rw [if_pos h1] at hok; cases hok
  rw [if_neg h1] at hok ⊢
  by_cases h2 : c.posB = 0
  · rw [if_pos h2] at hok; cases hok
  rw [if_neg h2] at hok ⊢
  by_cases h3 : c.numEpochs = 0
  · rw [if_pos h3, h3]; rfl
  rw [if_neg h3] at hok ⊢
  dsimp only at hok ⊢
  split at hok
  · cases hok
  · simp only [*]; rfl

theorem callsTotal_fit (A : Arch) (c : FitCfg) (hok : (fitCalls A c).2 = none) :
    callsTotal (fitCalls A c).1 = fitDraws A c := by
  rw [fitCalls_ok hok, callsTotal_epochs, callsTotal_evalCalls, fitDraws]
  congr 1
  rcases Nat.eq_zero_or_pos c.numEpochs with h0 | h0
  · rw [h0, Nat.zero_mul, Nat.zero_mul]
  rw [fitCalls_err] at hok
  split_ifs at hok with h1 h2 h3
  · omega
  have hpos := Nat.pos_of_ne_zero h2
  have hneg := negB'_pos c hpos
  obtain ⟨e1, e2⟩ := shuffleCalls_ok hok
  rw [epochCalls, callsTotal_append, e1, e2, callsTotal_batch _ _ _ _ _ _ ?_ hneg]
  -- as many negative as positive batches
  split_ifs with hs
  · rw [hs.2]
  · rw [sliceSizes_length _ _ hpos, sliceSizes_length _ _ hneg, ceilDiv_mul _ _ hneg]

/-! ### equations of `step`: seeding, addressed operations, read-only operations -/

theorem step_setSeed_ok {P O : Type} (S : Sem P O) (st : St P) (s : Int) (w : Nat) (h : seedWord s = some w) :
    step S st (.setSeed s true) = ({ st with torchGen := ⟨w, 0⟩ }, .none) := by
  simp only [step, if_true, h]

theorem step_setSeed_rejected {P O : Type} (S : Sem P O) (st : St P) (s : Int) (h : seedWord s = none) :
    step S st (.setSeed s true) = (st, .err .ValueError) := by
  simp only [step, if_true, h]

theorem step_slot {P O : Type} (S : Sem P O) (st : St P) {op : Op} {i : Nat} (h : op.slot? = some i) :
    step S st op = match st.objs i with
      | none => (st, .err .IndexError)
      | some ob => slotStep S st op i ob := by
  cases op <;> cases h <;> rfl

theorem stepCalls_slot {P : Type} (st : St P) {op : Op} {i : Nat} (h : op.slot? = some i) :
    stepCalls st op = match st.objs i with
      | none => []
      | some ob => (op.plan ob.arch).1 := by
  cases op <;> cases h <;> rfl

/-- One equation for all eight `isPure` constructors that address an object: the `pure` case of `Op.slotCases`, so that
the proofs about `step` below treat only `reinit`, `fit`, `save`, `load` by hand. -/
theorem slotStep_pure {P O : Type} (S : Sem P O) (st : St P) {op : Op} (h : op.isPure = true) (i : Nat)
    (ob : Obj P) :
    slotStep S st op i ob =
      ({ st with torchGen := (Gen.take S.mix (callsTotal (op.plan ob.arch).1) st.torchGen).2 },
        match (op.plan ob.arch).2 with
        | some e => .err e
        | none => .val (S.out op ob.arch ob.params (Gen.take S.mix (callsTotal (op.plan ob.arch).1) st.torchGen).1)) := by
  cases op
  -- the one read-only operation whose plan can raise
  case statistics => simp only [slotStep, Op.plan]; split <;> simp only [*]
  all_goals first | rfl | cases h

/-- the operations addressed to an object, by what they may write: nothing, or they are `reinit`, `fit`, `save`, `load` -/
@[elab_as_elim]
theorem Op.slotCases {i : Nat} {motive : (op : Op) → op.slot? = some i → Prop}
    (pure : ∀ op hs, op.isPure = true → motive op hs) (reinit : motive (.reinit i) rfl) (fit : ∀ c, motive (.fit i c) rfl)
    (save : ∀ p, motive (.save i p) rfl) (load : ∀ p, motive (.load i p) rfl) (op : Op) (hs : op.slot? = some i) :
    motive op hs := by
  cases op
  case reinit => cases hs; exact reinit
  case fit => cases hs; exact fit _
  case save => cases hs; exact save _
  case load => cases hs; exact load _
  all_goals first | exact pure _ hs rfl | cases hs

/-! ### histories -/

theorem run_cons {P O : Type} (S : Sem P O) (st : St P) (op : Op) (ops : List Op) :
    run S st (op :: ops) = ((run S (step S st op).1 ops).1,
      if op.isExternal then (run S (step S st op).1 ops).2
      else (step S st op).2 :: (run S (step S st op).1 ops).2) := rfl

theorem run_append {P O : Type} (S : Sem P O) (a b : List Op) :
    ∀ st : St P, run S st (a ++ b)
      = ((run S (run S st a).1 b).1, (run S st a).2 ++ (run S (run S st a).1 b).2) := by
  induction a with
  | nil => intro st; rfl
  | cons op ops ih =>
    intro st
    rw [List.cons_append, run_cons, run_cons, ih]
    by_cases h : op.isExternal = true <;> simp [h]

theorem run_invariant {P O : Type} (S : Sem P O) (Inv : St P → Prop) (ops : List Op)
    (hstep : ∀ op ∈ ops, ∀ st, Inv st → Inv (step S st op).1) : ∀ st, Inv st → Inv (run S st ops).1 := by
  induction ops with
  | nil => exact fun _ h => h
  | cons op ops ih =>
    exact fun st h => ih (fun o ho => hstep o (List.mem_cons_of_mem _ ho)) _ (hstep op List.mem_cons_self st h)

/-! ### function update -/

theorem upd_ne {α : Type} (f : Nat → Option α) {i j : Nat} (v : α) (h : j ≠ i) : upd f i v j = f j := if_neg h

theorem upd_congr {α : Type} {f g : Nat → Option α} (i : Nat) (v : α) {j : Nat} (h : f j = g j) :
    upd f i v j = upd g i v j := by
  unfold upd; rw [h]

/-! ### agreement of process states, unwinding -/

theorem Agree.refl {P : Type} (b : Nat) (s : St P) : Agree b s s :=
  ⟨rfl, rfl, fun _ _ => rfl, fun _ => rfl⟩

theorem Agree.symm {P : Type} {b : Nat} {s₁ s₂ : St P} (h : Agree b s₁ s₂) : Agree b s₂ s₁ :=
  ⟨h.torch.symm, h.nextId.symm, fun i hi => (h.objs i hi).symm, fun p => (h.files p).symm⟩

theorem Agree.trans {P : Type} {b : Nat} {s₁ s₂ s₃ : St P} (h : Agree b s₁ s₂) (h' : Agree b s₂ s₃) :
    Agree b s₁ s₃ :=
  ⟨h.torch.trans h'.torch, h.nextId.trans h'.nextId, fun i hi => (h.objs i hi).trans (h'.objs i hi),
   fun p => (h.files p).trans (h'.files p)⟩

theorem Agree.mono {P : Type} {b b' : Nat} {s₁ s₂ : St P} (hb : b ≤ b') (h : Agree b s₁ s₂) : Agree b' s₁ s₂ :=
  ⟨h.torch, h.nextId, fun i hi => h.objs i (Nat.le_trans hb hi), h.files⟩

theorem slot_none_of_external (op : Op) (h : op.isExternal = true) : op.slot? = none := by
  cases op <;> first | rfl | cases h

/-- **unwinding, library step.** `hcl`: below slot `b` the two object tables may differ, so the operation must not
address a slot there. -/
theorem step_agree {P O : Type} (S : Sem P O) {b : Nat} {s₁ s₂ : St P} (hA : Agree b s₁ s₂)
    (op : Op) (hcl : ∀ i, op.slot? = some i → b ≤ i) (hext : op.isExternal = false) :
    Agree b (step S s₁ op).1 (step S s₂ op).1 ∧ (step S s₁ op).2 = (step S s₂ op).2 := by
  cases hs : op.slot? with
  | some i =>
    rw [step_slot S s₁ hs, step_slot S s₂ hs, hA.objs i (hcl i hs)]
    cases s₂.objs i with
    | none => exact ⟨hA, rfl⟩
    | some ob =>
      obtain ⟨ht, hn, ho, hf⟩ := hA
      have ho' := fun v j hj => upd_congr i v (ho j hj)
      dsimp only
      induction op, hs using Op.slotCases with
      | pure op hs hp =>
        rw [slotStep_pure S s₁ hp, slotStep_pure S s₂ hp, ht]
        exact ⟨⟨rfl, hn, ho, hf⟩, rfl⟩
      | reinit =>
        simp only [slotStep, Op.plan, ht]
        exact ⟨⟨rfl, hn, ho' _, hf⟩, trivial⟩
      | fit =>
        simp only [slotStep, Op.plan, ht]
        split
        · exact ⟨⟨rfl, hn, ho, hf⟩, rfl⟩
        · exact ⟨⟨rfl, hn, ho' _, hf⟩, rfl⟩
      | save => exact ⟨⟨ht, hn, ho, fun p => upd_congr _ _ (hf p)⟩, rfl⟩
      | load =>
        simp only [slotStep, hf]
        split
        · exact ⟨⟨ht, hn, ho, hf⟩, rfl⟩
        · split <;> exact ⟨⟨ht, hn, ho' _, hf⟩, rfl⟩
  | none =>
    obtain ⟨ht, hn, ho, hf⟩ := hA
    cases op
    case setSeed s cpu =>
      cases cpu
      · exact ⟨⟨ht, hn, ho, hf⟩, rfl⟩
      · rw [step, step]
        cases seedWord s
        · exact ⟨⟨ht, hn, ho, hf⟩, rfl⟩
        · exact ⟨⟨rfl, hn, ho, hf⟩, rfl⟩
    case burn m =>
      rw [step, step, ht]
      exact ⟨⟨rfl, hn, ho, hf⟩, rfl⟩
    case construct k n h a =>
      rw [step, step, ht, hn]
      exact ⟨⟨rfl, rfl, fun j hj => upd_congr _ _ (ho j hj), hf⟩, rfl⟩
    -- the rest addresses an object or is foreign
    all_goals contradiction

/-- **unwinding, foreign step**: numpy / `random` operations change nothing the library reads. -/
theorem step_ext {P O : Type} (S : Sem P O) (s : St P) (op : Op) (hext : op.isExternal = true) :
    Agree 0 (step S s op).1 s := by
  cases op <;> simp [Op.isExternal] at hext <;> exact ⟨rfl, rfl, fun _ _ => rfl, fun _ => rfl⟩

theorem ClosedAbove.tail {b : Nat} {op : Op} {ops : List Op} (h : ClosedAbove b (op :: ops)) :
    ClosedAbove b ops := fun o ho => h o (List.mem_cons_of_mem _ ho)

theorem ClosedAbove.head {b : Nat} {op : Op} {ops : List Op} (h : ClosedAbove b (op :: ops)) :
    ∀ i, op.slot? = some i → b ≤ i := h op (List.mem_cons_self)

theorem run_lib {P O : Type} (S : Sem P O) {b : Nat} (ops : List Op) :
    ∀ {s₁ s₂ : St P}, Agree b s₁ s₂ → ClosedAbove b ops →
      Agree b (run S s₁ ops).1 (run S s₂ (lib ops)).1 ∧ (run S s₁ ops).2 = (run S s₂ (lib ops)).2 := by
  induction ops with
  | nil => intro s₁ s₂ hA _; exact ⟨hA, rfl⟩
  | cons op ops ih =>
    intro s₁ s₂ hA hcl
    by_cases hext : op.isExternal = true
    · have hl : lib (op :: ops) = lib ops := by simp [lib, hext]
      rw [hl, run_cons]
      simp only [hext, if_true]
      exact ih (((step_ext S s₁ op hext).mono (Nat.zero_le b)).trans hA) hcl.tail
    · have hext' : op.isExternal = false := by simpa using hext
      have hl : lib (op :: ops) = op :: lib ops := by simp [lib, hext']
      rw [hl, run_cons, run_cons]
      simp only [hext', Bool.false_eq_true, if_false]
      obtain ⟨h1, h2⟩ := step_agree S hA op hcl.head hext'
      obtain ⟨h3, h4⟩ := ih h1 hcl.tail
      exact ⟨h3, by rw [h2, h4]⟩

theorem lib_idem (ops : List Op) : lib (lib ops) = lib ops := by
  simp [lib, List.filter_filter]

/-- foreign operations address no object -/
theorem closedAbove_lib {b : Nat} {ops : List Op} : ClosedAbove b (lib ops) ↔ ClosedAbove b ops := by
  refine ⟨fun h op hop i hi => ?_, fun h op hop => h op (List.mem_filter.mp hop).1⟩
  by_cases hext : op.isExternal = true
  · rw [slot_none_of_external op hext] at hi; cases hi
  · exact h op (by simp [lib, hop, hext]) i hi

/-- **noninterference for whole histories**: agreeing start states, histories with the same
library part (the foreign numpy / `random` operations may be completely different and
differently interleaved) ⇒ agreeing final states and the same results. -/
theorem run_agree {P O : Type} (S : Sem P O) {b : Nat} {s₁ s₂ : St P} (hA : Agree b s₁ s₂)
    (ops₁ ops₂ : List Op) (hlib : lib ops₁ = lib ops₂) (hcl : ClosedAbove b ops₁) :
    Agree b (run S s₁ ops₁).1 (run S s₂ ops₂).1 ∧ (run S s₁ ops₁).2 = (run S s₂ ops₂).2 := by
  have hcl2 : ClosedAbove b ops₂ := closedAbove_lib.1 (hlib ▸ closedAbove_lib.2 hcl)
  obtain ⟨a1, a2⟩ := run_lib S ops₁ hA hcl
  obtain ⟨b1, b2⟩ := run_lib S ops₂ (Agree.refl b s₂) hcl2
  rw [hlib] at a1 a2
  exact ⟨a1.trans b1.symm, a2.trans b2.symm⟩

/-! ### what each operation touches -/

theorem step_pure {P O : Type} (S : Sem P O) (s : St P) (op : Op) (h : op.isPure = true) :
    (step S s op).1 = (step S s (.burn (stepDraws s op))).1 := by
  cases hs : op.slot? with
  | none => cases op <;> cases h <;> first | rfl | cases hs
  | some i =>
    rw [step_slot S s hs, stepDraws, stepCalls_slot s hs]
    cases s.objs i with
    | none => rfl
    | some ob => exact (congrArg Prod.fst (slotStep_pure S s h i ob)).trans rfl

/-- the slot case of `step_other_gens`, `step_torchGen`, `step_objs_of_not_writes`, `step_nextId_le` and
`step_objs_other`, in one statement -/
theorem step_slot_frame {P O : Type} (S : Sem P O) (st : St P) {op : Op} {i : Nat} (hs : op.slot? = some i) :
    ∃ o f, (step S st op).1 = { st with
        torchGen := (Gen.take S.mix (stepDraws st op) st.torchGen).2, objs := o, files := f }
      ∧ (∀ j, j ≠ i → o j = st.objs j) ∧ (op.writesParams = false → o = st.objs) := by
  rw [step_slot S st hs, stepDraws, stepCalls_slot st hs]
  cases st.objs i with
  | none => exact ⟨_, _, rfl, fun _ _ => rfl, fun _ => rfl⟩
  | some ob =>
    induction op, hs using Op.slotCases with
    | pure op hs hp => exact ⟨_, _, congrArg Prod.fst (slotStep_pure S st hp i ob), fun _ _ => rfl, fun _ => rfl⟩
    | reinit => exact ⟨_, _, rfl, fun _ hj => upd_ne _ _ hj, nofun⟩
    | fit =>
      simp only [slotStep, Op.plan]
      split
      · exact ⟨_, _, rfl, fun _ _ => rfl, nofun⟩
      · exact ⟨_, _, rfl, fun _ hj => upd_ne _ _ hj, nofun⟩
    | save => exact ⟨_, _, rfl, fun _ _ => rfl, fun _ => rfl⟩
    | load =>
      simp only [slotStep]
      split
      · exact ⟨_, _, rfl, fun _ _ => rfl, nofun⟩
      · split <;> exact ⟨_, _, rfl, fun _ hj => upd_ne _ _ hj, nofun⟩

/-- `isExternal = false` includes `burn`, user code drawing from torch's generator -/
theorem step_other_gens {P O : Type} (S : Sem P O) (s : St P) (op : Op) (h : op.isExternal = false) :
    (step S s op).1.numpyGen = s.numpyGen ∧ (step S s op).1.pyGen = s.pyGen := by
  cases hs : op.slot? with
  | some i =>
    obtain ⟨o, f, e, -⟩ := step_slot_frame S s hs
    rw [e]; exact ⟨rfl, rfl⟩
  | none =>
    cases op
    case setSeed s' cpu =>
      cases cpu
      · exact ⟨rfl, rfl⟩
      · rw [step]; cases seedWord s' <;> exact ⟨rfl, rfl⟩
    all_goals first | contradiction | exact ⟨rfl, rfl⟩

/-- `h`: anything but an ACCEPTED `set_random_seed(s, cpu=True)`; a refused one changes nothing and is allowed -/
theorem step_torchGen {P O : Type} (S : Sem P O) (s : St P) (op : Op)
    (h : ∀ s', op = .setSeed s' true → seedWord s' = none) :
    (step S s op).1.torchGen = ⟨s.torchGen.seedOf, s.torchGen.pos + stepDraws s op⟩ := by
  cases hs : op.slot? with
  | some i =>
    obtain ⟨o, f, e, -⟩ := step_slot_frame S s hs
    rw [e]; exact take_snd ..
  | none =>
    cases op
    case setSeed s' cpu =>
      cases cpu
      · rfl
      · rw [step_setSeed_rejected S s s' (h s' rfl)]; rfl
    all_goals first | contradiction | rfl | exact take_snd ..

theorem step_objs_of_not_writes {P O : Type} (S : Sem P O) (s : St P) (op : Op)
    (h : op.writesParams = false) :
    (step S s op).1.objs = s.objs ∧ (step S s op).1.nextId = s.nextId := by
  cases hs : op.slot? with
  | some i =>
    obtain ⟨o, f, e, -, ho⟩ := step_slot_frame S s hs
    rw [e]; exact ⟨ho h, rfl⟩
  | none =>
    cases op
    case setSeed s' cpu =>
      cases cpu
      · exact ⟨rfl, rfl⟩
      · rw [step]; cases seedWord s' <;> exact ⟨rfl, rfl⟩
    all_goals first | contradiction | exact ⟨rfl, rfl⟩

theorem step_nextId_le {P O : Type} (S : Sem P O) (s : St P) (op : Op) :
    s.nextId ≤ (step S s op).1.nextId := by
  by_cases h : op.writesParams = false
  · rw [(step_objs_of_not_writes S s op h).2]
  · cases hs : op.slot? with
    | some i =>
      obtain ⟨o, f, e, -⟩ := step_slot_frame S s hs
      rw [e]
    | none => cases op <;> cases hs <;> first | exact absurd rfl h | exact Nat.le_succ _

/-- `hlt`: a construction writes the fresh slot `nextId` -/
theorem step_objs_other {P O : Type} (S : Sem P O) (s : St P) (op : Op) (j : Nat)
    (hj : op.slot? ≠ some j) (hlt : j < s.nextId) : (step S s op).1.objs j = s.objs j := by
  by_cases h : op.writesParams = false
  · rw [(step_objs_of_not_writes S s op h).1]
  · cases hs : op.slot? with
    | some i =>
      obtain ⟨o, f, e, ho, -⟩ := step_slot_frame S s hs
      rw [e]; exact ho j fun hji => hj (hs.trans (congrArg some hji.symm))
    | none =>
      cases op <;> cases hs <;> first | exact absurd rfl h | exact upd_ne _ _ (Nat.ne_of_lt hlt)

/-! ### a run reads the stream function and torch's generator only through the values drawn -/

/-- One simulation for both uses in C14: another stream function (`C14_different_seed_partial`: `g' = s.torchGen`) and
another seed word with the same stream (`C14_same_stream_same_results`: `mix' = S.mix`). The generator enters a step
only through `Gen.take`, whose values agree (`key`); the resulting processes differ in the generator's `seedOf` only. -/
theorem step_gen {P O : Type} (S : Sem P O) (mix' : Nat → Nat → Nat) (s : St P) (g' : Gen)
    (hpos : g'.pos = s.torchGen.pos) (hstr : ∀ i, mix' g'.seedOf i = S.mix s.torchGen.seedOf i) (op : Op)
    (h : ∀ s', op = .setSeed s' true → seedWord s' = none) :
    step (S.withMix mix') { s with torchGen := g' } op
      = ({ (step S s op).1 with torchGen := ⟨g'.seedOf, g'.pos + stepDraws s op⟩ }, (step S s op).2) := by
  have key : ∀ m, Gen.take (S.withMix mix').mix m g' = ((Gen.take S.mix m s.torchGen).1, ⟨g'.seedOf, g'.pos + m⟩) :=
    fun m => by simp only [Sem.withMix, take_eq, hpos, hstr]
  cases hs : op.slot? with
  | some i =>
    rw [step_slot _ _ hs, step_slot _ _ hs, stepDraws, stepCalls_slot s hs]
    show (match s.objs i with | none => _ | some ob => _) = _
    cases s.objs i with
    | none => rfl
    | some ob =>
      dsimp only
      induction op, hs using Op.slotCases with
      | pure op hs hp => rw [slotStep_pure _ _ hp, slotStep_pure S s hp, key]; rfl
      | reinit => simp only [slotStep, Op.plan, key]; rfl
      | fit => simp only [slotStep, Op.plan, key]; split <;> rfl
      | save => rfl
      | load =>
        simp only [slotStep]
        split
        · rfl
        · split <;> rfl
  | none =>
    cases op
    case setSeed s' cpu =>
      cases cpu
      · rfl
      · rw [step_setSeed_rejected _ _ _ (h s' rfl), step_setSeed_rejected _ _ _ (h s' rfl)]; rfl
    case burn m => rw [step, step, key]; rfl
    case construct k n hh a => rw [step, step, key]; rfl
    -- the rest addresses an object or is foreign
    all_goals first | contradiction | (simp only [step, take_snd]; rfl)

/-- For histories. The final processes are equal only if the seeds were (second conjunct). An accepted seeding inside the
history restarts both runs at its seed word `w`, hence the third hypothesis: the two functions must give `w` the
same stream. -/
theorem run_gen {P O : Type} (S : Sem P O) (mix' : Nat → Nat → Nat) (ops : List Op) :
    ∀ (s : St P) (g' : Gen), g'.pos = s.torchGen.pos → (∀ i, mix' g'.seedOf i = S.mix s.torchGen.seedOf i) →
      (∀ op ∈ ops, ∀ s' w, op = .setSeed s' true → seedWord s' = some w → ∀ i, mix' w i = S.mix w i) →
      (run (S.withMix mix') { s with torchGen := g' } ops).2 = (run S s ops).2 ∧
        (g'.seedOf = s.torchGen.seedOf → (run (S.withMix mix') { s with torchGen := g' } ops).1 = (run S s ops).1) := by
  induction ops with
  | nil =>
    intro s g' hpos _ _
    refine ⟨rfl, fun hseed => ?_⟩
    obtain ⟨a, b⟩ := g'
    cases hpos; cases hseed; rfl
  | cons op ops ih =>
    intro s g' hpos hstr hseeds
    have hseeds' := fun o ho => hseeds o (List.mem_cons_of_mem _ ho)
    rw [run_cons, run_cons]
    by_cases hacc : ∃ s' w, op = .setSeed s' true ∧ seedWord s' = some w
    · obtain ⟨s', w, rfl, hw⟩ := hacc
      rw [step_setSeed_ok _ _ _ _ hw, step_setSeed_ok _ _ _ _ hw]
      obtain ⟨e1, e2⟩ := ih { s with torchGen := ⟨w, 0⟩ } ⟨w, 0⟩ rfl (hseeds _ List.mem_cons_self _ _ rfl hw) hseeds'
      exact ⟨congrArg (Out.none :: ·) e1, fun _ => e2 rfl⟩
    · have hrej : ∀ s', op = .setSeed s' true → seedWord s' = none := fun s' e =>
        Option.eq_none_iff_forall_ne_some.2 fun w hw => hacc ⟨s', w, e, hw⟩
      have hg := step_torchGen S s op hrej
      rw [step_gen S mix' s g' hpos hstr op hrej]
      obtain ⟨e1, e2⟩ := ih (step S s op).1 ⟨g'.seedOf, g'.pos + stepDraws s op⟩ (by rw [hg, hpos])
        (by rw [hg]; exact hstr) hseeds'
      exact ⟨by rw [e1], fun hseed => e2 (by rw [hg]; exact hseed)⟩

/-! ### histories: position of torch's generator, the read-only skeleton -/

theorem run_torchGen {P O : Type} (S : Sem P O) (ops : List Op)
    (h : ∀ op ∈ ops, ∀ s', op = .setSeed s' true → seedWord s' = none) :
    ∀ m : St P, (run S m ops).1.torchGen = ⟨m.torchGen.seedOf, m.torchGen.pos + histDraws S m ops⟩ := by
  induction ops with
  | nil => intro m; rfl
  | cons op ops ih =>
    intro m
    rw [run_cons]
    show (run S (step S m op).1 ops).1.torchGen = _
    rw [ih (fun o ho => h o (List.mem_cons_of_mem _ ho)), step_torchGen S m op (h op List.mem_cons_self), histDraws,
      Nat.add_assoc]

theorem run_skeleton {P O : Type} (S : Sem P O) (ops : List Op) :
    ∀ st : St P, (run S st (skeleton S st ops)).1 = (run S st ops).1 := by
  induction ops with
  | nil => intro st; rfl
  | cons op ops ih =>
    intro st
    by_cases h : op.isPure = true
    · simp only [skeleton, h, if_true, run_cons]
      rw [← step_pure S st op h]
      exact ih _
    · simp only [skeleton, h, run_cons]
      exact ih _

end QV.Frame
