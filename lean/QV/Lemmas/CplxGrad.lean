/-
QV.Lemmas.CplxGrad — the loss `−log |Upsi|²` of one rotated sample of the complex wavefunction, differentiated along a pair
of parameter curves. `Upsi = Σ_τ c_τ ψ(τ)` with parameter-free coefficients `c_τ` (`cplxCoefFree`) and
`ψ = exp(−(E_λ + i E_μ)/2)`, so `Upsi' = −½ Σ_τ c_τ ψ(τ) (E_λ' + i E_μ')(τ)` and `(−log |U|²)' = −2 Re(U'/U)`; on the other
side `cplxRotComp` is a real-linear functional of the raw gradient entries with weights `Re` / `−Im` of `c_τ ψ(τ) / Upsi`
(`cplxRotComp_eq`), which `RBM.pair_weighted` turns into the same sum (`hasDerivAt_sampleLoss_rot`).
-/
import Mathlib.Analysis.SpecialFunctions.ExpDeriv
import Mathlib.Analysis.SpecialFunctions.Log.Deriv
import Mathlib.Analysis.SpecialFunctions.Trigonometric.Basic
import Mathlib.Analysis.Complex.RealDeriv
import QV.Lemmas.Deriv
import QV.Lemmas.GradLin
import QV.Lemmas.Cplx
import QV.Lemmas.CplxHead
import QV.Lemmas.Hilbert

namespace QV
open Finset Grads

variable {n h : ℕ}

/-- The model builds `ψ` as the code does, `sqrt(exp(−E_λ)) · (cos, sin)(−E_μ/2)`; as ONE complex exponential it is
differentiated by `HasDerivAt.cexp` (`hasDerivAt_psiCplx`). -/
theorem toC_psiCplx (am ph : RBM ℝ n h) (v : Fin n → ℝ) :
    toC (Wave.psiCplx am ph v)
      = Complex.exp ((((-(am.effEnergy v) / 2 : ℝ)) : ℂ) + (((-(ph.effEnergy v) / 2 : ℝ)) : ℂ) * Complex.I) := by
  have hamp : Wave.amplitude am v = Real.exp (-(am.effEnergy v) / 2) := by
    rw [Wave.amplitude, transc_sqrt, transc_exp, Real.exp_half]
  have hph : Wave.phase ph v = -(ph.effEnergy v) / 2 := by rw [Wave.phase, two_eq]; ring
  apply Complex.ext <;>
    simp only [toC_re, toC_im, Wave.psiCplx, hamp, hph, transc_cos, transc_sin, Complex.exp_re, Complex.exp_im,
      Complex.add_re, Complex.add_im, Complex.mul_re, Complex.mul_im, Complex.ofReal_re, Complex.ofReal_im, Complex.I_re,
      Complex.I_im, mul_zero, mul_one, sub_zero, add_zero, zero_add]

theorem re_hasDerivAt {f : ℝ → ℂ} {f' : ℂ} {t : ℝ} (hf : HasDerivAt f f' t) :
    HasDerivAt (fun s => (f s).re) f'.re t :=
  Complex.reCLM.hasFDerivAt.comp_hasDerivAt t hf

theorem hasDerivAt_neg_log_normSq {U : ℝ → ℂ} {U' : ℂ} {t : ℝ} (hU : HasDerivAt U U' t) (h0 : U t ≠ 0) :
    HasDerivAt (fun s => -Real.log (Complex.normSq (U s))) (-(2 * (U' / U t).re)) t := by
  have hre := re_hasDerivAt hU
  have him : HasDerivAt (fun s => (U s).im) U'.im t := Complex.imCLM.hasFDerivAt.comp_hasDerivAt t hU
  have hns : HasDerivAt (fun s => Complex.normSq (U s)) (2 * ((U t).re * U'.re + (U t).im * U'.im)) t := by
    simp only [Complex.normSq_apply]
    exact ((hre.fun_mul hre).fun_add (him.fun_mul him)).congr_deriv (by ring)
  refine (hns.log (mt Complex.normSq_eq_zero.mp h0)).fun_neg.congr_deriv ?_
  rw [Complex.div_re]
  ring

/-! ### the rotated amplitude `Upsi` of one sample and the model's `rotated_gradient` -/

open Unitaries

/-- parameter-independent part of `Upsi_v[τ]`: `[τ is an expansion of σ] · Ut_τ` -/
noncomputable def cplxCoefFree (dict : Char → M2 ℝ) (smp : Sample n) (τ : Fin n → Bool) : ℂ :=
  if agreesOff n smp.rot smp.σ τ then toC (rotCoeff n (fun j => dict (smp.letter j)) smp.rot smp.σ τ) else 0

theorem toC_cplxCoef (am ph : RBM ℝ n h) (dict : Char → M2 ℝ) (smp : Sample n) (τ : Fin n → Bool) :
    toC (cplxCoef am ph dict smp τ) = cplxCoefFree dict smp τ * toC (Wave.psiCplx am ph (visOf τ)) := by
  unfold cplxCoef cplxCoefFree
  split
  · rw [toC_mul]
  · rw [toC_zero, zero_mul]

theorem toC_cplxUpsi (am ph : RBM ℝ n h) (dict : Char → M2 ℝ) (smp : Sample n) :
    toC (cplxUpsi am ph dict smp)
      = ∑ k : Fin (2 ^ n), cplxCoefFree dict smp (rowBits n k.val) * toC (Wave.psiCplx am ph (visOf (rowBits n k.val))) := by
  rw [cplxUpsi, toC_sum]
  exact Finset.sum_congr rfl fun k _ => toC_cplxCoef am ph dict smp _

/-- the model's `rotated_gradient` component is a REAL-linear functional of the raw gradient entries `g τ`; the guard is
needed only to read `C.invH` as the inverse in ℂ (`toC_invH`) -/
theorem cplxRotComp_eq (am ph : RBM ℝ n h) (dict : Char → M2 ℝ) (smp : Sample n) (isPhase : Bool)
    (g : (Fin n → Bool) → ℝ) (hU : toC (cplxUpsi am ph dict smp) ≠ 0) :
    cplxRotComp am ph dict smp isPhase g
      = ∑ k : Fin (2 ^ n), g (rowBits n k.val)
          * (if isPhase then -((toC (cplxUpsi am ph dict smp))⁻¹ * toC (cplxCoef am ph dict smp (rowBits n k.val))).im
             else ((toC (cplxUpsi am ph dict smp))⁻¹ * toC (cplxCoef am ph dict smp (rowBits n k.val))).re) := by
  unfold cplxRotComp
  rw [← toC_re, toC_mul, toC_invH _ hU, toC_sum, Finset.mul_sum, Complex.re_sum]
  refine Finset.sum_congr rfl (fun k _ => ?_)
  show ((toC (cplxUpsi am ph dict smp))⁻¹ * toC (C.mul (cplxCoef am ph dict smp (rowBits n k.val))
      (if isPhase then (0, g (rowBits n k.val)) else (g (rowBits n k.val), 0)))).re = _
  rw [toC_mul, ← mul_assoc, Complex.mul_re]
  cases isPhase <;> simp only [Bool.false_eq_true, if_false, if_true, toC_re, toC_im] <;> ring

theorem pair_cplxGrad1_rot (am ph dam dph : RBM ℝ n h) (dict : Char → M2 ℝ) (smp : Sample n)
    (hrot : smp.allZ = false) (hU : toC (cplxUpsi am ph dict smp) ≠ 0) :
    (cplxGrad1 am ph dict smp).1.pair dam + (cplxGrad1 am ph dict smp).2.pair dph
      = ∑ k : Fin (2 ^ n),
          (((toC (cplxUpsi am ph dict smp))⁻¹ * toC (cplxCoef am ph dict smp (rowBits n k.val))).re
              * ((am.effEnergyGrad1 (visOf (rowBits n k.val))).pair dam)
           - ((toC (cplxUpsi am ph dict smp))⁻¹ * toC (cplxCoef am ph dict smp (rowBits n k.val))).im
              * ((ph.effEnergyGrad1 (visOf (rowBits n k.val))).pair dph)) := by
  unfold cplxGrad1
  rw [if_neg (by simp [hrot])]
  simp only [cplxRotComp_eq am ph dict smp _ _ hU, Bool.false_eq_true, if_false, if_true]
  rw [RBM.pair_weighted (fun k : Fin (2 ^ n) => am.effEnergyGrad1 (visOf (rowBits n k.val))) _ dam,
    RBM.pair_weighted (fun k : Fin (2 ^ n) => ph.effEnergyGrad1 (visOf (rowBits n k.val))) _ dph,
    ← Finset.sum_add_distrib]
  exact Finset.sum_congr rfl fun k _ => by ring

/-! ### derivatives along a pair of parameter curves (amplitude and phase network) -/

section Curves
variable (ram rph : ℝ → RBM ℝ n h) (dam dph : RBM ℝ n h) (t : ℝ)
  (ha : RBM.CurveAt ram dam t) (hp : RBM.CurveAt rph dph t)
include ha hp

theorem hasDerivAt_psiCplx (v : Fin n → ℝ) :
    HasDerivAt (fun s => toC (Wave.psiCplx (ram s) (rph s) v))
      (toC (Wave.psiCplx (ram t) (rph t) v)
        * (-((((ram t).effEnergyGrad1 v).pair dam : ℝ) : ℂ) / 2
           + (-((((rph t).effEnergyGrad1 v).pair dph : ℝ) : ℂ) / 2) * Complex.I)) t := by
  have half (r : ℝ → RBM ℝ n h) (dr : RBM ℝ n h) (hr : RBM.CurveAt r dr t) :
      HasDerivAt (fun s => (((-((r s).effEnergy v) / 2 : ℝ)) : ℂ))
        (((-(((r t).effEnergyGrad1 v).pair dr) / 2 : ℝ)) : ℂ) t :=
    ((RBM.hasDerivAt_effEnergy r dr t hr v).fun_neg.div_const 2).ofReal_comp
  simp only [toC_psiCplx]
  refine ((half ram dam ha).fun_add ((half rph dph hp).mul_const Complex.I)).cexp.congr_deriv ?_
  push_cast
  ring

theorem hasDerivAt_cplxUpsi (dict : Char → M2 ℝ) (smp : Sample n) :
    HasDerivAt (fun s => toC (cplxUpsi (ram s) (rph s) dict smp))
      (∑ k : Fin (2 ^ n), toC (cplxCoef (ram t) (rph t) dict smp (rowBits n k.val))
          * (-((((ram t).effEnergyGrad1 (visOf (rowBits n k.val))).pair dam : ℝ) : ℂ) / 2
             + (-((((rph t).effEnergyGrad1 (visOf (rowBits n k.val))).pair dph : ℝ) : ℂ) / 2) * Complex.I)) t := by
  simp only [toC_cplxUpsi]
  refine (HasDerivAt.fun_sum fun k _ => (hasDerivAt_psiCplx ram rph dam dph t ha hp (visOf (rowBits n k.val))).const_mul
    (cplxCoefFree dict smp (rowBits n k.val))).congr_deriv ?_
  exact Finset.sum_congr rfl fun k _ => by rw [toC_cplxCoef, mul_assoc]

/-- the rotated-row case of `C03_sample_gradient_complex` (an all-`Z` row takes the fast path of `cplxGrad1` and is
treated there) -/
theorem hasDerivAt_sampleLoss_rot (dict : Char → M2 ℝ) (smp : Sample n)
    (hrot : smp.allZ = false) (hU : toC (cplxUpsi (ram t) (rph t) dict smp) ≠ 0) :
    HasDerivAt (fun s => -Real.log (Complex.normSq (toC (cplxUpsi (ram s) (rph s) dict smp))))
      ((cplxGrad1 (ram t) (rph t) dict smp).1.pair dam + (cplxGrad1 (ram t) (rph t) dict smp).2.pair dph) t := by
  refine (hasDerivAt_neg_log_normSq (hasDerivAt_cplxUpsi ram rph dam dph t ha hp dict smp) hU).congr_deriv ?_
  rw [pair_cplxGrad1_rot _ _ _ _ _ _ hrot hU, div_eq_mul_inv, mul_comm _ (toC (cplxUpsi (ram t) (rph t) dict smp))⁻¹,
    Finset.mul_sum, Complex.re_sum, Finset.mul_sum, ← Finset.sum_neg_distrib]
  refine Finset.sum_congr rfl (fun k _ => ?_)
  rw [← mul_assoc]
  simp only [Complex.mul_re, Complex.add_re, Complex.add_im, Complex.mul_im, Complex.neg_re, Complex.neg_im,
    Complex.div_ofNat_re, Complex.div_ofNat_im, Complex.ofReal_re, Complex.ofReal_im, Complex.I_re, Complex.I_im]
  ring

end Curves

end QV
