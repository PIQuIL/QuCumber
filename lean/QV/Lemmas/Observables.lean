/-
QV.Lemmas.Observables — helper lemmas for C08 / C09:
 * `toC`: the real-pair complex numbers of the model as Mathlib's `ℂ` (ring operations agree);
 * single-site flips of a configuration;
 * the per-sample values of the built-in observables on `ℝ` in closed form;
 * the frame condition on the tensor heap and the heap run of `SigmaX/SigmaY.apply` (clone / in-place flip): the run is the
   `map` of the per-sample function and writes only to tensors it allocated itself.
-/
import Mathlib.Algebra.BigOperators.Field
import Mathlib.Data.Fintype.BigOperators
import Mathlib.Data.Fintype.Pi
import Mathlib.Data.List.FinRange
import QV.Model.Observables
import QV.Lemmas.Cplx

namespace QV.Obs
open QV Finset
open scoped ComplexConjugate

/-- The same function as `QV.toC` of QV.Lemmas.Cplx (`rfl`); the lemmas below restate that file's lemmas for this copy.
Inside `namespace QV.…` with `QV.Obs` open the bare name `toC` can resolve to either: Props/C08 and Props/C09 write `Obs.toC`. -/
def toC (z : C ℝ) : ℂ := ⟨z.1, z.2⟩

@[simp] theorem toC_re (z : C ℝ) : (toC z).re = z.1 := rfl
@[simp] theorem toC_im (z : C ℝ) : (toC z).im = z.2 := rfl
@[simp] theorem toC_mk (x y : ℝ) : toC (x, y) = ⟨x, y⟩ := rfl
@[simp] theorem toC_zero : toC (C.zero : C ℝ) = 0 := rfl
@[simp] theorem toC_one : toC (C.one : C ℝ) = 1 := rfl

theorem toC_ne_zero {z : C ℝ} (hz : z ≠ (0, 0)) : toC z ≠ 0 :=
  fun h => hz (QV.toC_injective h)

@[simp] theorem toC_add (x y : C ℝ) : toC (C.add x y) = toC x + toC y := QV.toC_add x y

@[simp] theorem toC_mul (x y : C ℝ) : toC (C.mul x y) = toC x * toC y := QV.toC_mul x y

@[simp] theorem toC_conj (x : C ℝ) : toC (C.conj x) = conj (toC x) := QV.toC_conj x

theorem toC_normSq (x : C ℝ) : (C.normSq x : ℝ) = Complex.normSq (toC x) := QV.normSq_eq x

/-- `cplx.elementwise_division` is complex division (also at `y = 0`, where both sides are `0`) -/
@[simp] theorem toC_div (x y : C ℝ) : toC (C.div x y) = toC x / toC y := QV.toC_div' x y

@[simp] theorem toC_sum (n : ℕ) (f : Fin n → C ℝ) : toC (C.sum n f) = ∑ i, toC (f i) := QV.toC_sum n f

/-- `|x − 1|` on a 0/1 entry is the other bit: what `flip_spin` does to a sample entry. -/
theorem flipEntry_bit (b : Bool) : flipEntry (bit b : ℝ) = bit (!b) := by
  cases b <;> simp [flipEntry, bit]

@[simp] theorem spin_eq (b : Bool) : (spin b : ℝ) = if b then 1 else -1 := by
  cases b <;> norm_num [spin, toPm1, bit]

theorem flipSpin_ne {n : ℕ} (i : Fin n) (σ : Cfg n) : σ ≠ flipSpin i σ := by
  intro h
  have := congrFun h i
  simp [flipSpin] at this

@[simp] theorem flipSpin_same {n : ℕ} (i : Fin n) (σ : Cfg n) : flipSpin i σ i = !σ i := by
  simp [flipSpin]

theorem flipSpin_other {n : ℕ} {i j : Fin n} (σ : Cfg n) (h : j ≠ i) : flipSpin i σ j = σ j := by
  simp [flipSpin, h]

theorem agree_off_iff {n : ℕ} (i : Fin n) (σ τ : Cfg n) :
    (∀ j, j ≠ i → σ j = τ j) ↔ τ = σ ∨ τ = flipSpin i σ := by
  constructor
  · intro h
    by_cases hi : τ i = σ i
    · left; funext j; by_cases hj : j = i
      · rw [hj, hi]
      · exact (h j hj).symm
    · right; funext j; by_cases hj : j = i
      · subst hj; simp only [flipSpin_same]; revert hi; cases τ j <;> cases σ j <;> simp
      · rw [flipSpin_other σ hj]; exact (h j hj).symm
  · rintro (rfl | rfl) j hj
    · rfl
    · rw [flipSpin_other σ hj]

theorem sigmaXApply_eq {n : ℕ} (S : ImpState ℝ n) (σ : Cfg n) :
    sigmaXApply S false σ
      = ((∑ i, toC (S.numer (flipSpin i σ) σ)) / toC (S.denom σ)).re / (n : ℝ) := by
  rw [← toC_sum, ← toC_div]
  rfl

theorem sigmaYApply_eq {n : ℕ} (S : ImpState ℝ n) (σ : Cfg n) :
    sigmaYApply S false σ
      = ((∑ i, toC (S.numer (flipSpin i σ) σ) * toC ((0, spin (σ i)) : C ℝ)) / toC (S.denom σ)).re / (n : ℝ) := by
  simp_rw [← toC_mul]
  rw [← toC_sum, ← toC_div]
  rfl

/-- `to_pm1` of the mean of the bits is the mean of the spins. `hn`: for `n = 0` the left side is `to_pm1 (0/0) = −1` in the
real model (Python: `mean` of an empty row is `nan`), the right side the empty sum. -/
theorem sigmaZApply_eq {n : ℕ} (hn : 0 < n) (σ : Cfg n) :
    (sigmaZApply false σ : ℝ) = (1 / (n : ℝ)) * ∑ i, spin (σ i) := by
  have hn' : (n : ℝ) ≠ 0 := Nat.cast_ne_zero.2 hn.ne'
  simp only [sigmaZApply, absIf, spin, toPm1, sumFin_eq, transc_ofNat, two_eq, Finset.sum_sub_distrib,
    ← Finset.sum_mul, Finset.sum_const, Finset.card_univ, Fintype.card_fin, nsmul_eq_mul, mul_one,
    Bool.false_eq_true, if_false]
  rw [mul_sub, one_div, inv_mul_cancel₀ hn']
  ring

/-- the common closed form of both `NeighbourInteraction` variants on one sample; `r` selects the pairs of sites -/
noncomputable def zzMean {n : ℕ} (r : Fin n → Fin n → Prop) [DecidableRel r] (σ : Cfg n) : ℝ :=
  (1 / (n : ℝ)) * ∑ i, ∑ k, if r i k then spin (σ i) * spin (σ k) else 0

theorem neighbourPeriodicApply_eq {n : ℕ} (c : ℕ) (σ : Cfg n) :
    (neighbourPeriodicApply c σ : ℝ) = zzMean (fun i k => k.val = (i.val + c) % n) σ := by
  simp only [neighbourPeriodicApply, zzMean, sumFin_eq, transc_ofNat]
  rw [div_eq_mul_inv, mul_comm, one_div]
  refine congrArg _ (Finset.sum_congr rfl fun i _ => ?_)
  rw [Fintype.sum_eq_single ⟨(i.val + c) % n, Nat.mod_lt _ (by have := i.isLt; omega)⟩
    fun k hk => if_neg fun h => hk (Fin.ext h), if_pos rfl]

/-- the relation `k = i + c` of `zzMean` against the model's enumeration `(m, c + m)`, `m < n − c` (Python's slices
`[:, :-c]`, `[:, c:]`; truncated subtraction: no pair when `c ≥ n`) -/
theorem open_pairs {n : ℕ} (z : Fin n → ℝ) (c : ℕ) :
    ∑ i : Fin n, ∑ k : Fin n, (if k.val = i.val + c then z i * z k else 0)
      = ∑ m : Fin (n - c), z ⟨m.val, by have := m.isLt; omega⟩ * z ⟨c + m.val, by have := m.isLt; omega⟩ := by
  -- the sites `i` with `i + c < n` are the image of `Fin (n - c)`; the other rows of the double sum vanish
  symm
  refine Fintype.sum_of_injective (fun m : Fin (n - c) => (⟨m.val, by have := m.isLt; omega⟩ : Fin n))
    (fun a b h => Fin.ext (Fin.mk.inj h)) _ _ (fun i hi => ?_) fun m => ?_
  · exact Finset.sum_eq_zero fun k _ => if_neg fun hk => hi ⟨⟨i.val, by have := k.isLt; omega⟩, rfl⟩
  · rw [Fintype.sum_eq_single ⟨c + m.val, _⟩ fun k hk => if_neg fun h => hk (Fin.ext (h.trans (add_comm _ _))),
      if_pos (add_comm _ _)]

theorem neighbourOpenApply_eq {n : ℕ} (c : ℕ) (hc : 1 ≤ c) (σ : Cfg n) :
    (neighbourOpenApply c σ : Except PyErr ℝ) = .ok (zzMean (fun i k => k.val = i.val + c) σ) := by
  have hc0 : c ≠ 0 := by omega
  rw [zzMean, open_pairs (fun i => spin (σ i)) c]
  simp only [neighbourOpenApply, hc0, false_and, if_false, sumFin_eq, transc_ofNat]
  rw [div_eq_mul_inv, mul_comm, one_div]

/-! ### Batch runs on the tensor heap -/

section heap
set_option linter.unusedSectionVars false
variable {α : Type} [Add α] [Mul α] [Neg α] [Sub α] [Div α] [Zero α] [One α] [Transc α] {n : ℕ}

def pauliTerm (S : ImpState α n) (coeff : Option (Cfg n → Fin n → C α)) (σ : Cfg n) (i : Fin n) : C α :=
  match coeff with
  | some c => C.mul (S.numer (flipSpin i σ) σ) (c σ i)
  | none => S.numer (flipSpin i σ) σ

/-- the per-sample value computed by the common body `pauliRun` of `SigmaX.apply` (`coeff = none`) and `SigmaY.apply`
(`coeff = some (i·s_i)`); `sigmaXApply` / `sigmaYApply` are its two instances by `rfl` -/
def pauliApplyGen (S : ImpState α n) (coeff : Option (Cfg n → Fin n → C α)) (absolute : Bool)
    (σ : Cfg n) : α :=
  absIf absolute ((C.div (C.sum n (pauliTerm S coeff σ)) (S.denom σ)).1 / Transc.ofNat n)

theorem sigmaXApply_gen (S : ImpState α n) (absolute : Bool) (σ : Cfg n) :
    sigmaXApply S absolute σ = pauliApplyGen S none absolute σ := rfl

theorem sigmaYApply_gen (S : ImpState α n) (absolute : Bool) (σ : Cfg n) :
    sigmaYApply S absolute σ = pauliApplyGen S (some (fun σ i => (0, spin (σ i)))) absolute σ := rfl

/-- `h.next ≤ h'.next` is carried along so that a tensor allocated after `h` is recognisable by its id (`Frame.write`) -/
def Frame (h h' : THeap n) : Prop := h.next ≤ h'.next ∧ ∀ k, k < h.next → h'.cells k = h.cells k

theorem Frame.refl (h : THeap n) : Frame h h := ⟨Nat.le_refl _, fun _ _ => rfl⟩

theorem Frame.alloc {h h' : THeap n} (hf : Frame h h') (b : Batch n) : Frame h (h'.alloc b).1 :=
  ⟨Nat.le_succ_of_le hf.1, fun k hk => (if_neg (by have := hf.1; omega)).trans (hf.2 k hk)⟩

theorem Frame.write {h h' : THeap n} (hf : Frame h h') {id : ℕ} (hid : h.next ≤ id) (b : Batch n) :
    Frame h (h'.write id b) :=
  ⟨hf.1, fun k hk => (if_neg (by omega)).trans (hf.2 k hk)⟩

/-- Invariant of the site loop: the accumulator is a `map` over the rows of the caller's tensor `sid` AS IT IS IN `h` (the current
heap `h'` agrees there by `hf`), so every `zipWith` of `pauliStep` — against the clone, against `samples` re-read from the heap,
against the coefficients — is a `zipWith` of two maps over one list and collapses to a map. -/
theorem pauliStep_spec (S : ImpState α n) (coeff : Option (Cfg n → Fin n → C α)) (h h' : THeap n)
    (sid : ℕ) (hs : sid < h.next) (hf : Frame h h') (a : Cfg n → C α) (i : Fin n) :
    ∃ h'', Frame h h'' ∧
      pauliStep S coeff sid (h', (h.cells sid).map a) i
        = (h'', (h.cells sid).map (fun σ => C.add (a σ) (pauliTerm S coeff σ i))) := by
  have hsid : h'.cells sid = h.cells sid := hf.2 sid hs
  have hne : sid ≠ h'.next := by have := hf.1; omega
  refine ⟨(pauliStep S coeff sid (h', (h.cells sid).map a) i).1, (hf.alloc _).write hf.1 _, Prod.ext rfl ?_⟩
  simp only [pauliStep, flipSpinInPlace, THeap.clone, THeap.alloc, THeap.write, if_pos, hne, if_false, hsid]
  cases coeff <;> simp only [List.zipWith_map_left, List.zipWith_map_right, List.zipWith_self, pauliTerm]

theorem pauliLoop_spec (S : ImpState α n) (coeff : Option (Cfg n → Fin n → C α)) (h : THeap n)
    (sid : ℕ) (hs : sid < h.next) (l : List (Fin n)) :
    ∀ (h' : THeap n) (_ : Frame h h') (a : Cfg n → C α),
    ∃ h'', Frame h h'' ∧
      l.foldl (pauliStep S coeff sid) (h', (h.cells sid).map a)
        = (h'', (h.cells sid).map (fun σ => l.foldl (fun acc i => C.add acc (pauliTerm S coeff σ i)) (a σ))) := by
  induction l with
  | nil => intro h' hf a; exact ⟨h', hf, rfl⟩
  | cons i l ih =>
    intro h' hf a
    obtain ⟨h1, hf1, e1⟩ := pauliStep_spec S coeff h h' sid hs hf a i
    obtain ⟨h2, hf2, e2⟩ := ih h1 hf1 _
    exact ⟨h2, hf2, by rw [List.foldl_cons, e1, e2]; rfl⟩

theorem pauliRun_spec (S : ImpState α n) (coeff : Option (Cfg n → Fin n → C α)) (absolute : Bool)
    (h : THeap n) (sid : ℕ) (hs : sid < h.next) :
    Frame h (pauliRun S coeff absolute h sid).1 ∧
      (pauliRun S coeff absolute h sid).2 = (h.cells sid).map (pauliApplyGen S coeff absolute) := by
  obtain ⟨h2, hf2, e2⟩ := pauliLoop_spec S coeff h sid hs (List.finRange n) h (Frame.refl h) (fun _ => C.zero)
  unfold pauliRun
  simp only [List.map_map]
  have e2' : (List.finRange n).foldl (pauliStep S coeff sid) (h, (h.cells sid).map ((fun _ => C.zero) ∘ S.denom))
      = (h2, _) := e2
  rw [e2']
  refine ⟨hf2, ?_⟩
  simp only [List.zipWith_map, List.zipWith_self, List.map_map]
  refine List.map_congr_left (fun σ _ => ?_)
  simp only [Function.comp, pauliApplyGen, C.sum, Fin.foldl_eq_finRange_foldl]

end heap

end QV.Obs
