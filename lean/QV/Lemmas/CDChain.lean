/-
QV.Lemmas.CDChain — helper lemmas for C06:
linearity of `expect`, marginals of a batch of independent chains, folds and traces of a
training run, the epoch/scheduler bookkeeping of `QV.Model.CDStep`.
-/
import Mathlib.Algebra.BigOperators.Ring.Finset
import Mathlib.Data.Fintype.BigOperators
import Mathlib.Algebra.Order.Floor.Div
import QV.Model.CDStep
import QV.Lemmas.Prob

namespace QV
open Finset

theorem sum_prod_marginal {M : ℕ} {V : Type} [Fintype V] [DecidableEq V] (q : Fin M → V → ℝ)
    (hq : ∀ b, ∑ w, q b w = 1) (m : Fin M) (f : V → ℝ) :
    ∑ ws : Fin M → V, (∏ b, q b (ws b)) * f (ws m) = ∑ w, q m w * f w := by
  -- `f (ws m)` is absorbed into the `m`-th factor, so that the sum over `ws` of a product is a product of sums (`Fintype.prod_sum`)
  -- in which every factor but the `m`-th is `Σ_w q b w = 1`
  have h1 : ∀ ws : Fin M → V, (∏ b, q b (ws b)) * f (ws m)
      = ∏ b, (if b = m then q b (ws b) * f (ws b) else q b (ws b)) := by
    intro ws
    rw [← Finset.mul_prod_erase _ _ (Finset.mem_univ m), ← Finset.mul_prod_erase _ _ (Finset.mem_univ m)]
    simp only [if_true]
    rw [mul_right_comm]
    congr 1
    refine Finset.prod_congr rfl (fun b hb => ?_)
    rw [if_neg (Finset.ne_of_mem_erase hb)]
  simp only [h1]
  rw [← Fintype.prod_sum (fun (b : Fin M) (w : V) => if b = m then q b w * f w else q b w)]
  rw [← Finset.mul_prod_erase _ _ (Finset.mem_univ m)]
  simp only [if_true]
  rw [Finset.prod_eq_one, mul_one]
  intro b hb
  simp only [if_neg (Finset.ne_of_mem_erase hb), hq]

namespace Prog
variable {α β γ : Type}

/-- linearity, in the one affine shape `batchGradAm` has when paired with a direction: `positive phase − (Σ_m …) / M` -/
theorem expect_sub_const_div (m : Prog ℝ β) (c s : ℝ) (g : β → ℝ) :
    m.expect (fun b => c - g b / s) = c - m.expect g / s := by
  induction m with
  | ret b => rfl
  | flip p k ih => simp only [expect, ih]; ring

theorem expect_finset_sum {ι : Type} (m : Prog ℝ β) (S : Finset ι) (g : ι → β → ℝ) :
    m.expect (fun b => ∑ i ∈ S, g i b) = ∑ i ∈ S, m.expect (g i) := by
  induction m with
  | ret b => rfl
  | flip p k ih => simp only [expect, ih, Finset.mul_sum, ← Finset.sum_add_distrib]

theorem expect_sub_sum_div_batch {M : ℕ} {V : Type} [Fintype V] [DecidableEq V] (progB : Prog ℝ (Fin M → V))
    (q : Fin M → V → ℝ) (hlaw : ∀ ws, progB.law ws = ∏ b, q b (ws b)) (hq : ∀ b, ∑ w, q b w = 1) (c s : ℝ)
    (f : V → ℝ) :
    progB.expect (fun ws => c - (∑ m, f (ws m)) / s) = c - (∑ m, ∑ w, q m w * f w) / s := by
  rw [expect_sub_const_div, expect_finset_sum]
  congr 2
  refine Finset.sum_congr rfl fun m _ => ?_
  rw [expect_eq_sum]
  simp only [hlaw]
  exact sum_prod_marginal q hq m f

end Prog

namespace CDStep
variable {P β : Type}

theorem foldRun_append (step : P → β → P) (p0 : P) (bs cs : List β) :
    foldRun step p0 (bs ++ cs) = foldRun step (foldRun step p0 bs) cs := by
  simp [foldRun, List.foldl_append]

theorem foldTrace_length (step : P → β → P) (p0 : P) (bs : List β) :
    (foldTrace step p0 bs).length = bs.length := by
  induction bs generalizing p0 with
  | nil => rfl
  | cons b bs ih => simp [foldTrace, ih]

theorem foldTrace_append (step : P → β → P) (p0 : P) (bs cs : List β) :
    foldTrace step p0 (bs ++ cs) = foldTrace step p0 bs ++ foldTrace step (foldRun step p0 bs) cs := by
  induction bs generalizing p0 with
  | nil => rfl
  | cons b bs ih => simp [foldTrace, foldRun, ih]

theorem foldTrace_getElem? (step : P → β → P) (p0 : P) (bs : List β) (t : ℕ) (ht : t < bs.length) :
    (foldTrace step p0 bs)[t]? = some (step (foldRun step p0 (bs.take t)) bs[t]) := by
  induction bs generalizing p0 t with
  | nil => simp at ht
  | cons b bs ih =>
    cases t with
    | zero => simp [foldTrace, foldRun]
    | succ t =>
      simp only [List.length_cons, Nat.add_lt_add_iff_right] at ht
      simpa [foldTrace, foldRun] using ih (step p0 b) t ht

theorem foldTrace_getElem?_eq_run (step : P → β → P) (p0 : P) (bs : List β) (t : ℕ) (ht : t < bs.length) :
    (foldTrace step p0 bs)[t]? = some (foldRun step p0 (bs.take (t + 1))) := by
  rw [foldTrace_getElem? step p0 bs t ht, List.take_succ_eq_append_getElem ht, foldRun_append]
  rfl

theorem foldTrace_getLast?_cons (step : P → β → P) (p0 : P) (b : β) (bs : List β) :
    (foldTrace step p0 (b :: bs)).getLast? = some (foldRun step p0 (b :: bs)) := by
  induction bs generalizing p0 b with
  | nil => rfl
  | cons c cs ih =>
    have := ih (step p0 b) c
    simp only [foldTrace, foldRun, List.foldl_cons] at this ⊢
    rw [List.getLast?_cons_cons]
    exact this

theorem foldTrace_getLast (step : P → β → P) (p0 : P) (bs : List β) :
    ((foldTrace step p0 bs).getLast?).getD p0 = foldRun step p0 bs := by
  cases bs with
  | nil => rfl
  | cons b bs => rw [foldTrace_getLast?_cons]; rfl

section sched
variable {α : Type}

theorem tagEpochs_length (next : ℕ → α → α) (lr : α) (e : ℕ) (epochs : List (List β)) :
    (tagEpochs next lr e epochs).length = (epochs.map List.length).sum := by
  induction epochs generalizing lr e with
  | nil => rfl
  | cons bs rest ih => simp [tagEpochs, ih]

/-- stated from epoch `e` on, with the rate already advanced `e` times: the form the induction over `epochs` needs (likewise
`lrEnd_eq`); `C06_scheduler_lr` / `C06_final_lr` are `e = 0`. -/
theorem tagEpochs_eq (next : ℕ → α → α) (lr0 : α) (e : ℕ) (epochs : List (List β)) :
    tagEpochs next (lrAfter next lr0 e) e epochs
      = (List.range epochs.length).flatMap fun i => (epochs.getD i []).map fun b => (lrAfter next lr0 (e + i), b) := by
  induction epochs generalizing e with
  | nil => rfl
  | cons bs rest ih =>
    have h := ih (e + 1)
    simp only [lrAfter] at h
    rw [tagEpochs, h, List.length_cons, List.range_succ_eq_map, List.flatMap_cons, List.flatMap_map]
    simp only [List.getD_cons_zero, Nat.add_zero, List.getD_cons_succ]
    congr 2
    funext i
    congr 2
    funext b
    rw [Nat.add_assoc, Nat.add_comm 1 i]

theorem lrEnd_eq (next : ℕ → α → α) (lr0 : α) (e : ℕ) (epochs : List (List β)) :
    lrEnd next (lrAfter next lr0 e) e epochs = lrAfter next lr0 (e + epochs.length) := by
  induction epochs generalizing e with
  | nil => rfl
  | cons bs rest ih =>
    have h := ih (e + 1)
    simp only [lrAfter] at h
    rw [lrEnd, h, List.length_cons, Nat.add_assoc, Nat.add_comm 1]

theorem schedSteps_eq (epochs : List (List β)) : schedSteps epochs = epochs.length := by
  induction epochs with
  | nil => rfl
  | cons bs rest ih => simp [schedSteps, ih]

end sched

theorem lrAfter_stepLR (gamma lr0 : ℝ) (s : ℕ) (e : ℕ) :
    lrAfter (stepLRNext gamma s) lr0 e = lr0 * gamma ^ (e / s) := by
  induction e with
  | zero => simp [lrAfter]
  | succ e ih =>
    simp only [lrAfter, stepLRNext, ih]
    rw [Nat.succ_div]
    by_cases hd : (e + 1) % s = 0
    · rw [if_pos hd, if_pos (Nat.dvd_of_mod_eq_zero hd), pow_succ]; ring
    · rw [if_neg hd, if_neg (fun hdv => hd (Nat.mod_eq_zero_of_dvd hdv)), Nat.add_zero]

end CDStep
end QV
