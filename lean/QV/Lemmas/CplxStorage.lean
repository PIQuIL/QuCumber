/-
QV.Lemmas.CplxStorage — helper lemmas for the storage part of the complex-tensor kernel model (C15):
writing a list of values through a list of addresses (`copy_` into a strided view) and reading it back.
-/
import Mathlib.Data.List.Nodup
import QV.Model.Cplx
namespace QV.Cplx
open List

section storage
variable {α : Type}

theorem writeList_of_notMem : ∀ (m : Nat → α) (as : List Nat) (vs : List α) (a : Nat), a ∉ as →
    writeList m as vs a = m a
  | _, [], [], _, _ => rfl
  | _, [], _ :: _, _, _ => rfl
  | _, _ :: _, [], _, _ => rfl
  | m, b :: as, v :: vs, a, h => by
    rw [writeList, writeList_of_notMem _ as vs a fun hm => h (List.mem_cons_of_mem _ hm),
      if_neg fun hab : a = b => h (hab ▸ List.mem_cons_self)]

theorem map_writeList : ∀ (m : Nat → α) (as : List Nat) (vs : List α), as.Nodup → as.length = vs.length →
    as.map (writeList m as vs) = vs
  | _, [], [], _, _ => rfl
  | m, b :: as, v :: vs, hnd, hl => by
    rw [List.map_cons, writeList, map_writeList _ as vs (List.nodup_cons.1 hnd).2 (Nat.succ.inj hl),
      writeList_of_notMem _ _ _ _ (List.nodup_cons.1 hnd).1, if_pos rfl]
/-- `real(out).copy_(re)` followed by `imag(out).copy_(im)` is ONE write of the whole data through all addresses of `out` -/
theorem writeList_append : ∀ (m : Nat → α) (as₁ : List Nat) (vs₁ : List α) (as₂ : List Nat) (vs₂ : List α),
    as₁.length = vs₁.length → writeList (writeList m as₁ vs₁) as₂ vs₂ = writeList m (as₁ ++ as₂) (vs₁ ++ vs₂)
  | _, [], [], _, _, _ => rfl
  | _, _ :: as₁, _ :: vs₁, as₂, vs₂, h => writeList_append _ as₁ vs₁ as₂ vs₂ (Nat.succ.inj h)

end storage
end QV.Cplx
