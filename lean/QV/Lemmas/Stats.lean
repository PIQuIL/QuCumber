/-
QV.Lemmas.Stats — helper lemmas for C13: list sums over ℝ, the `collect` traversal, `System.statistics`' fold as the list of
the single observables' folds, structure of the sampling schedule `draws`, the `System.statistics` call when no batch is
empty, and the name-keyed dictionary of `System.__init__`.
-/
import Mathlib.Algebra.BigOperators.Group.List.Basic
import Mathlib.Data.Real.Basic
import Mathlib.Data.List.Basic
import Mathlib.Data.List.Nodup
import Mathlib.Tactic.Ring
import Mathlib.Tactic.Linarith
import QV.Real
import QV.Model.Stats

set_option linter.unusedSectionVars false

namespace QV.Stats

@[simp] theorem sumList_eq_sum (xs : List ℝ) : sumList xs = xs.sum := List.sum_eq_foldl.symm

theorem sum_sq_sub (xs : List ℝ) (μ : ℝ) :
    (xs.map (fun x => (x - μ) * (x - μ))).sum
      = (xs.map (fun x => x * x)).sum - 2 * μ * xs.sum + (xs.length : ℝ) * (μ * μ) := by
  induction xs with
  | nil => simp
  | cons x xs ih =>
    simp only [List.map_cons, List.sum_cons, List.length_cons, ih]
    push_cast
    ring

theorem collect_map_ok {β γ : Type} (l : List γ) (g : γ → Except PyErr β) (h : γ → β)
    (H : ∀ x ∈ l, g x = .ok (h x)) : collect (l.map g) = .ok (l.map h) := by
  induction l with
  | nil => rfl
  | cons x xs ih =>
    have hx := H x (List.mem_cons_self ..)
    have hxs := ih (fun y hy => H y (List.mem_cons_of_mem _ hy))
    simp [collect, hx, hxs]

section generic
variable {α : Type} [Add α] [Mul α] [Neg α] [Sub α] [Div α] [Zero α] [One α] [Transc α]

theorem fromSamples_of_ne_nil (xs : List α) (h : xs ≠ []) : fromSamples xs = .ok (statOf xs) := by
  cases xs with
  | nil => contradiction
  | cons x xs => rfl

theorem updateStatistics_len (avgA : α) (varA : Option α) (lenA : Nat) (avgB : α) (varB : Option α) (lenB : Nat) :
    (updateStatistics avgA varA lenA avgB varB lenB).2.2 = lenA + lenB := by
  unfold updateStatistics
  split
  · rename_i h
    simp only [Bool.and_eq_true, beq_iff_eq] at h
    simp [h.1, h.2]
  · rfl

theorem foldl_sysStep_total (c : Nat) (rows : List (List (Stat α))) (accs : List (α × Option α)) (total : Nat) :
    (rows.foldl (sysStep c) (accs, total)).2 = total + rows.length * c := by
  induction rows generalizing accs total with
  | nil => simp
  | cons r rows ih =>
    simp only [List.foldl_cons, List.length_cons]
    rw [show sysStep c (accs, total) r = (sysInner c total accs r, total + c) from rfl, ih]
    ring

theorem accStep_len (c : Nat) (acc : α × Option α × Nat) (s : Stat α) : (accStep c acc s).2.2 = acc.2.2 + c :=
  updateStatistics_len ..

theorem foldl_accStep_len (c : Nat) (chunks : List (Stat α)) (acc : α × Option α × Nat) :
    (chunks.foldl (accStep c) acc).2.2 = acc.2.2 + chunks.length * c := by
  induction chunks generalizing acc with
  | nil => simp
  | cons s ss ih =>
    rw [List.foldl_cons, ih, accStep_len, List.length_cons]
    ring

/-! ### `System.statistics`' fold is, observable by observable, the fold of `ObservableBase.statistics` -/

/-- the running mean and variance of a triple, without the count (what `System.statistics` keeps per observable) -/
def meanVar (t : α × Option α × Nat) : α × Option α := (t.1, t.2.1)

theorem sysFold_map {φ δ : Type} (c : Nat) (fs : List φ) (F : φ → δ → Stat α) (ds : List δ)
    (g : φ → α × Option α) (total : Nat) :
    (ds.map (fun d => fs.map (fun f => F f d))).foldl (sysStep c) (fs.map g, total)
      = (fs.map (fun f => meanVar ((ds.map (F f)).foldl (accStep c) ((g f).1, (g f).2, total))),
          total + ds.length * c) := by
  induction ds generalizing g total with
  | nil => simp [meanVar]
  | cons d ds ih =>
    simp only [List.map_cons, List.foldl_cons, List.length_cons]
    have hstep : sysStep c (fs.map g, total) (fs.map (fun f => F f d))
        = (fs.map (fun f => meanVar (accStep c ((g f).1, (g f).2, total) (F f d))), total + c) := by
      simp only [sysStep, sysInner, List.zipWith_map, List.zipWith_self, accStep, meanVar]
    rw [hstep, ih]
    refine Prod.ext (List.map_congr_left fun f _ => ?_) (by simp only; ring)
    -- the induction hypothesis restarts each observable from the pair `sysStep` kept and the shared count `total + c`;
    -- that is the very triple `accStep` returned, because its third component is `total + c` (`accStep_len`)
    rw [show accStep c ((g f).1, (g f).2, total) (F f d) = (_, _, total + c) from
      Prod.ext rfl (Prod.ext rfl (accStep_len ..))]
    rfl

end generic

section schedule
variable {σ : Type}

theorem draws_length (env : Env σ) (c burnIn steps : Nat) (rem i : Nat) (ch : Option σ) :
    (draws env c burnIn steps rem i ch).length = rem := by
  induction rem generalizing i ch with
  | zero => rfl
  | succ n ih => simp [draws, ih]

theorem draws_k_of_ne_zero (env : Env σ) (c burnIn steps : Nat) (rem i : Nat) (hi : i ≠ 0) (ch : Option σ) :
    (draws env c burnIn steps rem i ch).map (fun d => d.1.k) = List.replicate rem steps := by
  induction rem generalizing i ch with
  | zero => rfl
  | succ n ih =>
    simp only [draws, List.map_cons, List.replicate_succ]
    rw [ih (i + 1) (by omega)]
    simp [gibbsK, hi]

/-- `ident s` is the identity of the tensor object `s` (Python's `id`), `u` the caller's tensor; `hsamp`: a sampler call
returns the object `u` only if it was handed `u` (then it may have written into it). -/
theorem draws_untouched (env : Env σ) (ident : σ → Nat) (u : σ) (c burnIn steps T i : Nat) (ch : Option σ)
    (hsamp : ∀ j call, ident (env.samp j call) = ident u → ∃ s, call.init = some s ∧ ident s = ident u)
    (hch : ∀ s, ch = some s → ident s ≠ ident u) :
    ∀ d ∈ draws env c burnIn steps T i ch, (∀ s, d.1.init = some s → ident s ≠ ident u) ∧ ident d.2 ≠ ident u := by
  induction T generalizing i ch with
  | zero => intro d hd; simp [draws] at hd
  | succ n ih =>
    intro d hd
    simp only [draws, List.mem_cons] at hd
    have hst : ident (env.samp i ⟨c, gibbsK burnIn steps i, ch, true⟩) ≠ ident u := by
      intro heq
      obtain ⟨s, hs, hs'⟩ := hsamp _ _ heq
      exact hch s hs hs'
    rcases hd with rfl | hd
    · exact ⟨fun s hs => hch s hs, hst⟩
    · exact ih (i + 1) _ (fun s hs => by cases hs; exact hst) d hd

end schedule

/-! ### `System.statistics` for observables that return at least one value per batch: no `statistics_from_samples` inside
the loop fails, so the call is the list of the single observables' folds over the chunks' own statistics -/

section calls
variable {σ α : Type} [Add α] [Mul α] [Neg α] [Sub α] [Div α] [Zero α] [One α] [Transc α]

theorem sysStatistics_of_ne_nil (env : Env σ) (fs : List (σ → List α)) (a : Args σ) (hne : ∀ f ∈ fs, ∀ st, f st ≠ []) :
    sysStatistics env fs a = match numTimeSteps a.numSamples (chainSetup env a).2 with
      | .error e => .error e
      | .ok T =>
        let ds := draws env (chainSetup env a).2 a.burnIn a.steps T 0 (chainSetup env a).1
        match sysFinish (fs.map (fun f => meanVar
            (foldStats (chainSetup env a).2 (ds.map (fun d => statOf (f d.2))))), T * (chainSetup env a).2) with
        | .error e => .error e
        | .ok ss => .ok (ss, ds.map (·.1)) := by
  unfold sysStatistics
  simp only
  cases numTimeSteps a.numSamples (chainSetup env a).2 with
  | error e => rfl
  | ok T =>
    simp only
    rw [collect_map_ok _ _ (fun d : SampleCall σ × σ => fs.map (fun f => statOf (f d.2))) (fun d _ =>
      collect_map_ok fs _ _ (fun f hf => fromSamples_of_ne_nil _ (hne f hf d.2)))]
    -- the initial accumulators `replicate fs.length (0, some 0)` are written as a `map` over `fs`, the shape `sysFold_map` wants
    simp only [sysFold, ← List.map_const', foldStats]
    rw [sysFold_map (chainSetup env a).2 fs (fun f (d : SampleCall σ × σ) => statOf (f d.2)), draws_length, Nat.zero_add]
    rfl

theorem sysFinish_length {st : List (α × Option α) × Nat} {ss : List (Stat α)} (h : sysFinish st = .ok ss) :
    ss.length = st.1.length := by
  unfold sysFinish at h
  split at h
  · cases h
    rename_i he
    rw [List.isEmpty_iff.mp he]
    rfl
  · split at h
    · cases h
    · cases h
      exact List.length_map _

theorem sysStatistics_length (env : Env σ) (fs : List (σ → List α)) (a : Args σ) (hne : ∀ f ∈ fs, ∀ st, f st ≠ [])
    {r : List (Stat α) × List (SampleCall σ)} (h : sysStatistics env fs a = .ok r) : r.1.length = fs.length := by
  rw [sysStatistics_of_ne_nil env fs a hne] at h
  split at h
  · cases h
  · simp only at h
    split at h
    · cases h
    · rename_i ss hss
      cases h
      rw [sysFinish_length hss, List.length_map]

/-- entry `j` of the dictionary comprehension is the `finish` of the running pair at `j` with the shared count -/
theorem sysFinish_getElem? (l : List (α × Option α)) (n j : Nat) (hj : j < l.length) :
    (sysFinish (l, n)).map (·[j]?) = (finish (l[j].1, l[j].2, n)).map some := by
  have hl : l.isEmpty = false := by
    cases l with
    | nil => cases hj
    | cons x xs => rfl
  unfold sysFinish finish
  simp only [hl, Bool.false_eq_true, if_false]
  cases n == 0
  · simp only [Bool.false_eq_true, if_false, Except.map, List.getElem?_map, List.getElem?_eq_getElem hj, Option.map_some]
  · rfl

end calls

/-! ### `System.__init__`: the insertion-ordered dictionary keyed by name -/

section dict
variable {κ β : Type} [BEq κ] [LawfulBEq κ]

theorem any_key_iff (d : List (κ × β)) (k : κ) : d.any (fun e => e.1 == k) = true ↔ k ∈ d.map (·.1) := by
  simp only [List.any_eq_true, List.mem_map, beq_iff_eq]

theorem dictSet_keys (d : List (κ × β)) (k : κ) (v : β) :
    (dictSet d k v).map (·.1) = if k ∈ d.map (·.1) then d.map (·.1) else d.map (·.1) ++ [k] := by
  unfold dictSet
  by_cases h : k ∈ d.map (·.1)
  · rw [if_pos ((any_key_iff d k).mpr h), if_pos h, List.map_map]
    refine List.map_congr_left (fun e _ => ?_)
    simp only [Function.comp]
    split <;> rfl
  · have : ¬ d.any (fun e => e.1 == k) = true := fun h' => h ((any_key_iff d k).mp h')
    rw [if_neg this, if_neg h]; simp

theorem lookup_map_val {γ : Type} (l : List (κ × β)) (g : κ → β → γ) (n : κ) :
    (l.map (fun e => (e.1, g e.1 e.2))).lookup n = (l.lookup n).map (g n) := by
  induction l with
  | nil => rfl
  | cons p ps ih =>
    rw [List.map_cons, List.lookup_cons, List.lookup_cons, ih]
    cases h : n == p.1
    · rfl
    · rw [beq_iff_eq.mp h]
      rfl

theorem dictSet_lookup (d : List (κ × β)) (k n : κ) (v : β) :
    (dictSet d k v).lookup n = if n == k then some v else d.lookup n := by
  unfold dictSet
  split
  · rename_i h
    rw [show (fun e : κ × β => if e.1 == k then (e.1, v) else e) = fun e => (e.1, if e.1 == k then v else e.2) from
      funext fun e => by split <;> rfl, lookup_map_val d (fun a b => if a == k then v else b)]
    cases hn : n == k
    · exact Option.map_id'
    · cases hl : d.lookup n with
      | some b => rfl
      | none =>
        obtain ⟨e, he, hek⟩ := List.any_eq_true.mp h
        have := List.lookup_eq_none_iff.mp hl e he
        rw [beq_iff_eq.mp hn, ← beq_iff_eq.mp hek, bne_self_eq_false] at this
        cases this
  · rename_i h
    rw [List.lookup_append]
    cases hn : n == k
    · simp [List.lookup_cons, hn]
    · have : d.lookup n = none := List.lookup_eq_none_iff.mpr fun p hp => by
        rw [beq_iff_eq.mp hn]
        exact bne_iff_ne.mpr fun hkp => h (List.any_eq_true.mpr ⟨p, hp, beq_iff_eq.mpr hkp.symm⟩)
      simp [this, List.lookup_cons, hn]

/-- the names in order of first occurrence (the key order of `{obs.name: obs for obs in observables}`) -/
def firstOcc : List κ → List κ
  | [] => []
  | x :: xs => x :: (firstOcc xs).filter (fun y => !(y == x))

theorem mem_firstOcc (xs : List κ) (y : κ) : y ∈ firstOcc xs ↔ y ∈ xs := by
  induction xs with
  | nil => simp [firstOcc]
  | cons x xs ih =>
    simp only [firstOcc, List.mem_cons, List.mem_filter, ih, Bool.not_eq_true', beq_eq_false_iff_ne]
    by_cases h : y = x <;> simp [h]

theorem firstOcc_nodup (xs : List κ) : (firstOcc xs).Nodup := by
  induction xs with
  | nil => simp [firstOcc]
  | cons x xs ih =>
    simp only [firstOcc, List.nodup_cons, List.mem_filter, beq_self_eq_true, Bool.not_true, Bool.false_eq_true,
      and_false, not_false_eq_true, true_and]
    exact ih.filter _

theorem firstOcc_of_nodup (xs : List κ) (h : xs.Nodup) : firstOcc xs = xs := by
  induction xs with
  | nil => rfl
  | cons x xs ih =>
    rw [List.nodup_cons] at h
    simp only [firstOcc, ih h.2]
    congr 1
    rw [List.filter_eq_self]
    intro y hy
    simp only [Bool.not_eq_true', beq_eq_false_iff_ne]
    rintro rfl; exact h.1 hy

theorem firstOcc_concat (xs : List κ) (x : κ) :
    firstOcc (xs ++ [x]) = if x ∈ xs then firstOcc xs else firstOcc xs ++ [x] := by
  induction xs with
  | nil => rfl
  | cons y ys ih =>
    rw [List.cons_append, firstOcc, firstOcc, ih]
    by_cases hxy : x = y
    · subst hxy
      by_cases h : x ∈ ys <;> simp [h]
    · by_cases h : x ∈ ys <;> simp [h, hxy]

theorem systemInit_concat (obs : List (κ × β)) (o : κ × β) :
    systemInit (obs ++ [o]) = dictSet (systemInit obs) o.1 o.2 := by
  simp [systemInit]

/-- the entry stored under a name is the LAST observable given with that name -/
theorem systemInit_lookup (obs : List (κ × β)) (n : κ) : (systemInit obs).lookup n = obs.reverse.lookup n := by
  induction obs using List.reverseRecOn with
  | nil => rfl
  | append_singleton obs o ih =>
    rw [systemInit_concat, dictSet_lookup, ih, List.reverse_append, List.reverse_singleton, List.singleton_append,
      List.lookup_cons]
    cases n == o.1 <;> rfl

theorem systemInit_keys (obs : List (κ × β)) : (systemInit obs).map (·.1) = firstOcc (obs.map (·.1)) := by
  induction obs using List.reverseRecOn with
  | nil => rfl
  | append_singleton obs o ih =>
    rw [systemInit_concat, dictSet_keys, ih, List.map_append, List.map_singleton, firstOcc_concat]
    simp only [mem_firstOcc]

theorem lookup_of_nodup (l : List (κ × β)) (h : (l.map (·.1)).Nodup) (e : κ × β) (he : e ∈ l) :
    l.lookup e.1 = some e.2 := by
  obtain ⟨l₁, l₂, rfl⟩ := List.append_of_mem he
  rw [List.map_append, List.map_cons] at h
  exact List.lookup_eq_some_iff.mpr ⟨l₁, l₂, rfl, fun p hp => bne_iff_ne.mpr fun heq =>
    (List.nodup_append.mp h).2.2 _ (List.mem_map_of_mem hp) _ (List.mem_cons_self ..) heq.symm⟩

/-- the keys are distinct, so an entry is the one found under its key, and that one is the last observable given with the
name (`systemInit_lookup`) -/
theorem mem_systemInit (obs : List (κ × β)) (e : κ × β) (h : e ∈ systemInit obs) : e ∈ obs := by
  have hl := lookup_of_nodup (systemInit obs) (by rw [systemInit_keys]; exact firstOcc_nodup _) e h
  rw [systemInit_lookup] at hl
  obtain ⟨l₁, l₂, hsplit, -⟩ := List.lookup_eq_some_iff.mp hl
  exact List.mem_reverse.mp (hsplit ▸ List.mem_append_right _ (List.mem_cons_self ..))

theorem systemInit_ne_nil {σ γ : Type} (obs : List (κ × (σ → List γ))) (hne : ∀ o ∈ obs, ∀ st, o.2 st ≠ []) :
    ∀ g ∈ (systemInit obs).map (·.2), ∀ st, g st ≠ [] := by
  intro g hg st
  obtain ⟨e, he, rfl⟩ := List.mem_map.mp hg
  exact hne e (mem_systemInit obs e he) st

/-- `l₁`, `l₂` and `hn` are what `List.lookup_eq_some_iff` returns for `(l₁ ++ (n, b) :: l₂).lookup n = some b` -/
theorem lookup_zip_at {γ : Type} (l₁ l₂ : List (κ × β)) (n : κ) (b : β) (hn : ∀ p ∈ l₁, (n != p.1) = true)
    (ss : List γ) : (((l₁ ++ (n, b) :: l₂).map (·.1)).zip ss).lookup n = ss[l₁.length]? := by
  induction l₁ generalizing ss with
  | nil =>
    cases ss with
    | nil => rfl
    | cons t ts => simp
  | cons p ps ih =>
    cases ss with
    | nil => rfl
    | cons t ts =>
      have hne : (n == p.1) = false := by simpa using hn p (List.mem_cons_self ..)
      rw [List.cons_append, List.map_cons, List.zip_cons_cons, List.lookup_cons, hne, List.length_cons,
        List.getElem?_cons_succ]
      exact ih (fun q hq => hn q (List.mem_cons_of_mem _ hq)) ts

end dict
end QV.Stats
