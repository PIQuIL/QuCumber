/-
QV.Lemmas.Store — the heap model `QV.Model.Store` under its invariant.

Every operation of the history machine changes the heap in one of two ways: in-place writes into existing tensors
(`Touches h h' S`: same objects and shapes, nothing outside `S` written) or allocation of new tensors above the
counter (`Alloc`), bound to a new or an existing network slot.  `HeapWF` / `WorldWF` (ids at or above the counter
unused, parameter tensors of network objects allocated and pairwise distinct, shapes = size attributes, distinct dict
keys, a state's networks distinct objects) is preserved by both, hence by `step` and `run` (`step_wf`, `run_wf`).
What an allocation keeps and what it creates is stated as `Extends` / `FreshNet`, the form the C20 theorems read off
(`allocNets_spec`, `deepcopyNet_spec`, `freshNet_allocNet`, `freshNet_initParams`).
`save` never writes into the heap and has the closed form `save_eq` (`saveErr`, `savedFile`).
-/
import QV.Model.Store

namespace QV.Store

section alist
variable {κ β : Type} [DecidableEq κ]

@[simp] theorem aget_nil (k : κ) : aget ([] : List (κ × β)) k = none := rfl

theorem aget_cons (k x : κ) (v : β) (r : List (κ × β)) :
    aget ((k, v) :: r) x = if k = x then some v else aget r x := rfl

theorem aget_aset_same (d : List (κ × β)) (k : κ) (v : β) : aget (aset d k v) k = some v := by
  induction d with
  | nil => simp [aset, aget_cons]
  | cons a r ih =>
    obtain ⟨k', w⟩ := a
    by_cases h : k' = k
    · simp [aset, h, aget_cons]
    · simp [aset, h, aget_cons, ih]

theorem aget_aset_ne (d : List (κ × β)) (k k' : κ) (v : β) (hne : k' ≠ k) :
    aget (aset d k v) k' = aget d k' := by
  induction d with
  | nil => simp [aset, aget_cons, Ne.symm hne]
  | cons a r ih =>
    obtain ⟨k0, w⟩ := a
    by_cases h : k0 = k
    · subst h; simp [aset, aget_cons, Ne.symm hne]
    · by_cases h2 : k0 = k'
      · subst h2; simp [aset, h, aget_cons]
      · simp [aset, h, aget_cons, h2, ih]

theorem aget_aset (d : List (κ × β)) (k k' : κ) (v : β) :
    aget (aset d k v) k' = if k' = k then some v else aget d k' := by
  by_cases h : k' = k
  · subst h; simp [aget_aset_same]
  · simp [h, aget_aset_ne _ _ _ _ h]

def keys (d : List (κ × β)) : List κ := d.map Prod.fst

theorem aget_none_iff (d : List (κ × β)) (k : κ) : aget d k = none ↔ k ∉ keys d := by
  induction d with
  | nil => exact ⟨fun _ => List.not_mem_nil, fun _ => rfl⟩
  | cons a r ih =>
    obtain ⟨k0, w⟩ := a
    show aget ((k0, w) :: r) k = none ↔ k ∉ k0 :: keys r
    rw [aget_cons, List.mem_cons, not_or]
    by_cases h : k0 = k
    · rw [if_pos h]; exact ⟨(fun e => nomatch e), fun hn => absurd h.symm hn.1⟩
    · rw [if_neg h, ih]; exact ⟨fun hn => ⟨fun e => h e.symm, hn⟩, fun hn => hn.2⟩

theorem ahas_iff (d : List (κ × β)) (k : κ) : ahas d k = true ↔ k ∈ keys d := by
  unfold ahas
  rw [Option.isSome_iff_ne_none, Ne, aget_none_iff]
  simp

theorem keys_aset (d : List (κ × β)) (k : κ) (v : β) :
    keys (aset d k v) = if k ∈ keys d then keys d else keys d ++ [k] := by
  induction d with
  | nil => simp [aset, keys]
  | cons a r ih =>
    obtain ⟨k0, w⟩ := a
    by_cases h : k0 = k
    · simp [aset, h, keys]
    · have hk : ¬ k = k0 := fun e => h e.symm
      simp only [keys] at ih
      by_cases hm : k ∈ List.map Prod.fst r
      · simp [aset, h, keys, hk, hm, ih]
      · simp [aset, h, keys, hk, hm, ih]

theorem nodup_keys_aset (d : List (κ × β)) (k : κ) (v : β) (hd : (keys d).Nodup) :
    (keys (aset d k v)).Nodup := by
  rw [keys_aset]
  by_cases hm : k ∈ keys d
  · simp [hm, hd]
  · simp only [hm, if_false]
    rw [List.nodup_append]
    refine ⟨hd, by simp, ?_⟩
    intro a ha b hb
    simp at hb
    subst hb
    intro e; subst e; exact hm ha

theorem nodup_keys_aupdate (d e : List (κ × β)) (hd : (keys d).Nodup) :
    (keys (aupdate d e)).Nodup := by
  unfold aupdate
  induction e generalizing d with
  | nil => simpa using hd
  | cons a r ih => exact ih _ (nodup_keys_aset d a.1 a.2 hd)

/-- `he` is needed: `aget` finds the FIRST entry of a key, `update` leaves the value of the LAST one. -/
theorem aget_aupdate (d e : List (κ × β)) (k : κ) (he : (keys e).Nodup) :
    aget (aupdate d e) k = match aget e k with
      | some v => some v
      | none => aget d k := by
  unfold aupdate
  induction e generalizing d with
  | nil => simp
  | cons a r ih =>
    obtain ⟨k0, w⟩ := a
    simp only [keys, List.map_cons, List.nodup_cons] at he
    simp only [List.foldl_cons]
    rw [ih _ he.2]
    by_cases h : k0 = k
    · subst h
      have : aget r k0 = none := (aget_none_iff r k0).2 he.1
      simp [aget_cons, this, aget_aset_same]
    · have hk : k ≠ k0 := fun e => h e.symm
      simp only [aget_cons, h, if_false]
      cases aget r k with
      | some v => rfl
      | none => simp [aget_aset_ne _ _ _ _ hk]

theorem aget_map_val {γ : Type} (d : List (κ × β)) (f : β → γ) (k : κ) :
    aget (d.map (fun kv => (kv.1, f kv.2))) k = (aget d k).map f := by
  induction d with
  | nil => simp
  | cons a r ih =>
    obtain ⟨k0, w⟩ := a
    by_cases h : k0 = k <;> simp [aget_cons, h, ih]

omit [DecidableEq κ] in
theorem keys_map_val {γ : Type} (d : List (κ × β)) (f : β → γ) :
    keys (d.map (fun kv => (kv.1, f kv.2))) = keys d := by
  simp [keys, List.map_map, Function.comp_def]

theorem aget_mem (d : List (κ × β)) (k : κ) (v : β) (h : aget d k = some v) : (k, v) ∈ d := by
  induction d with
  | nil => simp at h
  | cons a r ih =>
    obtain ⟨k0, w⟩ := a
    by_cases hk : k0 = k
    · simp [aget_cons, hk] at h; subst hk; subst h; simp
    · simp [aget_cons, hk] at h; exact List.mem_cons_of_mem _ (ih h)

theorem aget_of_mem_nodup (d : List (κ × β)) (k : κ) (v : β) (hm : (k, v) ∈ d) (hn : (keys d).Nodup) :
    aget d k = some v := by
  induction d with
  | nil => simp at hm
  | cons a r ih =>
    obtain ⟨k0, w⟩ := a
    simp only [keys, List.map_cons, List.nodup_cons] at hn
    rcases List.mem_cons.1 hm with h | h
    · cases h; simp [aget_cons]
    · have : k0 ≠ k := by
        intro e; subst e
        exact hn.1 (List.mem_map.2 ⟨(k0, v), h, rfl⟩)
      simp [aget_cons, this]; exact ih h hn.2

/-! `dict.update` with keys that are new and distinct appends; lookups in appended lists -/

theorem aset_fresh (d : List (κ × β)) (k : κ) (v : β) (hk : k ∉ keys d) : aset d k v = d ++ [(k, v)] := by
  induction d with
  | nil => rfl
  | cons a r ih =>
    obtain ⟨k0, w⟩ := a
    simp only [keys, List.map_cons, List.mem_cons, not_or] at hk
    have h0 : ¬ k0 = k := fun e => hk.1 e.symm
    simp only [aset, h0, if_false, List.cons_append]
    rw [ih hk.2]

theorem aupdate_fresh (d e : List (κ × β)) (hd : ∀ k ∈ keys e, k ∉ keys d) (he : (keys e).Nodup) :
    aupdate d e = d ++ e := by
  unfold aupdate
  induction e generalizing d with
  | nil => simp
  | cons a r ih =>
    obtain ⟨k, v⟩ := a
    simp only [keys, List.map_cons, List.nodup_cons] at he
    simp only [List.foldl_cons]
    have hk : k ∉ keys d := hd k (by simp [keys])
    rw [aset_fresh d k v hk, ih]
    · simp
    · intro k' hk' hm
      simp only [keys, List.map_append, List.map_cons, List.map_nil, List.mem_append, List.mem_singleton] at hm
      rcases hm with hm | hm
      · exact hd k' (by simp only [keys, List.map_cons, List.mem_cons]; exact Or.inr hk') hm
      · subst hm; exact he.1 hk'
    · exact he.2

theorem aget_append (a b : List (κ × β)) (k : κ) :
    aget (a ++ b) k = match aget a k with
      | some v => some v
      | none => aget b k := by
  induction a with
  | nil => simp
  | cons e r ih =>
    obtain ⟨k0, v0⟩ := e
    by_cases hk : k0 = k
    · simp [aget_cons, hk]
    · simp [aget_cons, hk, ih]

theorem mem_keys_aset (d : List (κ × β)) (k x : κ) (v : β) : x ∈ keys (aset d k v) ↔ x ∈ keys d ∨ x = k := by
  rw [keys_aset]
  by_cases hm : k ∈ keys d
  · simp only [hm, if_true]
    constructor
    · exact Or.inl
    · rintro (h | h)
      · exact h
      · subst h; exact hm
  · simp [hm]

end alist

@[simp] theorem upd_same {β : Type} (f : Nat → Option β) (i : Nat) (v : β) : upd f i v i = some v := by
  simp [upd]
theorem upd_ne {β : Type} (f : Nat → Option β) (i j : Nat) (v : β) (h : j ≠ i) : upd f i v j = f j := by
  simp [upd, h]
theorem upd_apply {β : Type} (f : Nat → Option β) (i j : Nat) (v : β) :
    upd f i v j = if j = i then some v else f j := rfl

theorem upd_upd {β : Type} (f : Nat → Option β) (i : Nat) (v v' : β) : upd (upd f i v) i v' = upd f i v' :=
  funext fun j => by unfold upd; split <;> rfl

theorem upd_eq_some {β : Type} {f : Nat → Option β} {i j : Nat} {v x : β} (h : upd f i v j = some x) :
    (j = i ∧ x = v) ∨ (j ≠ i ∧ f j = some x) := by
  by_cases hj : j = i
  · subst hj; rw [upd_same] at h; exact Or.inl ⟨rfl, (Option.some.inj h).symm⟩
  · rw [upd_ne _ _ _ _ hj] at h; exact Or.inr ⟨hj, h⟩

def ids (ps : List (String × ObjId)) : List ObjId := ps.map Prod.snd

def shapesOf (sd : SD) : List (String × Shape) := sd.map (fun e => (e.1, e.2.1))

theorem setTok_tens (h : Heap) (id : ObjId) (tok : Tok) (j : ObjId) :
    (h.setTok id tok).tens j = if j = id then (h.tens id).map (fun x => (x.1, tok)) else h.tens j := by
  unfold Heap.setTok
  cases hx : h.tens id with
  | none => by_cases hj : j = id <;> simp [hj, hx]
  | some x => by_cases hj : j = id <;> simp [hj, upd_apply]

@[simp] theorem setTok_nets (h : Heap) (id : ObjId) (tok : Tok) : (h.setTok id tok).nets = h.nets := by
  unfold Heap.setTok; cases h.tens id <;> rfl
@[simp] theorem setTok_dicts (h : Heap) (id : ObjId) (tok : Tok) : (h.setTok id tok).dicts = h.dicts := by
  unfold Heap.setTok; cases h.tens id <;> rfl
@[simp] theorem setTok_next (h : Heap) (id : ObjId) (tok : Tok) : (h.setTok id tok).next = h.next := by
  unfold Heap.setTok; cases h.tens id <;> rfl

/-- The frame condition of the in-place writes (`copy_`, an optimizer step, `.data[...] = …`; all go through
`Heap.setTok`). `S` is an upper bound of what was written, not the exact set. -/
structure Touches (h h' : Heap) (S : List ObjId) : Prop where
  nets : h'.nets = h.nets
  dicts : h'.dicts = h.dicts
  next : h'.next = h.next
  shape : ∀ i, (h'.tens i).map Prod.fst = (h.tens i).map Prod.fst
  frame : ∀ i, i ∉ S → h'.tens i = h.tens i

theorem Touches.refl (h : Heap) (S : List ObjId) : Touches h h S :=
  ⟨rfl, rfl, rfl, fun _ => rfl, fun _ _ => rfl⟩

theorem Touches.trans {h h' h'' : Heap} {S T U : List ObjId} (a : Touches h h' S) (b : Touches h' h'' T)
    (hS : ∀ x ∈ S, x ∈ U) (hT : ∀ x ∈ T, x ∈ U) : Touches h h'' U :=
  ⟨b.nets.trans a.nets, b.dicts.trans a.dicts, b.next.trans a.next,
   fun i => (b.shape i).trans (a.shape i),
   fun i hi => (b.frame i (fun m => hi (hT i m))).trans (a.frame i (fun m => hi (hS i m)))⟩

theorem Touches.mono {h h' : Heap} {S U : List ObjId} (a : Touches h h' S) (hS : ∀ x ∈ S, x ∈ U) :
    Touches h h' U :=
  ⟨a.nets, a.dicts, a.next, a.shape, fun i hi => a.frame i (fun m => hi (hS i m))⟩

theorem touches_setTok (h : Heap) (id : ObjId) (tok : Tok) : Touches h (h.setTok id tok) [id] := by
  refine ⟨by simp, by simp, by simp, ?_, ?_⟩
  · intro i
    rw [setTok_tens]
    by_cases hi : i = id
    · subst hi; simp [Option.map_map, Function.comp_def]
    · simp [hi]
  · intro i hi
    rw [setTok_tens]
    have : i ≠ id := by simpa using hi
    simp [this]

theorem readT_shape (h : Heap) (i : ObjId) : (h.readT i).1 = ((h.tens i).map Prod.fst).getD [] := by
  unfold Heap.readT; cases h.tens i <;> rfl

theorem Touches.readT_shape {h h' : Heap} {S : List ObjId} (a : Touches h h' S) (i : ObjId) :
    (h'.readT i).1 = (h.readT i).1 := by
  rw [QV.Store.readT_shape, QV.Store.readT_shape, a.shape]

theorem Touches.readT_frame {h h' : Heap} {S : List ObjId} (a : Touches h h' S) (i : ObjId) (hi : i ∉ S) :
    h'.readT i = h.readT i := by
  unfold Heap.readT; rw [a.frame i hi]

theorem Touches.isSome {h h' : Heap} {S : List ObjId} (a : Touches h h' S) (i : ObjId) :
    (h'.tens i).isSome = (h.tens i).isSome := by
  have := a.shape i
  cases h1 : h'.tens i <;> cases h2 : h.tens i <;> simp [h1, h2] at this ⊢

theorem viewParams_congr {h h' : Heap} {ps : List (String × ObjId)} (ht : ∀ x ∈ ids ps, h'.tens x = h.tens x) :
    viewParams h' ps = viewParams h ps := by
  unfold viewParams
  exact List.map_congr_left fun p hp => by simp only [Heap.readT, ht p.2 (List.mem_map_of_mem hp)]

theorem viewNet_congr {h h' : Heap} {i : ObjId} (hn : h'.nets i = h.nets i)
    (ht : ∀ net, h.nets i = some net → ∀ x ∈ ids net.params, h'.tens x = h.tens x) : viewNet h' i = viewNet h i := by
  unfold viewNet
  rw [hn]
  cases hi : h.nets i with
  | none => rfl
  | some net => exact viewParams_congr (ht net hi)

theorem shapesOf_viewParams_touches {h h' : Heap} {S : List ObjId} (a : Touches h h' S)
    (ps : List (String × ObjId)) : shapesOf (viewParams h' ps) = shapesOf (viewParams h ps) := by
  unfold shapesOf viewParams
  simp only [List.map_map]
  apply List.map_congr_left
  intro p _
  simp [a.readT_shape]

theorem readT_setTok_same (h : Heap) (id : ObjId) (tok : Tok) (hs : (h.tens id).isSome) :
    (h.setTok id tok).readT id = ((h.readT id).1, tok) := by
  unfold Heap.readT
  rw [setTok_tens]
  cases hx : h.tens id with
  | none => simp [hx] at hs
  | some x => simp

/-! ### write-like operations only touch the parameters they are given -/

theorem Touches.cons {h h' h'' : Heap} {nm : String} {id : ObjId} {ps : List (String × ObjId)}
    (a : Touches h h' [id]) (b : Touches h' h'' (ids ps)) : Touches h h'' (ids ((nm, id) :: ps)) :=
  a.trans b (fun _ hx => List.mem_singleton.1 hx ▸ List.mem_cons_self) (fun _ hx => List.mem_cons_of_mem _ hx)

theorem Touches.tail {h h' : Heap} {p : String × ObjId} {ps : List (String × ObjId)} (a : Touches h h' (ids ps)) :
    Touches h h' (ids (p :: ps)) :=
  a.mono fun _ hx => List.mem_cons_of_mem _ hx

theorem touches_writeParams (h : Heap) (ps : List (String × ObjId)) (toks : List Tok) :
    Touches h (writeParams h ps toks) (ids ps) := by
  induction ps generalizing h toks with
  | nil => exact Touches.refl h _
  | cons p r ih =>
    cases toks with
    | nil => exact Touches.refl h _
    | cons t ts => exact (touches_setTok h p.2 t).cons (ih _ ts)

theorem touches_trainParams (h : Heap) (fz : Bool) (ps : List (String × ObjId)) (toks : List Tok) :
    Touches h (trainParams h fz ps toks) (ids ps) := by
  induction ps generalizing h toks with
  | nil => exact Touches.refl h _
  | cons p r ih =>
    cases toks with
    | nil => exact Touches.refl h _
    | cons t ts =>
      simp only [trainParams]
      split
      · exact (ih h ts).tail
      · exact (touches_setTok h p.2 t).cons (ih _ ts)

theorem touches_copyParams (h : Heap) (sd : SD) (ps : List (String × ObjId)) :
    Touches h (copyParams h sd ps).1 (ids ps) := by
  induction ps generalizing h with
  | nil => exact Touches.refl h _
  | cons p r ih =>
    simp only [copyParams]
    split
    · split
      · exact (touches_setTok h p.2 _).cons (ih _)
      · exact (ih h).tail
    · exact (ih h).tail

theorem touches_writeNet (h : Heap) (id : ObjId) (toks : List Tok) (net : Net) (hn : h.nets id = some net) :
    Touches h (writeNet h id toks) (ids net.params) := by
  simp only [writeNet, hn, touches_writeParams]

theorem touches_loadStateDict (h : Heap) (net : Net) (v : FVal) :
    Touches h (loadStateDict h net v).1 (ids net.params) := by
  unfold loadStateDict
  split
  · exact Touches.refl _ _
  · exact Touches.refl _ _
  · exact Touches.refl _ _
  · exact touches_copyParams h _ net.params

def netsIds (h : Heap) (nets : List (String × ObjId)) : List ObjId :=
  nets.flatMap (fun p => match h.nets p.2 with
    | some net => ids net.params
    | none => [])

def netIds (h : Heap) (id : Nat) : List Nat :=
  match h.nets id with
  | some net => ids net.params
  | none => []

theorem netsIds_touches {h h' : Heap} {S : List ObjId} (a : Touches h h' S) (nets : List (String × ObjId)) :
    netsIds h' nets = netsIds h nets := by
  unfold netsIds; rw [a.nets]

/-- `b` is stated over the ids read through the intermediate heap `h'`, as the recursive calls produce it;
`netsIds_touches` turns them into ids of `h`. -/
theorem Touches.consNet {h h' h'' : Heap} {nm : String} {id : ObjId} {net : Net} {r : List (String × ObjId)}
    (hn : h.nets id = some net) (a : Touches h h' (ids net.params)) (b : Touches h' h'' (netsIds h' r)) :
    Touches h h'' (netsIds h ((nm, id) :: r)) := by
  have e : netsIds h ((nm, id) :: r) = ids net.params ++ netsIds h r := by
    simp only [netsIds, List.flatMap_cons, hn]
  rw [e]
  exact a.trans b (fun _ hx => List.mem_append_left _ hx)
    (fun _ hx => List.mem_append_right _ (netsIds_touches a r ▸ hx))

theorem Touches.tailNet {h h' : Heap} {p : String × ObjId} {r : List (String × ObjId)} (a : Touches h h' (netsIds h r)) :
    Touches h h' (netsIds h (p :: r)) :=
  a.mono fun _ hx => by
    simp only [netsIds, List.flatMap_cons, List.mem_append]; exact Or.inr hx

theorem touches_loadNets (h : Heap) (file : File) (nets : List (String × ObjId)) :
    Touches h (loadNets h file nets).1 (netsIds h nets) := by
  induction nets generalizing h with
  | nil => exact Touches.refl h _
  | cons p r ih =>
    simp only [loadNets]
    cases aget file (.str p.1) with
    | none => exact Touches.refl _ _
    | some v =>
      cases hnet : h.nets p.2 with
      | none => exact Touches.refl _ _
      | some net =>
        have h1 := touches_loadStateDict h net v
        dsimp only
        split
        · exact (Touches.consNet hnet h1 (Touches.refl _ _))
        · exact Touches.consNet hnet h1 (ih _)

theorem touches_trainNets (h : Heap) (kind : Kind) (nets : List (String × ObjId)) (toks : List (List Tok)) :
    Touches h (trainNets h kind nets toks) (netsIds h nets) := by
  induction nets generalizing h toks with
  | nil => exact Touches.refl h _
  | cons p r ih =>
    simp only [trainNets]
    cases hnet : h.nets p.2 with
    | none => exact (ih h toks.tail).tailNet
    | some net => exact Touches.consNet hnet (touches_trainParams h _ net.params _) (ih _ toks.tail)

/-! ### fresh tensors -/

/-- Postcondition of `allocTensors h specs` (`alloc_allocTensors`): the new tensors `ps` occupy exactly the ids
`h.next, …, h.next + specs.length - 1` and hold `specs`. -/
structure Alloc (h : Heap) (specs : SD) (h1 : Heap) (ps : List (String × ObjId)) : Prop where
  nets : h1.nets = h.nets
  dicts : h1.dicts = h.dicts
  next : h1.next = h.next + specs.length
  frame : ∀ i, i < h.next ∨ h.next + specs.length ≤ i → h1.tens i = h.tens i
  mem : ∀ x, x ∈ ids ps ↔ h.next ≤ x ∧ x < h.next + specs.length
  nodup : (ids ps).Nodup
  isSome : ∀ x ∈ ids ps, (h1.tens x).isSome
  view : viewParams h1 ps = specs

theorem alloc_allocTensors (h : Heap) (specs : SD) : Alloc h specs (allocTensors h specs).1 (allocTensors h specs).2 := by
  induction specs generalizing h with
  | nil => exact ⟨rfl, rfl, rfl, fun _ _ => rfl, fun x => ⟨(fun hx => nomatch hx), fun hx => absurd hx.2 (Nat.not_lt.2 hx.1)⟩, List.nodup_nil,
      (fun _ hx => nomatch hx), rfl⟩
  | cons e r ih =>
    obtain ⟨nm, sh, t⟩ := e
    have a := ih { h with tens := upd h.tens h.next (sh, t), next := h.next + 1 }
    simp only [allocTensors]
    generalize allocTensors { h with tens := upd h.tens h.next (sh, t), next := h.next + 1 } r = res at a ⊢
    obtain ⟨h1, ps⟩ := res
    have hn : h1.next = h.next + 1 + r.length := a.next
    have hm : ∀ x, x ∈ ids ps ↔ h.next + 1 ≤ x ∧ x < h.next + 1 + r.length := a.mem
    -- the first new tensor lies below the range of the others
    have hfirst : h1.tens h.next = some (sh, t) :=
      (a.frame h.next (Or.inl (Nat.lt_succ_self _))).trans (upd_same _ _ _)
    refine ⟨a.nets, a.dicts, by rw [hn, List.length_cons]; omega, fun i hi => ?_, fun x => ?_,
      List.nodup_cons.2 ⟨fun hx => by have := (hm _).1 hx; omega, a.nodup⟩, fun x hx => ?_, ?_⟩
    · rw [List.length_cons] at hi
      exact (a.frame i (by show i < h.next + 1 ∨ h.next + 1 + r.length ≤ i; omega)).trans (upd_ne _ _ _ _ (by omega))
    · show x ∈ h.next :: ids ps ↔ _
      rw [List.mem_cons, hm, List.length_cons]; omega
    · rcases List.mem_cons.1 hx with rfl | hx
      · rw [hfirst]; rfl
      · exact a.isSome x hx
    · show (nm, h1.readT h.next) :: viewParams h1 ps = _
      rw [Heap.readT, hfirst, a.view]; rfl

theorem shapesOf_paramSpecs (k : NetKind) (nv nh na : Nat) (rand : List Tok) :
    shapesOf (paramSpecs k nv nh na rand) = shapesOf (paramSpecs k nv nh na []) := by
  cases k <;> rfl

/-! ### well-formed heaps; binding a network slot to a record that owns fresh tensors keeps them so -/

/-- Well-formed heaps: ids at or above the allocation counter are unused; every parameter of every
network object is an allocated tensor; within a network object and across different network objects the
parameter tensors are pairwise different objects; parameter shapes agree with the size attributes;
dict objects have distinct keys. -/
structure HeapWF (h : Heap) : Prop where
  tens_lt : ∀ i, h.next ≤ i → h.tens i = none
  nets_lt : ∀ i, h.next ≤ i → h.nets i = none
  alloc : ∀ i net, h.nets i = some net → ∀ x ∈ ids net.params, (h.tens x).isSome
  nodup : ∀ i net, h.nets i = some net → (ids net.params).Nodup
  disj : ∀ i j ni nj, h.nets i = some ni → h.nets j = some nj → i ≠ j →
    ∀ x ∈ ids ni.params, x ∉ ids nj.params
  shapes : ∀ i net, h.nets i = some net →
    shapesOf (viewParams h net.params) = shapesOf (paramSpecs net.kind net.nv net.nh net.na [])
  dkeys : ∀ i d, h.dicts i = some d → (keys d).Nodup

theorem HeapWF.empty : HeapWF Heap.empty :=
  ⟨fun _ _ => rfl, fun _ _ => rfl, fun _ _ h => by simp [Heap.empty] at h, fun _ _ h => by simp [Heap.empty] at h,
   fun _ _ _ _ h => by simp [Heap.empty] at h, fun _ _ h => by simp [Heap.empty] at h,
   fun _ _ h => by simp [Heap.empty] at h⟩

theorem HeapWF.lt_of_isSome {h : Heap} (wf : HeapWF h) (x : ObjId) (hx : (h.tens x).isSome) : x < h.next := by
  refine Nat.lt_of_not_le (fun hc => ?_)
  have := wf.tens_lt x hc
  simp [this] at hx

theorem HeapWF.net_lt {h : Heap} (wf : HeapWF h) (i : ObjId) (hx : (h.nets i).isSome) : i < h.next := by
  refine Nat.lt_of_not_le (fun hc => ?_)
  have := wf.nets_lt i hc
  simp [this] at hx

theorem HeapWF.touches {h h' : Heap} {S : List ObjId} (wf : HeapWF h) (a : Touches h h' S) : HeapWF h' := by
  refine ⟨?_, ?_, ?_, ?_, ?_, ?_, ?_⟩
  · intro i hi
    rw [a.next] at hi
    have h1 := wf.tens_lt i hi
    have h2 := a.isSome i
    rw [h1] at h2
    simpa using h2
  · intro i hi; rw [a.nets]; rw [a.next] at hi; exact wf.nets_lt i hi
  · intro i net hn x hx; rw [a.nets] at hn; rw [a.isSome]; exact wf.alloc i net hn x hx
  · intro i net hn; rw [a.nets] at hn; exact wf.nodup i net hn
  · intro i j ni nj hi hj; rw [a.nets] at hi hj; exact wf.disj i j ni nj hi hj
  · intro i net hn; rw [a.nets] at hn; rw [shapesOf_viewParams_touches a]; exact wf.shapes i net hn
  · intro i d hd; rw [a.dicts] at hd; exact wf.dkeys i d hd

/-- Binding ANY network slot `i` to a record whose parameters are freshly allocated tensors keeps the heap
well-formed (whatever the slot held before); `nx` is the allocation counter afterwards. `allocNet` (a new slot,
counter bumped) and `initParams` (an existing slot, counter kept) are the two instances. -/
theorem Alloc.wf_bind {h h1 : Heap} {specs : SD} {ps : List (String × ObjId)} (a : Alloc h specs h1 ps)
    (wf : HeapWF h) {i nx : ObjId} {net : Net} (hp : net.params = ps)
    (hs : shapesOf specs = shapesOf (paramSpecs net.kind net.nv net.nh net.na []))
    (hnx : h1.next ≤ nx) (hi : i < nx) :
    HeapWF { h1 with nets := upd h1.nets i net, next := nx } := by
  subst hp
  have hnext := a.next
  -- the parameters of a network object of `h` are tensors of `h`, which the allocation has not touched
  have old : ∀ j n, h.nets j = some n → ∀ x ∈ ids n.params, x < h.next ∧ h1.tens x = h.tens x := fun j n hn x hx =>
    have hx' := wf.lt_of_isSome x (wf.alloc j n hn x hx)
    ⟨hx', a.frame x (Or.inl hx')⟩
  -- a network object of the new heap is `net` at `i` or an object of `h`
  have obj : ∀ {j n}, upd h1.nets i net j = some n → (j = i ∧ n = net) ∨ h.nets j = some n := fun hn =>
    (upd_eq_some hn).imp id fun hne => by rw [← a.nets]; exact hne.2
  refine ⟨fun j hj => ?_, fun j hj => ?_, fun j n hn x hx => ?_, fun j n hn => ?_,
    fun j k nj nk hj hk hjk x hx hx2 => ?_, fun j n hn => ?_, fun j d hd => wf.dkeys j d (a.dicts ▸ hd)⟩
  · have : nx ≤ j := hj
    show h1.tens j = none
    rw [a.frame j (Or.inr (by omega))]; exact wf.tens_lt j (by omega)
  · have : nx ≤ j := hj
    show upd h1.nets i net j = none
    rw [upd_ne _ _ _ _ (by omega), a.nets]; exact wf.nets_lt j (by omega)
  · show (h1.tens x).isSome
    rcases obj hn with ⟨_, rfl⟩ | hn
    · exact a.isSome x hx
    · rw [(old j n hn x hx).2]; exact wf.alloc j n hn x hx
  · rcases obj hn with ⟨_, rfl⟩ | hn
    · exact a.nodup
    · exact wf.nodup j n hn
  · rcases obj hj with ⟨rfl, rfl⟩ | hj' <;> rcases obj hk with ⟨rfl, rfl⟩ | hk'
    · exact hjk rfl
    · have := (a.mem x).1 hx; have := (old k nk hk' x hx2).1; omega
    · have := (a.mem x).1 hx2; have := (old j nj hj' x hx).1; omega
    · exact wf.disj j k nj nk hj' hk' hjk x hx hx2
  · show shapesOf (viewParams h1 n.params) = _
    rcases obj hn with ⟨_, rfl⟩ | hn
    · rw [a.view]; exact hs
    · rw [viewParams_congr fun x hx => (old j n hn x hx).2]; exact wf.shapes j n hn

/-! ### what an allocation keeps (`Extends`) and what it creates (`FreshNet`) -/

def Extends (h h' : Heap) : Prop :=
  ∀ i, (h.nets i).isSome → h'.nets i = h.nets i ∧ viewNet h' i = viewNet h i

theorem Extends.refl (h : Heap) : Extends h h := fun _ _ => ⟨rfl, rfl⟩

theorem Extends.trans {a b c : Heap} (x : Extends a b) (y : Extends b c) : Extends a c := fun i hi =>
  have ⟨n1, v1⟩ := x i hi
  have ⟨n2, v2⟩ := y i (n1 ▸ hi)
  ⟨n2.trans n1, v2.trans v1⟩

/-- `h.next ≤ x` is "`x` did not exist in `h`" (`HeapWF.tens_lt`); in particular `x` is no parameter of a network
object of `h`. -/
def FreshNet (h h' : Heap) (i : ObjId) (k : NetKind) (nv nh na : Nat) (sd : SD) : Prop :=
  ∃ ps, h'.nets i = some ⟨k, nv, nh, na, ps⟩ ∧ viewNet h' i = sd ∧ ∀ x ∈ ids ps, h.next ≤ x

theorem FreshNet.extends {h h1 h2 : Heap} {i : ObjId} {k : NetKind} {nv nh na : Nat} {sd : SD}
    (f : FreshNet h h1 i k nv nh na sd) (e : Extends h1 h2) : FreshNet h h2 i k nv nh na sd :=
  let ⟨ps, hn, hv, hx⟩ := f
  have ⟨n2, v2⟩ := e i (by rw [hn]; rfl)
  ⟨ps, n2.trans hn, v2.trans hv, hx⟩

theorem FreshNet.mono {h0 h h' : Heap} {i : ObjId} {k : NetKind} {nv nh na : Nat} {sd : SD}
    (f : FreshNet h h' i k nv nh na sd) (hle : h0.next ≤ h.next) : FreshNet h0 h' i k nv nh na sd :=
  let ⟨ps, hn, hv, hx⟩ := f
  ⟨ps, hn, hv, fun x m => Nat.le_trans hle (hx x m)⟩

theorem FreshNet.isSome {h h' : Heap} {i : ObjId} {k : NetKind} {nv nh na : Nat} {sd : SD}
    (f : FreshNet h h' i k nv nh na sd) : (h'.nets i).isSome :=
  let ⟨_, hn, _⟩ := f
  by rw [hn]; rfl

theorem Alloc.freshNet_bind {h h1 : Heap} {specs : SD} {ps : List (String × ObjId)} (a : Alloc h specs h1 ps)
    (i nx : ObjId) (k : NetKind) (nv nh na : Nat) :
    FreshNet h { h1 with nets := upd h1.nets i ⟨k, nv, nh, na, ps⟩, next := nx } i k nv nh na specs := by
  refine ⟨ps, upd_same _ _ _, ?_, fun x hx => ((a.mem x).1 hx).1⟩
  simp only [viewNet, upd_same]
  exact a.view

theorem Alloc.bind_old {h h1 : Heap} {specs : SD} {ps : List (String × ObjId)} (a : Alloc h specs h1 ps)
    (wf : HeapWF h) {i j : ObjId} (nx : ObjId) (net : Net) (hj : j ≠ i) :
    ({ h1 with nets := upd h1.nets i net, next := nx } : Heap).nets j = h.nets j ∧
    viewNet { h1 with nets := upd h1.nets i net, next := nx } j = viewNet h j := by
  have hn : upd h1.nets i net j = h.nets j := by rw [upd_ne _ _ _ _ hj, a.nets]
  exact ⟨hn, viewNet_congr hn fun n hn x hx => a.frame x (Or.inl (wf.lt_of_isSome x (wf.alloc j n hn x hx)))⟩

theorem HeapWF.allocNet {h : Heap} (wf : HeapWF h) (k : NetKind) (nv nh na : Nat) (specs : SD)
    (hs : shapesOf specs = shapesOf (paramSpecs k nv nh na [])) :
    HeapWF (allocNet h k nv nh na specs).1 :=
  (alloc_allocTensors h specs).wf_bind wf rfl hs (Nat.le_succ _) (Nat.lt_succ_self _)

theorem allocNet_id (h : Heap) (k : NetKind) (nv nh na : Nat) (specs : SD) :
    h.next ≤ (allocNet h k nv nh na specs).2 ∧
    (allocNet h k nv nh na specs).1.next = (allocNet h k nv nh na specs).2 + 1 :=
  ⟨by show h.next ≤ (allocTensors h specs).1.next; rw [(alloc_allocTensors h specs).next]; omega, rfl⟩

theorem freshNet_allocNet (h : Heap) (k : NetKind) (nv nh na : Nat) (specs : SD) :
    FreshNet h (allocNet h k nv nh na specs).1 (allocNet h k nv nh na specs).2 k nv nh na specs :=
  (alloc_allocTensors h specs).freshNet_bind _ _ k nv nh na

theorem extends_allocNet {h : Heap} (wf : HeapWF h) (k : NetKind) (nv nh na : Nat) (specs : SD) :
    Extends h (allocNet h k nv nh na specs).1 := fun i hi =>
  (alloc_allocTensors h specs).bind_old wf _ _
    (by have := wf.net_lt i hi; have := (alloc_allocTensors h specs).next; omega)

theorem viewNet_allocNet (h : Heap) (k : NetKind) (nv nh na : Nat) (specs : SD) :
    viewNet (allocNet h k nv nh na specs).1 (allocNet h k nv nh na specs).2 = specs :=
  let ⟨_, _, hv, _⟩ := freshNet_allocNet h k nv nh na specs
  hv

theorem HeapWF.newNet {h : Heap} (wf : HeapWF h) (k : NetKind) (nv : Nat) (nh na : Option Nat) (rand : List Tok) :
    HeapWF (newNet h k nv nh na rand).1 :=
  wf.allocNet _ _ _ _ _ (shapesOf_paramSpecs _ _ _ _ _)

theorem HeapWF.initParams {h : Heap} (wf : HeapWF h) (id : Nat) (rand : List Tok) :
    HeapWF (initParams h id rand) := by
  unfold QV.Store.initParams
  cases hn : h.nets id with
  | none => exact wf
  | some net =>
    exact (alloc_allocTensors h _).wf_bind wf rfl (shapesOf_paramSpecs _ _ _ _ _) (Nat.le_refl _)
      (by have := wf.net_lt id (by rw [hn]; rfl)
          have := (alloc_allocTensors h (paramSpecs net.kind net.nv net.nh net.na rand)).next
          omega)

theorem freshNet_initParams (h : Heap) (id : Nat) (rand : List Tok) (net : Net) (hn : h.nets id = some net) :
    FreshNet h (initParams h id rand) id net.kind net.nv net.nh net.na
      (paramSpecs net.kind net.nv net.nh net.na rand) := by
  simp only [QV.Store.initParams, hn]
  exact (alloc_allocTensors h _).freshNet_bind id _ _ _ _ _

theorem initParams_old {h : Heap} (wf : HeapWF h) (id : Nat) (rand : List Tok) (i : Nat) (hne : i ≠ id) :
    (initParams h id rand).nets i = h.nets i ∧ viewNet (initParams h id rand) i = viewNet h i := by
  unfold QV.Store.initParams
  cases h.nets id with
  | none => exact ⟨rfl, rfl⟩
  | some net => exact (alloc_allocTensors h _).bind_old wf _ _ hne

theorem initParams_next (h : Heap) (id : Nat) (rand : List Tok) : h.next ≤ (initParams h id rand).next := by
  unfold QV.Store.initParams
  cases h.nets id with
  | none => exact Nat.le_refl _
  | some net => show h.next ≤ (allocTensors h _).1.next; rw [(alloc_allocTensors h _).next]; omega

def NetsGrow (h h' : Heap) : Prop := ∀ i, (h.nets i).isSome → (h'.nets i).isSome

theorem NetsGrow.refl (h : Heap) : NetsGrow h h := fun _ x => x
theorem NetsGrow.trans {a b c : Heap} (x : NetsGrow a b) (y : NetsGrow b c) : NetsGrow a c :=
  fun i hi => y i (x i hi)
theorem Touches.netsGrow {h h' : Heap} {S : List Nat} (a : Touches h h' S) : NetsGrow h h' := by
  intro i hi; rw [a.nets]; exact hi

theorem Extends.netsGrow {h h' : Heap} (a : Extends h h') : NetsGrow h h' := fun i hi => (a i hi).1 ▸ hi

theorem netsGrow_initParams {h : Heap} (wf : HeapWF h) (id : Nat) (rand : List Tok) :
    NetsGrow h (initParams h id rand) := by
  intro i hi
  by_cases h1 : i = id
  · subst h1
    cases hn : h.nets i with
    | none => rw [hn] at hi; cases hi
    | some net => exact (freshNet_initParams h i rand net hn).isSome
  · rw [(initParams_old wf id rand i h1).1]; exact hi

/-! ### well-formed worlds -/

/-- Well-formed worlds: a well-formed heap; every state's networks are existing, pairwise different
network objects under pairwise different names, none of them `unitary_dict` (the key under which `save` stores the
dictionary next to the networks' entries); module variables point to existing network objects. -/
structure WorldWF (w : World) : Prop where
  heap : HeapWF w.heap
  st_nets : ∀ s st, w.states s = some st → ∀ p ∈ st.nets, (w.heap.nets p.2).isSome
  st_ids : ∀ s st, w.states s = some st → (ids st.nets).Nodup
  st_names : ∀ s st, w.states s = some st → (keys st.nets).Nodup
  mods : ∀ s id, w.modules s = some id → (w.heap.nets id).isSome
  st_noud : ∀ s st, w.states s = some st → ∀ p ∈ st.nets, p.1 ≠ "unitary_dict"

theorem WorldWF.empty : WorldWF World.empty :=
  ⟨HeapWF.empty, fun _ _ h => by simp [World.empty] at h, fun _ _ h => by simp [World.empty] at h,
   fun _ _ h => by simp [World.empty] at h, fun _ _ h => by simp [World.empty] at h,
   fun _ _ h => by simp [World.empty] at h⟩

/-- a state record that may be bound to a caller variable in heap `h` -/
structure StateOK (h : Heap) (st : NState) : Prop where
  nets : ∀ p ∈ st.nets, (h.nets p.2).isSome
  idsNodup : (ids st.nets).Nodup
  names : (keys st.nets).Nodup
  noUD : ∀ p ∈ st.nets, p.1 ≠ "unitary_dict"

theorem StateOK.grow {h h' : Heap} {st : NState} (a : StateOK h st) (g : NetsGrow h h') : StateOK h' st :=
  ⟨fun p hp => g _ (a.nets p hp), a.idsNodup, a.names, a.noUD⟩

theorem WorldWF.stateOK {w : World} (wf : WorldWF w) {s : Nat} {st : NState} (hs : w.states s = some st) :
    StateOK w.heap st := ⟨wf.st_nets s st hs, wf.st_ids s st hs, wf.st_names s st hs, wf.st_noud s st hs⟩

/-- the general shape of a step: a new well-formed heap in which no network disappeared, possibly one
state variable and one module variable rebound, any change to metadata variables and files -/
theorem WorldWF.update {w : World} (wf : WorldWF w) (h' : Heap) (hwf : HeapWF h') (g : NetsGrow w.heap h')
    (states' : Nat → Option NState) (modules' : Nat → Option Nat) (metas' : Nat → Option Nat) (files' : Files)
    (hst : ∀ s st, states' s = some st → w.states s = some st ∨ StateOK h' st)
    (hmod : ∀ s id, modules' s = some id → w.modules s = some id ∨ (h'.nets id).isSome) :
    WorldWF ⟨h', states', modules', metas', files'⟩ := by
  have key : ∀ s st, states' s = some st → StateOK h' st := by
    intro s st hs
    rcases hst s st hs with h1 | h1
    · exact (wf.stateOK h1).grow g
    · exact h1
  refine ⟨hwf, fun s st hs => (key s st hs).nets, fun s st hs => (key s st hs).idsNodup,
    fun s st hs => (key s st hs).names, ?_, fun s st hs => (key s st hs).noUD⟩
  intro s id hm
  rcases hmod s id hm with h1 | h1
  · exact g _ (wf.mods s id h1)
  · exact h1

theorem StateOK.of_nets {h : Heap} {st st' : NState} (a : StateOK h st) (hn : st'.nets = st.nets) : StateOK h st' :=
  ⟨by rw [hn]; exact a.nets, by rw [hn]; exact a.idsNodup, by rw [hn]; exact a.names, by rw [hn]; exact a.noUD⟩

/-- in-place writes after which a record has the same networks: what a `load` does to the receiving state -/
theorem StateOK.touches {h0 h h' : Heap} {S : List Nat} {st st' : NState} (ok : StateOK h st) (wf : HeapWF h)
    (g : NetsGrow h0 h) (t : Touches h h' S) (hn : st'.nets = st.nets) :
    HeapWF h' ∧ NetsGrow h0 h' ∧ StateOK h' st' :=
  ⟨wf.touches t, g.trans t.netsGrow, (ok.grow t.netsGrow).of_nets hn⟩

theorem WorldWF.setHeap {w : World} (wf : WorldWF w) {h' : Heap} (g : HeapWF h' ∧ NetsGrow w.heap h')
    (files' : Files) : WorldWF ⟨h', w.states, w.modules, w.metas, files'⟩ :=
  wf.update h' g.1 g.2 _ _ _ _ (fun _ _ hs => Or.inl hs) (fun _ _ hm => Or.inl hm)

theorem WorldWF.bindState {w : World} (wf : WorldWF w) {h' : Heap} (slot : Nat) {st : NState}
    (g : HeapWF h' ∧ NetsGrow w.heap h' ∧ StateOK h' st) :
    WorldWF ⟨h', upd w.states slot st, w.modules, w.metas, w.files⟩ :=
  wf.update h' g.1 g.2.1 _ _ _ _
    (fun _ _ hs => (upd_eq_some hs).elim (fun e => Or.inr (e.2 ▸ g.2.2)) (fun e => Or.inl e.2))
    (fun _ _ hm => Or.inl hm)

/-- names of `self.networks` per state type -/
def netNames : Kind → List String
  | .pos => ["rbm_am"]
  | _ => ["rbm_am", "rbm_ph"]

theorem netNames_ok (kind : Kind) : (netNames kind).Nodup ∧ "unitary_dict" ∉ netNames kind := by
  cases kind <;> decide

theorem StateOK.ofNames {h : Heap} {st : NState} (kind : Kind) (hn : st.nets.map Prod.fst = netNames kind)
    (hex : ∀ p ∈ st.nets, (h.nets p.2).isSome) (hnd : (ids st.nets).Nodup) : StateOK h st :=
  ⟨hex, hnd, by unfold keys; rw [hn]; exact (netNames_ok kind).1, fun p hp e =>
    (netNames_ok kind).2 (hn ▸ e ▸ List.mem_map_of_mem hp)⟩

/-! ### the constructors allocate the networks of a state one after the other -/

/-- `constructSizes` for an arbitrary list of network names (`constructSizes_eq`), so that its three branches are
instances of one induction; `j` is the offset into `rand` the induction moves. -/
def allocNets (h : Heap) (k : NetKind) (nv : Nat) (nh na : Option Nat) (rand : List (List Tok)) :
    Nat → List String → Heap × List (String × ObjId)
  | _, [] => (h, [])
  | j, nm :: rest =>
    let r := newNet h k nv nh na (rand.getD j [])
    let s := allocNets r.1 k nv nh na rand (j + 1) rest
    (s.1, (nm, r.2) :: s.2)

theorem constructSizes_eq (h : Heap) (kind : Kind) (nv : Nat) (nh na : Option Nat)
    (ud : Option (List (String × Tok))) (rand : List (List Tok)) :
    (constructSizes h kind nv nh na ud rand).1 = (allocNets h (netKindOf kind) nv nh na rand 0 (netNames kind)).1 ∧
    (constructSizes h kind nv nh na ud rand).2.nets
      = (allocNets h (netKindOf kind) nv nh na rand 0 (netNames kind)).2 := by
  cases kind <;> exact ⟨rfl, rfl⟩

theorem newNet_spec {h : Heap} (wf : HeapWF h) (k : NetKind) (nv : Nat) (nh na : Option Nat) (rand : List Tok) :
    let r := newNet h k nv nh na rand
    HeapWF r.1 ∧ Extends h r.1 ∧ h.next ≤ r.2 ∧ r.1.next = r.2 + 1 ∧
    FreshNet h r.1 r.2 k nv (defaultH k nv nh) (defaultA k nv na)
      (paramSpecs k nv (defaultH k nv nh) (defaultA k nv na) rand) :=
  ⟨wf.newNet k nv nh na rand, extends_allocNet wf _ _ _ _ _, (allocNet_id h _ _ _ _ _).1, (allocNet_id h _ _ _ _ _).2,
   freshNet_allocNet h _ _ _ _ _⟩

theorem allocNets_spec {h : Heap} (wf : HeapWF h) (k : NetKind) (nv : Nat) (nh na : Option Nat)
    (rand : List (List Tok)) (j : Nat) (names : List String) :
    let s := allocNets h k nv nh na rand j names
    HeapWF s.1 ∧ Extends h s.1 ∧ h.next ≤ s.1.next ∧ s.2.map Prod.fst = names ∧ (ids s.2).Nodup ∧
    ∀ i p, s.2[i]? = some p → h.next ≤ p.2 ∧ p.2 < s.1.next ∧
      FreshNet h s.1 p.2 k nv (defaultH k nv nh) (defaultA k nv na)
        (paramSpecs k nv (defaultH k nv nh) (defaultA k nv na) (rand.getD (j + i) [])) := by
  induction names generalizing h j with
  | nil => exact ⟨wf, Extends.refl h, Nat.le_refl _, rfl, List.nodup_nil, fun i p hp => by cases hp⟩
  | cons nm rest ih =>
    obtain ⟨w1, e1, i1, i2, f1⟩ := newNet_spec wf k nv nh na (rand.getD j [])
    obtain ⟨w2, e2, n2, m2, d2, s2⟩ := ih w1 (j + 1)
    simp only [allocNets]
    refine ⟨w2, e1.trans e2, by omega, congrArg (nm :: ·) m2, List.nodup_cons.2 ⟨fun hm => ?_, d2⟩, fun i p hp => ?_⟩
    · obtain ⟨p, hp, he⟩ := List.mem_map.1 hm
      obtain ⟨i, hi⟩ := List.getElem?_of_mem hp
      have := (s2 i p hi).1
      omega
    · cases i with
      | zero =>
        cases hp
        exact ⟨i1, by omega, f1.extends e2⟩
      | succ i =>
        obtain ⟨a, b, c⟩ := s2 i p hp
        rw [show j + 1 + i = j + (i + 1) by omega] at c
        exact ⟨by omega, b, c.mono (by omega)⟩

theorem constructSizes_wf {h : Heap} (wf : HeapWF h) (kind : Kind) (nv : Nat) (nh na : Option Nat)
    (ud : Option (List (String × Tok))) (rand : List (List Tok)) :
    let r := constructSizes h kind nv nh na ud rand
    HeapWF r.1 ∧ NetsGrow h r.1 ∧ StateOK r.1 r.2 := by
  obtain ⟨e1, e2⟩ := constructSizes_eq h kind nv nh na ud rand
  obtain ⟨a, b, _, c, d, f⟩ := allocNets_spec wf (netKindOf kind) nv nh na rand 0 (netNames kind)
  rw [← e1] at a b f
  rw [← e2] at c d f
  refine ⟨a, b.netsGrow, StateOK.ofNames kind c (fun p hp => ?_) d⟩
  obtain ⟨i, hi⟩ := List.getElem?_of_mem hp
  exact (f i p hi).2.2.isSome

theorem deepcopyNet_spec {h : Heap} (wf : HeapWF h) (id : Nat) (m : Net) (hm : h.nets id = some m) :
    HeapWF (deepcopyNet h id).1 ∧ Extends h (deepcopyNet h id).1 ∧ h.next ≤ (deepcopyNet h id).2 ∧
    FreshNet h (deepcopyNet h id).1 (deepcopyNet h id).2 m.kind m.nv m.nh m.na (viewNet h id) := by
  simp only [QV.Store.deepcopyNet, viewNet, hm]
  exact ⟨wf.allocNet _ _ _ _ _ (wf.shapes id m hm), extends_allocNet wf _ _ _ _ _, (allocNet_id h _ _ _ _ _).1,
    freshNet_allocNet h _ _ _ _ _⟩

theorem constructFrom_wf {h : Heap} (wf : HeapWF h) (kind : Kind) (mid : Nat)
    (ud : Option (List (String × Tok))) (h' : Heap) (st : NState)
    (hc : constructFrom h kind mid ud = .ok (h', st)) :
    HeapWF h' ∧ NetsGrow h h' ∧ StateOK h' st := by
  unfold constructFrom at hc
  cases hn : h.nets mid with
  | none => simp [hn] at hc
  | some m =>
    simp only [hn] at hc
    have hmid : mid < h.next := wf.net_lt mid (by rw [hn]; rfl)
    have hsome : (h.nets mid).isSome := by rw [hn]; rfl
    obtain ⟨c1, c2, c3, c4⟩ := deepcopyNet_spec wf mid m hn
    -- amplitude network = the module, phase network = its copy: two existing, different objects
    have two : ∀ st : NState, st.nets = [("rbm_am", mid), ("rbm_ph", (deepcopyNet h mid).2)] →
        st.nets.map Prod.fst = netNames kind → StateOK (deepcopyNet h mid).1 st := fun st e hk =>
      StateOK.ofNames kind hk
        (by rw [e]; exact List.forall_mem_cons.2 ⟨c2.netsGrow mid hsome, List.forall_mem_cons.2 ⟨c4.isSome, nofun⟩⟩)
        (by rw [e]; exact List.nodup_cons.2 ⟨fun hm => by have := List.mem_singleton.1 hm; omega, List.pairwise_singleton _ _⟩)
    cases kind with
    | pos =>
      cases hc
      exact ⟨wf, NetsGrow.refl _, StateOK.ofNames .pos rfl (List.forall_mem_cons.2 ⟨hsome, nofun⟩)
        (List.pairwise_singleton _ _)⟩
    | cplx =>
      cases hc
      exact ⟨c1, c2.netsGrow, two _ rfl rfl⟩
    | dens =>
      cases hk : m.kind with
      | binary => simp [hk] at hc
      | purif =>
        simp only [hk] at hc
        cases hc
        exact ⟨c1, c2.netsGrow, two _ rfl rfl⟩

theorem reinit_wf {h : Heap} (wf : HeapWF h) (nets : List (String × Nat)) (rand : List (List Tok)) :
    HeapWF (reinit h nets rand) ∧ NetsGrow h (reinit h nets rand) := by
  induction nets generalizing h rand with
  | nil => exact ⟨wf, NetsGrow.refl _⟩
  | cons p r ih =>
    obtain ⟨a, b⟩ := ih (wf.initParams p.2 (rand.headD [])) rand.tail
    exact ⟨a, (netsGrow_initParams wf p.2 _).trans b⟩

/-! ### `save` in closed form

The only heap write of `saveWith` goes into `callerObj`, which is `none` when the metadata is copied (`copyMd = true`):
`save` returns the heap it was given, and whether it raises depends on the state and the metadata alone. -/

/-- the file `save` writes -/
def savedFile (h : Heap) (st : NState) (e0 : MDict) : File :=
  pickle h (aupdate (stateDicts h st.nets) ((saveMeta st e0).map (fun kv => (kv.1, DVal.val kv.2))))

/-- the error `save` raises, if any: decided by the state and the metadata alone, in the code's order (reserved
`unitary_dict`, reserved network name, non-string key) -/
def saveErr (h : Heap) (st : NState) (md : Option Nat) : Option SErr :=
  if st.ud.isSome && ahas (mdEntries h md) (.str "unitary_dict") then some .ValueError
  else if st.nets.any (fun p => ahas (saveMeta st (mdEntries h md)) (.str p.1)) then some .ValueError
  else if (saveMeta st (mdEntries h md)).any (fun kv => !isStrKey kv.1) then some .TypeError
  else none

/-- a test that raises in front of a computation whose error is `y` -/
theorem ite_error_eq {α : Type} (c : Prop) [Decidable c] (e : SErr) (x : Except SErr α) (y : Option SErr) (z : α)
    (hx : x = match y with | some e => .error e | none => .ok z) :
    (if c then .error e else x) = match (if c then some e else y) with | some e => .error e | none => .ok z := by
  split
  · rfl
  · exact hx

theorem save_eq (h : Heap) (fs : Files) (st : NState) (md : Option Nat) (path : Nat) :
    save h fs st md path = match saveErr h st md with
      | some e => .error e
      | none => .ok (upd fs path (savedFile h st (mdEntries h md)), h) := by
  unfold save saveWith saveErr
  simp only [Bool.true_or, if_true, savedFile]
  exact ite_error_eq _ _ _ _ _ (ite_error_eq _ _ _ _ _ (ite_error_eq _ _ _ _ _ (by cases st.ud <;> rfl)))

theorem save_heap (h : Heap) (fs : Files) (st : NState) (md : Option Nat) (path : Nat)
    (fs' : Files) (h' : Heap) (hs : save h fs st md path = .ok (fs', h')) : h' = h := by
  rw [save_eq] at hs
  split at hs
  · cases hs
  · cases hs; rfl

/-! ### every operation preserves the invariant -/

theorem HeapWF.touches_grows {h h' : Heap} {S : List Nat} (wf : HeapWF h) (t : Touches h h' S) :
    HeapWF h' ∧ NetsGrow h h' :=
  ⟨wf.touches t, t.netsGrow⟩

theorem writeNet_wf {h : Heap} (wf : HeapWF h) (id : Nat) (toks : List Tok) :
    HeapWF (writeNet h id toks) ∧ NetsGrow h (writeNet h id toks) := by
  unfold writeNet
  cases h.nets id with
  | none => exact ⟨wf, NetsGrow.refl _⟩
  | some net => exact wf.touches_grows (touches_writeParams h net.params toks)

theorem fit_wf {h : Heap} (wf : HeapWF h) (st : NState) (bases : Bool) (toks : List (List Tok)) (h' : Heap)
    (hf : fit h st bases toks = .ok h') : HeapWF h' ∧ NetsGrow h h' := by
  unfold fit at hf
  split at hf
  · cases hf
  · cases hf; exact wf.touches_grows (touches_trainNets h st.kind st.nets toks)

theorem mkDict_nodup (es : MDict) : (keys (mkDict es)).Nodup :=
  nodup_keys_aupdate [] es (by simp [keys])

theorem HeapWF.allocDict {h : Heap} (wf : HeapWF h) (d : MDict) (hd : (keys d).Nodup) :
    HeapWF { h with dicts := upd h.dicts h.next d, next := h.next + 1 } := by
  refine ⟨?_, ?_, wf.alloc, wf.nodup, wf.disj, wf.shapes, ?_⟩
  · intro i hi; exact wf.tens_lt i (by dsimp only at hi; omega)
  · intro i hi; exact wf.nets_lt i (by dsimp only at hi; omega)
  · intro i d' hd'
    dsimp only at hd'
    rcases upd_eq_some hd' with ⟨_, rfl⟩ | ⟨_, h1⟩
    · exact hd
    · exact wf.dkeys i d' h1

/-- `ModelSaver._save` returns the heap it was given, with the dict a callable produced allocated in it -/
theorem saverSave_wf {h : Heap} (wf : HeapWF h) (fs : Files) (st : NState) (sm : SaverMeta) (mo : Bool)
    (path : Nat) (fs' : Files) (h' : Heap) (hd : ∀ es, sm = .callable es → (keys es).Nodup)
    (hs : saverSave h fs st sm mo path = .ok (fs', h')) : HeapWF h' ∧ NetsGrow h h' := by
  unfold saverSave at hs
  have hh : h' = (match sm with
      | .absent => (h, none)
      | .dict id => (h, some id)
      | .callable es => ({ h with dicts := upd h.dicts h.next es, next := h.next + 1 }, some h.next)).1 := by
    cases mo with
    | true => rw [if_pos rfl] at hs; cases hs; rfl
    | false => rw [if_neg Bool.false_ne_true] at hs; exact save_heap _ _ _ _ _ _ _ hs
  subst hh
  cases sm with
  | absent => exact ⟨wf, NetsGrow.refl _⟩
  | dict id => exact ⟨wf, NetsGrow.refl _⟩
  | callable es => exact ⟨wf.allocDict es (hd es rfl), fun _ hi => hi⟩

theorem load_touches (h : Heap) (fs : Files) (st : NState) (path : Nat) :
    Touches h (load h fs st path).1 (netsIds h st.nets) ∧ (load h fs st path).2.1.nets = st.nets := by
  unfold load
  cases fs path with
  | none => exact ⟨Touches.refl _ _, rfl⟩
  | some file =>
    have t := touches_loadNets h file st.nets
    dsimp only
    split
    · exact ⟨t, rfl⟩
    · split <;> exact ⟨t, rfl⟩

theorem autoload_wf {h : Heap} (wf : HeapWF h) (fs : Files) (kind : Kind) (path : Nat) (rand : List (List Tok))
    (h' : Heap) (st : NState) (ha : autoload h fs kind path rand = .ok (h', st)) :
    HeapWF h' ∧ NetsGrow h h' ∧ StateOK h' st := by
  unfold autoload at ha
  cases hf : fs path with
  | none => simp [hf] at ha
  | some file =>
    simp only [hf] at ha
    cases hargs : autoloadArgs file kind with
    | error e => simp [hargs] at ha
    | ok args =>
      obtain ⟨ud, nv, nh, na⟩ := args
      simp only [hargs] at ha
      obtain ⟨c1, c2, c3⟩ := constructSizes_wf wf kind nv (some nh) na ud rand
      split at ha
      · cases ha
      · cases ha
        exact c3.touches c1 c2 (load_touches _ _ _ _).1 (load_touches _ _ _ _).2

theorem step_wf (w : World) (wf : WorldWF w) (op : Op) : WorldWF (step w op).1 := by
  cases op with
  | construct slot kind nv nh na ud rand => exact wf.bindState slot (constructSizes_wf wf.heap kind nv nh na ud rand)
  | mkModule mslot k nv nh na zw rand =>
    obtain ⟨a, b, _, _, f⟩ := newNet_spec wf.heap k nv nh na (weightToks zw rand)
    exact wf.update _ a b.netsGrow _ _ _ _ (fun _ _ hs => Or.inl hs)
      (fun _ _ hm => (upd_eq_some hm).elim (fun e => Or.inr (e.2 ▸ f.isSome)) (fun e => Or.inl e.2))
  | initModule mslot zw rand =>
    dsimp only [step]
    split
    · exact wf
    · exact wf.setHeap ⟨wf.heap.initParams _ _, netsGrow_initParams wf.heap _ _⟩ _
  | constructFrom slot kind mslot ud =>
    dsimp only [step]
    split
    · exact wf
    · split
      · exact wf
      · rename_i r hc
        exact wf.bindState slot (constructFrom_wf wf.heap kind _ ud r.1 r.2 hc)
  | write slot net toks =>
    dsimp only [step]
    split
    · exact wf
    · split
      · exact wf
      · exact wf.setHeap (writeNet_wf wf.heap _ toks) _
  | writeModule mslot toks =>
    dsimp only [step]
    split
    · exact wf
    · exact wf.setHeap (writeNet_wf wf.heap _ toks) _
  | train slot bases toks =>
    dsimp only [step]
    split
    · exact wf
    · split
      · exact wf
      · rename_i h' hf
        exact wf.setHeap (fit_wf wf.heap _ bases toks h' hf) _
  | reinit slot rand =>
    dsimp only [step]
    split
    · exact wf
    · exact wf.setHeap (reinit_wf wf.heap _ rand) _
  | addUnitary slot name tok =>
    dsimp only [step]
    split
    · exact wf
    · rename_i st hs
      split
      · exact wf.bindState slot ⟨wf.heap, NetsGrow.refl _, (wf.stateOK hs).of_nets rfl⟩
      · exact wf
      · exact wf
  | mkMeta mdslot entries =>
    exact wf.update _ (wf.heap.allocDict _ (mkDict_nodup entries)) (fun i hi => hi) _ _ _ _
      (fun _ _ hs => Or.inl hs) (fun _ _ hm => Or.inl hm)
  | save slot md path =>
    dsimp only [step]
    split
    · exact wf
    · split
      · exact wf
      · split
        · exact wf
        · rename_i r hsv
          have hh := save_heap _ _ _ _ _ r.1 r.2 hsv
          rw [hh]
          exact wf.setHeap ⟨wf.heap, NetsGrow.refl _⟩ _
  | saverSave slot src mo path =>
    dsimp only [step]
    split
    · exact wf
    · split
      · exact wf
      · rename_i sm hsm
        split
        · exact wf
        · rename_i r hsv
          -- a callable's dict was made by `mkDict`: its keys are distinct
          refine wf.setHeap (saverSave_wf wf.heap _ _ sm mo path r.1 r.2 ?_ hsv) _
          rintro es rfl
          cases src with
          | absent => cases hsm
          | dict s => dsimp only at hsm; split at hsm <;> cases hsm
          | callable es' => cases hsm; exact mkDict_nodup es'
  | load slot path =>
    dsimp only [step]
    split
    · exact wf
    · rename_i st hs
      exact wf.bindState slot ((wf.stateOK hs).touches wf.heap (NetsGrow.refl _) (load_touches w.heap w.files st path).1
        (load_touches w.heap w.files st path).2)
  | autoload slot kind path rand =>
    dsimp only [step]
    split
    · exact wf
    · rename_i r ha
      exact wf.bindState slot (autoload_wf wf.heap _ _ _ _ r.1 r.2 ha)

theorem run_wf (w : World) (wf : WorldWF w) (ops : List Op) : WorldWF (run w ops) := by
  induction ops generalizing w with
  | nil => exact wf
  | cons op r ih => exact ih _ (step_wf w wf op)

end QV.Store
