/-
QV.Lemmas.CallShape — helper lemmas for the call-form theorems of C01 / C02 / C05: torch broadcasting of the
small leading shapes that occur (`[]`, `[B]`, `[B,1]`, `[1,B']`), the index each operand reads, and the decorator
`auto_unsqueeze_args` on 1-D / 2-D arguments.

`Yields r t` says that a call `r` is accepted and returns the shape and, inside that shape, the entries of the tensor `t`; the
call-form statements are all of this kind. `gamma` and `pi` share the skeleton `FT.outer` (unsqueeze either side, combine
entrywise under broadcasting); which rows it pairs is proved once, for an arbitrary entry function, and `rho` is assembled from
the `Yields` facts of its three factors.

`CallFormsAgree f core` is the specification of "vector and batched call forms" for a method of one tensor argument. It holds for
the decorated row-wise methods (`callFormsAgree_map`) and is closed under elementwise post-processing and broadcasting combination
(`CallFormsAgree.map`, `.bzip`); C01 obtains it for every evaluation method of the wavefunction states from these three rules,
C05 for the conditional probabilities from the first.
-/
import QV.Model.CallShape
import QV.Model.Density

namespace QV
open Cplx

theorem bdim_self (B : Nat) : bdim B B = some B := if_pos rfl
theorem bdim_one_right (B : Nat) : bdim B 1 = some B := by
  unfold bdim; repeat' split <;> simp_all
theorem bdim_one_left (B : Nat) : bdim 1 B = some B := by
  unfold bdim; repeat' split <;> simp_all

theorem bs_nil_nil : broadcastShape [] [] = .ok [] := rfl
theorem bs_nil_one (B : Nat) : broadcastShape [] [B] = .ok [B] := by
  simp [broadcastShape, padL, bshapeEq, bdim_one_left]
theorem bs_one_nil (B : Nat) : broadcastShape [B] [] = .ok [B] := by
  simp [broadcastShape, padL, bshapeEq, bdim_one_right]
theorem bs_same (s : List Nat) : broadcastShape s s = .ok s := by
  have h : ∀ s : List Nat, bshapeEq s s = some s := by
    intro s; induction s with
    | nil => simp [bshapeEq]
    | cons d s ih => simp [bshapeEq, bdim_self, ih]
  simp [broadcastShape, padL, h]
theorem bs_col_row (B B' : Nat) : broadcastShape [B, 1] [1, B'] = .ok [B, B'] := by
  simp [broadcastShape, padL, bshapeEq, bdim_one_left, bdim_one_right]
theorem bs_col_one (B : Nat) : broadcastShape [B, 1] [1] = .ok [B, 1] := by
  simp [broadcastShape, padL, bshapeEq, bdim_one_right]
theorem bs_nil_two (B B' : Nat) : broadcastShape [] [B, B'] = .ok [B, B'] := by
  simp [broadcastShape, padL, bshapeEq, bdim_one_left]
theorem bs_two_nil (B B' : Nat) : broadcastShape [B, B'] [] = .ok [B, B'] := by
  simp [broadcastShape, padL, bshapeEq, bdim_one_right]
theorem bs_one_one {B B' d : Nat} (h : bdim B B' = some d) : broadcastShape [B] [B'] = .ok [d] := by
  simp [broadcastShape, padL, bshapeEq, h]

/-- The `if` is one coordinate of `Cplx.bidx` (a size-1 axis is read at position 0). Inside the result shape it is the identity,
also when `B = 1`: then `i = 0`. -/
theorem bsel_lt {B i : Nat} (hi : i < B) : (if B = 1 then 0 else i) = i := by
  split
  · omega
  · rfl

/-- the multi-index `idx` lies inside the shape `s` (same length, every coordinate below its axis length) -/
def InRange : List Nat → List Nat → Prop
  | [], [] => True
  | i :: idx, d :: s => i < d ∧ InRange idx s
  | _, _ => False

theorem InRange.length_eq : ∀ {idx s : List Nat}, InRange idx s → idx.length = s.length
  | [], [], _ => rfl
  | _ :: _, _ :: _, h => by simp [InRange.length_eq h.2]
  | [], _ :: _, h => h.elim
  | _ :: _, [], h => h.elim

theorem forall_inRange_nil {P : List Nat → Prop} : (∀ idx, InRange idx [] → P idx) ↔ P [] :=
  ⟨fun h => h [] trivial, fun h idx hin => by
    cases idx with
    | nil => exact h
    | cons _ _ => exact hin.elim⟩

theorem forall_inRange_cons {P : List Nat → Prop} {d : Nat} {s : List Nat} :
    (∀ idx, InRange idx (d :: s) → P idx) ↔ ∀ i, i < d → ∀ idx, InRange idx s → P (i :: idx) :=
  ⟨fun h i hi idx hin => h (i :: idx) ⟨hi, hin⟩, fun h idx hin => by
    cases idx with
    | nil => exact hin.elim
    | cons i idx => exact h i hin.1 idx hin.2⟩

theorem bidx_inrange {s idx : List Nat} (hin : InRange idx s) : bidx s idx = idx := by
  have hl : idx.length = s.length := hin.length_eq
  unfold bidx
  rw [hl, Nat.sub_self, List.drop_zero]
  induction idx generalizing s with
  | nil => cases s <;> simp_all
  | cons i idx ih =>
    cases s with
    | nil => exact hin.elim
    | cons d s =>
      rw [List.zipWith_cons_cons, ih hin.2 (by simpa using hl), bsel_lt hin.1]

variable {β γ δ : Type}

namespace FT
theorem bzip_ok {g : β → γ → δ} {x : FT β} {y : FT γ} {s : List Nat} (h : broadcastShape x.shape y.shape = .ok s) :
    FT.bzip g x y = .ok ⟨s, fun idx => g (x.get (bidx x.shape idx)) (y.get (bidx y.shape idx))⟩ := by
  rw [bzip, h]
end FT

/-- the call `r` is accepted and returns a tensor with the shape of `t` and, at every multi-index inside that shape, the entry of `t` -/
def Yields (r : Except PyErr (FT β)) (t : FT β) : Prop :=
  ∃ o, r = .ok o ∧ o.shape = t.shape ∧ ∀ idx, InRange idx t.shape → o.get idx = t.get idx

theorem yields_ok (t : FT β) : Yields (.ok t) t := ⟨t, rfl, rfl, fun _ _ => rfl⟩

namespace Yields
variable {r : Except PyErr (FT β)}

theorem scalar {x : β} (h : Yields r (.scalar x)) : ∃ o, r = .ok o ∧ o.shape = [] ∧ o.get [] = x :=
  let ⟨o, ho, hs, hg⟩ := h
  ⟨o, ho, hs, hg [] trivial⟩

theorem ofRows {B : Nat} {g : Nat → β} (h : Yields r (.ofRows B g)) :
    ∃ o, r = .ok o ∧ o.shape = [B] ∧ ∀ i, i < B → o.get [i] = g i :=
  let ⟨o, ho, hs, hg⟩ := h
  ⟨o, ho, hs, fun i hi => hg [i] ⟨hi, trivial⟩⟩

theorem ofRows2 {B B' : Nat} {g : Nat → Nat → β} (h : Yields r (.ofRows2 B B' g)) :
    ∃ o, r = .ok o ∧ o.shape = [B, B'] ∧ ∀ i j, i < B → j < B' → o.get [i, j] = g i j :=
  let ⟨o, ho, hs, hg⟩ := h
  ⟨o, ho, hs, fun i j hi hj => hg [i, j] ⟨hi, hj, trivial⟩⟩

theorem map {t : FT β} (h : Yields r t) (k : β → γ) : Yields (r.map (FT.map k)) (t.map k) :=
  let ⟨o, ho, hs, hg⟩ := h
  ⟨o.map k, by rw [ho]; rfl, hs, fun idx hin => congrArg k (hg idx hin)⟩

theorem bzip {t : FT β} {r' : Except PyErr (FT γ)} {t' : FT γ} (h : Yields r t) (h' : Yields r' t') (hs : t'.shape = t.shape)
    (g : β → γ → δ) : Yields (FT.bzipE g r r') ⟨t.shape, fun idx => g (t.get idx) (t'.get idx)⟩ := by
  obtain ⟨o, rfl, so, ho⟩ := h
  obtain ⟨o', rfl, so', ho'⟩ := h'
  refine ⟨_, FT.bzip_ok (by rw [so, so', hs]; exact bs_same _), rfl, fun idx hin => ?_⟩
  show g (o.get (bidx o.shape idx)) (o'.get (bidx o'.shape idx)) = _
  rw [so, so', hs, bidx_inrange hin, ho idx hin, ho' idx (hs ▸ hin)]

end Yields

namespace FT

/-- the skeleton shared by `gamma` and `pi` on two tensors: `unsqueeze_(1)` on the `v` side if `c`, `unsqueeze_(0)` on the `v'` side
if `c'`, then the entrywise combination under broadcasting -/
def outer (F : β → γ → δ) (c c' : Bool) (x : FT β) (y : FT γ) : Except PyErr (FT δ) :=
  match x.unsqueezeIf c 1, y.unsqueezeIf c' 0 with
  | .ok x', .ok y' => bzip F x' y'
  | .error e, _ => .error e
  | _, .error e => .error e

theorem bzip_map_ok {β' γ' : Type} (F : β → γ → δ) (f : β' → β) (g : γ' → γ) {x : FT β'} {y : FT γ'} {s : List Nat}
    (h : broadcastShape x.shape y.shape = .ok s) :
    bzip F (x.map f) (y.map g) = .ok ⟨s, fun idx => F (f (x.get (bidx x.shape idx))) (g (y.get (bidx y.shape idx)))⟩ :=
  bzip_ok (x := x.map f) (y := y.map g) h

theorem unsqueeze_map (g : β → γ) (k : Nat) (t : FT β) : (t.map g).unsqueeze k = (t.unsqueeze k).map (map g) := by
  by_cases h : k ≤ t.shape.length <;> simp only [unsqueeze, map, h, if_true, if_false] <;> rfl

theorem unsqueezeIf_map (g : β → γ) (c : Bool) (k : Nat) (t : FT β) :
    (t.map g).unsqueezeIf c k = (t.unsqueezeIf c k).map (map g) := by
  cases c
  · rfl
  · exact unsqueeze_map g k t

variable {F : β → γ → δ}

theorem outer_eq_ok {c c' : Bool} {x : FT β} {y : FT γ} {o : FT δ} (h : outer F c c' x y = .ok o) :
    ∃ x' y' s, x.unsqueezeIf c 1 = .ok x' ∧ y.unsqueezeIf c' 0 = .ok y' ∧ broadcastShape x'.shape y'.shape = .ok s
      ∧ o = ⟨s, fun idx => F (x'.get (bidx x'.shape idx)) (y'.get (bidx y'.shape idx))⟩ := by
  unfold outer at h
  rcases hx : x.unsqueezeIf c 1 with e | x'
  · rw [hx] at h
    cases h
  rcases hy : y.unsqueezeIf c' 0 with e | y'
  · rw [hx, hy] at h
    cases h
  simp only [hx, hy] at h
  rcases hs : broadcastShape x'.shape y'.shape with e | s
  · rw [bzip, hs] at h
    cases h
  · rw [bzip_ok hs] at h
    cases h
    exact ⟨x', y', s, rfl, rfl, hs, rfl⟩

theorem outer_ok {c c' : Bool} {x x' : FT β} {y y' : FT γ} {s : List Nat} (hx : x.unsqueezeIf c 1 = .ok x')
    (hy : y.unsqueezeIf c' 0 = .ok y') (hs : broadcastShape x'.shape y'.shape = .ok s) :
    outer F c c' x y = .ok ⟨s, fun idx => F (x'.get (bidx x'.shape idx)) (y'.get (bidx y'.shape idx))⟩ := by
  rw [outer, hx, hy]
  exact bzip_ok hs

variable {B B' : Nat} {xs : Nat → β} {ys : Nat → γ} {x : β} {y : γ}

theorem outer_matrix : Yields (outer F true true (.ofRows B xs) (.ofRows B' ys)) (.ofRows2 B B' fun i j => F (xs i) (ys j)) := by
  refine ⟨_, outer_ok rfl rfl (bs_col_row B B'), rfl, ?_⟩
  simp only [ofRows2, forall_inRange_cons, forall_inRange_nil]
  intro i hi j hj
  show F (xs (if B = 1 then 0 else i)) (ys (if B' = 1 then 0 else j)) = F (xs i) (ys j)
  rw [bsel_lt hi, bsel_lt hj]

theorem outer_paired {d : Nat} (hd : bdim B B' = some d) :
    Yields (outer F false false (.ofRows B xs) (.ofRows B' ys))
      (.ofRows d fun i => F (xs (if B = 1 then 0 else i)) (ys (if B' = 1 then 0 else i))) := by
  refine ⟨_, outer_ok rfl rfl (bs_one_one hd), rfl, ?_⟩
  simp only [ofRows, forall_inRange_cons, forall_inRange_nil]
  exact fun i _ => rfl

theorem outer_vec_batch : Yields (outer F false false (.scalar x) (.ofRows B' ys)) (.ofRows B' fun j => F x (ys j)) := by
  refine ⟨_, outer_ok rfl rfl (bs_nil_one B'), rfl, ?_⟩
  simp only [ofRows, forall_inRange_cons, forall_inRange_nil]
  intro j hj
  show F x (ys (if B' = 1 then 0 else j)) = F x (ys j)
  rw [bsel_lt hj]

theorem outer_vec_batch_row :
    Yields (outer F false true (.scalar x) (.ofRows B' ys)) (.ofRows2 1 B' fun _ j => F x (ys j)) := by
  refine ⟨_, outer_ok rfl rfl (bs_nil_two 1 B'), rfl, ?_⟩
  simp only [ofRows2, forall_inRange_cons, forall_inRange_nil]
  intro i _ j hj
  show F x (ys (if B' = 1 then 0 else j)) = F x (ys j)
  rw [bsel_lt hj]

theorem outer_batch_vec : Yields (outer F false false (.ofRows B xs) (.scalar y)) (.ofRows B fun i => F (xs i) y) := by
  refine ⟨_, outer_ok rfl rfl (bs_one_nil B), rfl, ?_⟩
  simp only [ofRows, forall_inRange_cons, forall_inRange_nil]
  intro i hi
  show F (xs (if B = 1 then 0 else i)) y = F (xs i) y
  rw [bsel_lt hi]

theorem outer_batch_vec_col {c' : Bool} :
    Yields (outer F true c' (.ofRows B xs) (.scalar y)) (.ofRows2 B 1 fun i _ => F (xs i) y) := by
  cases c'
  · refine ⟨_, outer_ok rfl rfl (bs_two_nil B 1), rfl, ?_⟩
    simp only [ofRows2, forall_inRange_cons, forall_inRange_nil]
    intro i hi j _
    show F (xs (if B = 1 then 0 else i)) y = F (xs i) y
    rw [bsel_lt hi]
  · refine ⟨_, outer_ok rfl rfl (bs_col_one B), rfl, ?_⟩
    simp only [ofRows2, forall_inRange_cons, forall_inRange_nil]
    intro i hi j _
    show F (xs (if B = 1 then 0 else i)) y = F (xs i) y
    rw [bsel_lt hi]

theorem squeeze0_cons_ne (B : Nat) (rest : List Nat) (g : List Nat → β) (hB : B ≠ 1) :
    squeeze0 ⟨B :: rest, g⟩ = ⟨B :: rest, g⟩ := by
  unfold squeeze0
  split
  · rename_i heq
    simp only [List.cons.injEq] at heq
    exact absurd heq.1 hB
  · rfl

end FT

section decorator
variable {α : Type}

/-! ### the decorator `auto_unsqueeze_args` -/

/-- SPECIFICATION of "vector and batched call forms" for a method `f` whose value on one state is `core`:
the 1-D form returns a 0-dim tensor holding `core v`; on a tensor with leading axes (a `(B, n)` batch, a rank-3 batch, …) the
result has exactly the leading shape of the argument and entry `idx` is `core` of row `idx`. -/
def CallFormsAgree {n : Nat} {β : Type} (f : FT (Fin n → α) → Except PyErr (FT β)) (core : (Fin n → α) → β) : Prop :=
  (∀ v : Fin n → α, ∃ o, f (.scalar v) = .ok o ∧ o.shape = [] ∧ o.get [] = core v) ∧
  (∀ x : FT (Fin n → α), x.shape ≠ [] → ∃ o, f x = .ok o ∧ o.shape = x.shape ∧
      ∀ idx, InRange idx x.shape → o.get idx = core (x.get idx))

theorem CallFormsAgree.vec {n : Nat} {β : Type} {f : FT (Fin n → α) → Except PyErr (FT β)} {core : (Fin n → α) → β}
    (hf : CallFormsAgree f core) (v : Fin n → α) : Yields (f (.scalar v)) (.scalar (core v)) :=
  let ⟨o, ho, hs, hg⟩ := hf.1 v
  ⟨o, ho, hs, forall_inRange_nil.2 hg⟩

theorem CallFormsAgree.batch {n : Nat} {β : Type} {f : FT (Fin n → α) → Except PyErr (FT β)} {core : (Fin n → α) → β}
    (hf : CallFormsAgree f core) (x : FT (Fin n → α)) (hx : x.shape ≠ []) : Yields (f x) (x.map core) :=
  hf.2 x hx

/-- under the specification the vector form on `v` is row `i` of the batched form on any batch whose row `i` is `v`, with
shapes `()` / `(B,)` (C01.9', C05.8a') -/
theorem CallFormsAgree.vector_is_row {n : Nat} {β : Type} {f : FT (Fin n → α) → Except PyErr (FT β)}
    {core : (Fin n → α) → β} (hf : CallFormsAgree f core) (v : Fin n → α) (B : Nat) (vs : Nat → Fin n → α) :
    ∃ o oB, f (.scalar v) = .ok o ∧ f (.ofRows B vs) = .ok oB ∧ o.shape = [] ∧ oB.shape = [B] ∧ o.get [] = core v ∧
      (∀ i, i < B → oB.get [i] = core (vs i)) ∧ (∀ i, i < B → vs i = v → oB.get [i] = o.get []) := by
  obtain ⟨o, ho, hs, hg⟩ := hf.1 v
  obtain ⟨oB, hoB, hsB, hrow⟩ := Yields.ofRows (g := fun i => core (vs i)) (hf.batch (.ofRows B vs) (List.cons_ne_nil _ _))
  exact ⟨o, oB, ho, hoB, hs, hsB, hg, hrow, fun i hi hv => by rw [hrow i hi, hv, hg]⟩

theorem autoUnsqueeze1_of_ne_nil {n : Nat} {β : Type} (f : FT (Fin n → α) → Except PyErr (FT β))
    (x : FT (Fin n → α)) (hx : x.shape ≠ []) : autoUnsqueeze1 f x = f x := by
  have : ¬ (x.shape.length + 1 < 2) := by
    cases hs : x.shape with
    | nil => exact absurd hs hx
    | cons d s => simp
  simp [autoUnsqueeze1, unsqArg, this]

theorem autoUnsqueeze1_scalar {n : Nat} {β : Type} (f : FT (Fin n → α) → Except PyErr (FT β)) (v : Fin n → α) :
    autoUnsqueeze1 f (.scalar v) = (f (FT.scalar v).unsqueeze0).map FT.squeeze0 := by
  simp [autoUnsqueeze1, unsqArg, FT.scalar]

/-- the base case: the decorated methods whose body acts on the last axis only (`effective_energy`, `prob_h_given_v`,
`prob_v_given_h`, `prob_a_given_v`) are of this form -/
theorem callFormsAgree_map {n : Nat} {β : Type} (g : (Fin n → α) → β) :
    CallFormsAgree (autoUnsqueeze1 (fun x : FT (Fin n → α) => .ok (x.map g))) g := by
  refine ⟨fun v => ?_, fun x hx => ?_⟩
  · rw [autoUnsqueeze1_scalar]
    exact ⟨_, rfl, rfl, rfl⟩
  · rw [autoUnsqueeze1_of_ne_nil _ _ hx]
    exact ⟨_, rfl, rfl, fun _ _ => rfl⟩

/-- elementwise post-processing of a method that satisfies the specification (`(-E).exp().sqrt()`, `-0.5 * E`, `exp(-E)/Z`, …) -/
theorem CallFormsAgree.map {n : Nat} {β γ : Type} {f : FT (Fin n → α) → Except PyErr (FT β)} {core : (Fin n → α) → β}
    (hf : CallFormsAgree f core) (k : β → γ) :
    CallFormsAgree (fun x => (f x).map (FT.map k)) (fun v => k (core v)) :=
  ⟨fun v => ((hf.vec v).map k).scalar, fun x hx => (hf.batch x hx).map k⟩

/-- broadcasting combination of two methods that satisfy the specification (`amplitude * phase.cos()`, …) -/
theorem CallFormsAgree.bzip {n : Nat} {β γ δ : Type} {f : FT (Fin n → α) → Except PyErr (FT β)}
    {f' : FT (Fin n → α) → Except PyErr (FT γ)} {core : (Fin n → α) → β} {core' : (Fin n → α) → γ}
    (hf : CallFormsAgree f core) (hf' : CallFormsAgree f' core') (k : β → γ → δ) :
    CallFormsAgree (fun x => FT.bzipE k (f x) (f' x)) (fun v => k (core v) (core' v)) :=
  ⟨fun v => ((hf.vec v).bzip (hf'.vec v) rfl k).scalar, fun x hx => (hf.batch x hx).bzip (hf'.batch x hx) rfl k⟩

end decorator

namespace Density

theorem pairedBatch_eq_bdim (B B' : Nat) :
    pairedBatch B B' = (match bdim B B' with | some d => .ok d | none => .error .RuntimeError) := by
  unfold pairedBatch bdim
  by_cases h1 : B = B'
  · simp [h1]
  · by_cases h2 : B = 1
    · subst h2
      have : ¬ (1 = B') := h1
      simp [this]
    · by_cases h3 : B' = 1 <;> simp [h1, h2, h3]

theorem bdim_of_pairedBatch {B B' C : Nat} (h : pairedBatch B B' = .ok C) : bdim B B' = some C := by
  rw [pairedBatch_eq_bdim] at h
  cases hb : bdim B B' <;> rw [hb] at h <;> cases h
  rfl

end Density

-- every statement below takes the model's eight operation classes, as the model does, whether or not the method at hand uses each
set_option linter.unusedSectionVars false

variable {α : Type} [Add α] [Mul α] [Neg α] [Sub α] [Div α] [Zero α] [One α] [Transc α]
variable {n h a : Nat}

/-! ### `PurificationRBM.gamma` by rank combination -/
namespace PRBM

theorem gammaCall_vec_vec (r : PRBM α n h a) (sgn : α) (v vp : Fin n → α) (e : Bool) :
    r.gammaCall sgn (.scalar v) (.scalar vp) e = .ok (.scalar (r.gammaVec sgn v vp)) := rfl

/-- off its both-1-D branch `gamma` is the skeleton `FT.outer` with `PRBM.gamma` as the entry function (both sides unsqueezed
under `expand`, whatever their rank) -/
theorem gammaCall_yields (r : PRBM α n h a) (sgn : α) {v vp : FT (Fin n → α)} {e : Bool} {t : FT α}
    (ht : Yields (FT.outer (r.gamma sgn) e e v vp) t) (hr : v.shape ≠ [] ∨ vp.shape ≠ []) :
    Yields (r.gammaCall sgn v vp e) t := by
  obtain ⟨o, ho, hso, hgo⟩ := ht
  obtain ⟨x', y', s, hx, hy, hs, rfl⟩ := FT.outer_eq_ok ho
  have hr' : ¬(v.shape.length + 1 < 2 ∧ vp.shape.length + 1 < 2) := by
    rcases hr with h | h <;> have := List.length_pos_iff.mpr h <;> omega
  refine ⟨_, ?_, hso, hgo⟩
  rw [gammaCall, if_neg hr']
  cases e
  · cases hx
    cases hy
    simp only [Bool.false_eq_true, if_false, FT.bzip_map_ok _ _ _ hs]
    rfl
  · simp only [if_true, FT.unsqueeze_map, show v.unsqueeze 1 = .ok x' from hx, show vp.unsqueeze 0 = .ok y' from hy,
      Except.map, FT.bzip_map_ok _ _ _ hs]
    rfl

theorem gammaCall_matrix (r : PRBM α n h a) (sgn : α) (B B' : Nat) (vs vps : Nat → Fin n → α) :
    Yields (r.gammaCall sgn (.ofRows B vs) (.ofRows B' vps) true) (.ofRows2 B B' fun i j => r.gamma sgn (vs i) (vps j)) :=
  r.gammaCall_yields sgn FT.outer_matrix (.inl (List.cons_ne_nil _ _))

theorem gammaCall_paired (r : PRBM α n h a) (sgn : α) (B B' : Nat) (vs vps : Nat → Fin n → α) {C : Nat}
    (hC : Density.pairedBatch B B' = .ok C) :
    Yields (r.gammaCall sgn (.ofRows B vs) (.ofRows B' vps) false)
      (.ofRows C fun i => r.gamma sgn (vs (if B = 1 then 0 else i)) (vps (if B' = 1 then 0 else i))) :=
  r.gammaCall_yields sgn (FT.outer_paired (Density.bdim_of_pairedBatch hC)) (.inl (List.cons_ne_nil _ _))

theorem gammaCall_vec_batch_expand (r : PRBM α n h a) (sgn : α) (v : Fin n → α) (B' : Nat) (vps : Nat → Fin n → α) :
    r.gammaCall sgn (.scalar v) (.ofRows B' vps) true = .error .IndexError := rfl

theorem gammaCall_vec_batch (r : PRBM α n h a) (sgn : α) (v : Fin n → α) (B' : Nat) (vps : Nat → Fin n → α) :
    ∃ o, r.gammaCall sgn (.scalar v) (.ofRows B' vps) false = .ok o ∧ o.shape = [B'] ∧
      ∀ j, j < B' → o.get [j] = r.gamma sgn v (vps j) :=
  (r.gammaCall_yields sgn FT.outer_vec_batch (.inr (List.cons_ne_nil _ _))).ofRows

theorem gammaCall_batch_vec_expand (r : PRBM α n h a) (sgn : α) (B : Nat) (vs : Nat → Fin n → α) (vp : Fin n → α) :
    ∃ o, r.gammaCall sgn (.ofRows B vs) (.scalar vp) true = .ok o ∧ o.shape = [B, 1] ∧
      ∀ i, i < B → o.get [i, 0] = r.gamma sgn (vs i) vp :=
  let ⟨o, ho, hs, hg⟩ := (r.gammaCall_yields sgn FT.outer_batch_vec_col (.inl (List.cons_ne_nil _ _))).ofRows2
  ⟨o, ho, hs, fun i hi => hg i 0 hi Nat.one_pos⟩

theorem gammaCall_batch_vec (r : PRBM α n h a) (sgn : α) (B : Nat) (vs : Nat → Fin n → α) (vp : Fin n → α) :
    ∃ o, r.gammaCall sgn (.ofRows B vs) (.scalar vp) false = .ok o ∧ o.shape = [B] ∧
      ∀ i, i < B → o.get [i] = r.gamma sgn (vs i) vp :=
  (r.gammaCall_yields sgn FT.outer_batch_vec (.inl (List.cons_ne_nil _ _))).ofRows

end PRBM

namespace Density

/-- `pi` has the skeleton `FT.outer` too, with `Density.pi` as the entry function and each side unsqueezed under `expand` only if it
is a batch; its three broadcasts agree with the single one of `FT.outer` inside the result shape -/
theorem piCall_yields (am ph : PRBM α n h a) {v vp : FT (Fin n → α)} {e : Bool} {t : FT (CPair α)}
    (ht : Yields (FT.outer (pi am ph) (e && decide (2 ≤ v.shape.length + 1)) (e && decide (2 ≤ vp.shape.length + 1)) v vp) t) :
    Yields (piCall am ph v vp e) t := by
  obtain ⟨o, ho, hso, hgo⟩ := ht
  obtain ⟨x', y', s, hx, hy, hs, rfl⟩ := FT.outer_eq_ok ho
  change s = t.shape at hso
  subst hso
  have key : piCall am ph v vp e
      = .ok ⟨t.shape, fun idx => pi am ph (x'.get (bidx x'.shape (bidx t.shape idx))) (y'.get (bidx y'.shape (bidx t.shape idx)))⟩ := by
    simp only [piCall, FT.unsqueezeIf_map, hx, hy, Except.map]
    rw [FT.bzip_map_ok _ _ _ hs, FT.bzip_map_ok _ _ _ hs]
    exact FT.bzip_ok (bs_same _)
  refine ⟨_, key, rfl, fun idx hin => ?_⟩
  rw [← hgo idx hin]
  show pi am ph (x'.get (bidx x'.shape (bidx t.shape idx))) _ = pi am ph (x'.get (bidx x'.shape idx)) _
  rw [bidx_inrange hin]

/-- `rho` on parts of one shape: inside that shape every entry is the `rho` formula on the entries of `gamma(+1)`, `pi`, `gamma(-1)`.
`T` enters through the equation `hT` so that a caller names it in `scalar` / `ofRows` / `ofRows2` form and closes `hT`, `s1`, `s2` by `rfl`. -/
theorem rhoCall_yields (am ph : PRBM α n h a) {v vp : FT (Fin n → α)} {e : Bool}
    {P T : FT (CPair α)} {G1 G2 : FT α} (hp : Yields (piCall am ph v vp e) P)
    (h1 : Yields (am.gammaCall 1 v vp e) G1) (h2 : Yields (ph.gammaCall (-1) v vp e) G2)
    (s1 : G1.shape = P.shape) (s2 : G2.shape = P.shape)
    (hT : T = ⟨P.shape, fun idx =>
      (Transc.exp (G1.get idx + (P.get idx).1) * Transc.cos (G2.get idx + (P.get idx).2),
       Transc.exp (G1.get idx + (P.get idx).1) * Transc.sin (G2.get idx + (P.get idx).2))⟩) :
    Yields (rhoCall am ph v (some vp) e) T := by
  subst hT
  have hamp := h1.bzip hp s1.symm fun g (q : CPair α) => Transc.exp (g + q.1)
  have hphs := h2.bzip hp s2.symm fun g (q : CPair α) => g + q.2
  obtain ⟨o, ho, so, go⟩ := hamp.bzip hphs (s2.trans s1.symm) fun x f => (x * Transc.cos f, x * Transc.sin f)
  obtain ⟨p, hp, -⟩ := hp
  obtain ⟨g1, h1, -⟩ := h1
  obtain ⟨g2, h2, -⟩ := h2
  refine ⟨o, ?_, so.trans s1, fun idx hin => go idx (s1 ▸ hin)⟩
  rw [← ho, rhoCall, if_neg fun h => Bool.noConfusion h.2]
  simp only [Option.getD_some, hp, h1, h2, FT.bzipE]
  cases FT.bzip (fun g (q : CPair α) => Transc.exp (g + q.1)) g1 p
  · rfl
  · cases FT.bzip (fun g (q : CPair α) => g + q.2) g2 p <;> rfl


variable (am ph : PRBM α n h a) (B B' : Nat) (vs vps : Nat → Fin n → α) (v vp : Fin n → α)

/-! ### `DensityMatrix.pi` by rank combination -/

theorem piCall_vec_vec (e : Bool) : Yields (piCall am ph (.scalar v) (.scalar vp) e) (.scalar (pi am ph v vp)) := by
  cases e <;> exact piCall_yields am ph ⟨_, FT.outer_ok rfl rfl bs_nil_nil, rfl, fun _ _ => rfl⟩

theorem piCall_matrix :
    Yields (piCall am ph (.ofRows B vs) (.ofRows B' vps) true) (.ofRows2 B B' fun i j => pi am ph (vs i) (vps j)) :=
  piCall_yields am ph FT.outer_matrix

theorem piCall_paired {C : Nat} (hC : pairedBatch B B' = .ok C) :
    Yields (piCall am ph (.ofRows B vs) (.ofRows B' vps) false)
      (.ofRows C fun i => pi am ph (vs (if B = 1 then 0 else i)) (vps (if B' = 1 then 0 else i))) :=
  piCall_yields am ph (FT.outer_paired (bdim_of_pairedBatch hC))

/-- `pi` itself ACCEPTS a 1-D `v` against a batch with `expand=True` (shape `(1, B')`): the refusal of `rho` in that form comes
from `gamma` (`gammaCall_vec_batch_expand`) -/
theorem piCall_vec_batch_expand (am ph : PRBM α n h a) (v : Fin n → α) (B' : Nat) (vps : Nat → Fin n → α) :
    ∃ o, piCall am ph (.scalar v) (.ofRows B' vps) true = .ok o ∧ o.shape = [1, B'] ∧
      ∀ j, j < B' → o.get [0, j] = pi am ph v (vps j) :=
  let ⟨o, ho, hs, hg⟩ := (piCall_yields am ph FT.outer_vec_batch_row).ofRows2
  ⟨o, ho, hs, fun j hj => hg 0 j Nat.one_pos hj⟩

/-! ### `DensityMatrix.rho` by rank combination -/

theorem rhoCall_diag (am ph : PRBM α n h a) (v : FT (Fin n → α)) :
    rhoCall am ph v none false = .ok (v.map (rhoDiag am)) := rfl

theorem rhoCall_none (am ph : PRBM α n h a) (v : FT (Fin n → α)) :
    rhoCall am ph v none true = rhoCall am ph v (some v) true := rfl

theorem rhoCall_vec_vec (e : Bool) :
    Yields (rhoCall am ph (.scalar v) (some (.scalar vp)) e) (.scalar (rhoVec am ph v vp)) :=
  rhoCall_yields am ph (piCall_vec_vec am ph v vp e) (am.gammaCall_vec_vec 1 v vp e ▸ yields_ok _)
    (ph.gammaCall_vec_vec (-1) v vp e ▸ yields_ok _) rfl rfl rfl

theorem rhoCall_matrix :
    Yields (rhoCall am ph (.ofRows B vs) (some (.ofRows B' vps)) true) (.ofRows2 B B' fun i j => rho am ph (vs i) (vps j)) :=
  rhoCall_yields am ph (piCall_matrix ..) (am.gammaCall_matrix ..) (ph.gammaCall_matrix ..) rfl rfl rfl

theorem rhoCall_paired {C : Nat} (hC : pairedBatch B B' = .ok C) :
    Yields (rhoCall am ph (.ofRows B vs) (some (.ofRows B' vps)) false)
      (.ofRows C fun i => rho am ph (vs (if B = 1 then 0 else i)) (vps (if B' = 1 then 0 else i))) :=
  rhoCall_yields am ph (piCall_paired am ph B B' vs vps hC) (am.gammaCall_paired 1 B B' vs vps hC)
    (ph.gammaCall_paired (-1) B B' vs vps hC) rfl rfl rfl

theorem rhoCall_paired_error {err : PyErr} (hC : pairedBatch B B' = .error err) :
    ∃ e, rhoCall am ph (.ofRows B vs) (some (.ofRows B' vps)) false = .error e := by
  have hb : broadcastShape [B] [B'] = .error .RuntimeError := by
    rw [pairedBatch_eq_bdim] at hC
    cases hd : bdim B B' <;> rw [hd] at hC <;> cases hC
    simp [broadcastShape, padL, bshapeEq, hd]
  have hp : piCall am ph (.ofRows B vs) (.ofRows B' vps) false = .error .RuntimeError := by
    simp only [piCall, Bool.false_and, FT.unsqueezeIf, Bool.false_eq_true, if_false, FT.bzip, FT.map, FT.ofRows, hb]
  exact ⟨.RuntimeError, by rw [rhoCall, if_neg fun h => Bool.noConfusion h.2]; simp only [Option.getD_some, hp]⟩

theorem rhoCall_vec_batch_expand (am ph : PRBM α n h a) (v : Fin n → α) (B' : Nat) (vps : Nat → Fin n → α) :
    ∃ e, rhoCall am ph (.scalar v) (some (.ofRows B' vps)) true = .error e := by
  obtain ⟨p, hp, -⟩ := piCall_vec_batch_expand am ph v B' vps
  exact ⟨.IndexError, by rw [rhoCall, if_neg fun h => Bool.noConfusion h.2]; simp only [Option.getD_some, hp, am.gammaCall_vec_batch_expand]⟩

theorem rhoCall_vec_batch (am ph : PRBM α n h a) (v : Fin n → α) (B' : Nat) (vps : Nat → Fin n → α) :
    Yields (rhoCall am ph (.scalar v) (some (.ofRows B' vps)) false) (.ofRows B' fun j => rho am ph v (vps j)) :=
  have hr := Or.inr (a := (FT.scalar v).shape ≠ []) (List.cons_ne_nil B' [])
  rhoCall_yields am ph (piCall_yields am ph FT.outer_vec_batch)
    (am.gammaCall_yields 1 FT.outer_vec_batch hr) (ph.gammaCall_yields (-1) FT.outer_vec_batch hr) rfl rfl rfl

theorem rhoCall_batch_vec_expand :
    Yields (rhoCall am ph (.ofRows B vs) (some (.scalar vp)) true) (.ofRows2 B 1 fun i _ => rho am ph (vs i) vp) :=
  have hr := Or.inl (b := (FT.scalar vp).shape ≠ []) (List.cons_ne_nil B [])
  rhoCall_yields am ph (piCall_yields am ph FT.outer_batch_vec_col)
    (am.gammaCall_yields 1 FT.outer_batch_vec_col hr) (ph.gammaCall_yields (-1) FT.outer_batch_vec_col hr) rfl rfl rfl

theorem rhoCall_batch_vec :
    Yields (rhoCall am ph (.ofRows B vs) (some (.scalar vp)) false) (.ofRows B fun i => rho am ph (vs i) vp) :=
  have hr := Or.inl (b := (FT.scalar vp).shape ≠ []) (List.cons_ne_nil B [])
  rhoCall_yields am ph (piCall_yields am ph FT.outer_batch_vec)
    (am.gammaCall_yields 1 FT.outer_batch_vec hr) (ph.gammaCall_yields (-1) FT.outer_batch_vec hr) rfl rfl rfl

end Density

/-! ### `prob_v_given_ha`: `@auto_unsqueeze_args(1, 2)` by rank combination -/
namespace PRBM

macro "ha_unfold" : tactic => `(tactic|
  simp [PRBM.probVGivenHA, PRBM.probVGivenHABody, autoUnsqueeze2, unsqArg, FT.bzipInplace, FT.ofRows, FT.scalar,
    FT.unsqueeze0, FT.squeeze0, bs_same, bs_one_one (bdim_self _), bs_one_one (bdim_one_left _),
    bs_one_one (bdim_one_right _), Except.map, bidx])

theorem probVGivenHA_vec_vec (r : PRBM α n h a) (hd : Fin h → α) (ax : Fin a → α) :
    ∃ o, r.probVGivenHA (.scalar hd) (.scalar ax) = .ok o ∧ o.shape = [] ∧ o.get [] = r.probV hd ax := by
  ha_unfold

theorem probVGivenHA_batch_batch (r : PRBM α n h a) (B : Nat) (hs : Nat → Fin h → α) (as : Nat → Fin a → α) :
    ∃ o, r.probVGivenHA (.ofRows B hs) (.ofRows B as) = .ok o ∧ o.shape = [B] ∧
      ∀ i, i < B → o.get [i] = r.probV (hs i) (as i) := by
  ha_unfold
  intro i hi
  simp [bsel_lt hi]

/-- `h` a batch of `B ≠ 1` rows, `a` 1-D: `a` is unsqueezed and broadcasts to every row; `squeeze_(0)` is a no-op -/
theorem probVGivenHA_batch_vec (r : PRBM α n h a) (B : Nat) (hB : B ≠ 1) (hs : Nat → Fin h → α) (ax : Fin a → α) :
    ∃ o, r.probVGivenHA (.ofRows B hs) (.scalar ax) = .ok o ∧ o.shape = [B] ∧
      ∀ i, i < B → o.get [i] = r.probV (hs i) ax := by
  simp [PRBM.probVGivenHA, PRBM.probVGivenHABody, autoUnsqueeze2, unsqArg, FT.bzipInplace, FT.ofRows, FT.scalar,
    FT.unsqueeze0, bs_one_one (bdim_one_right _), Except.map, bidx, FT.squeeze0_cons_ne _ _ _ hB]
  intro i hi
  simp [bsel_lt hi]

/-- `h` a batch of exactly ONE row, `a` 1-D: the result loses its batch axis (it is squeezed because `a` was 1-D) -/
theorem probVGivenHA_batch1_vec (r : PRBM α n h a) (hs : Nat → Fin h → α) (ax : Fin a → α) :
    ∃ o, r.probVGivenHA (.ofRows 1 hs) (.scalar ax) = .ok o ∧ o.shape = [] ∧ o.get [] = r.probV (hs 0) ax := by
  ha_unfold

/-- `h` 1-D, `a` a batch: the in-place `add_` cannot grow the `(1, n)` buffer — refused unless the batch has one row -/
theorem probVGivenHA_vec_batch (r : PRBM α n h a) (B : Nat) (hB : B ≠ 1) (hd : Fin h → α) (as : Nat → Fin a → α) :
    r.probVGivenHA (.scalar hd) (.ofRows B as) = .error .RuntimeError := by
  ha_unfold
  simp [hB]

theorem probVGivenHA_vec_batch1 (r : PRBM α n h a) (hd : Fin h → α) (as : Nat → Fin a → α) :
    ∃ o, r.probVGivenHA (.scalar hd) (.ofRows 1 as) = .ok o ∧ o.shape = [] ∧ o.get [] = r.probV hd (as 0) := by
  ha_unfold

end PRBM

/-! ### `PositiveWaveFunction.phase` -/
namespace Wave

theorem phasePosCall_scalar (v : Fin n → α) :
    phasePosCall (FT.scalar v) = .ok (FT.scalar (0 : α)) := by
  simp [phasePosCall, autoUnsqueeze1, unsqArg, FT.scalar, FT.unsqueeze0, FT.squeeze0, Except.map, phasePos]

theorem phasePosCall_batch (B : Nat) (vs : Nat → Fin n → α) :
    ∃ o, phasePosCall (FT.ofRows B vs) = .ok o ∧ o.shape = [B] ∧ ∀ i, o.get [i] = (0 : α) := by
  simp [phasePosCall, autoUnsqueeze1, unsqArg, FT.ofRows, phasePos]

/-- on a rank-3 argument the result has ONE axis (`torch.zeros(v.shape[0])`, positive_wavefunction.py:106), not the two leading
axes; such arguments are outside the "vector and batched call forms" of C01, and `psi` of the positive state never calls `phase` -/
theorem phasePosCall_rank3 (B1 B2 : Nat) (vs : Nat → Nat → Fin n → α) :
    ∃ o, phasePosCall (FT.ofRows2 B1 B2 vs) = .ok o ∧ o.shape = [B1] := by
  simp [phasePosCall, autoUnsqueeze1, unsqArg, FT.ofRows2]

end Wave
end QV
