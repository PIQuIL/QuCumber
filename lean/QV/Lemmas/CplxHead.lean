/-
QV.Lemmas.CplxHead — the scalar kernel of `cplx.py` AS CODED AT /repo HEAD (fix F17, commit 7038bfb: operand scaling,
hypot, overflow-free sigmoid) equals, over ℝ, the textbook formulas:
  `C.invH` (`inverse`) = `C.inv`,  `C.divH` (`elementwise_division`) = `C.sdivH` (`scalar_divide`, `x · inverse(y)`) = `C.div`,
  `C.absH` (`absolute_value`) = `√normSq`,  `C.csigmoidH` = `Cplx.sigC` (`sigmoid`) = `Grads.csigmoid`.
Each equality of pairs is obtained by decoding both sides into ℂ (`dec_inv_scaled`, `dec_div_scaled`, `hypot_eq`, `dec_sigC`
of `QV.Lemmas.CplxTensor`) and injectivity of the decoding.
The property-level statements are `C15_invH_eq`, … in `QV/Props/C15.lean`; `toC_invH` / `C.csigmoidH_eq` are the forms the
C03 derivative lemmas (`QV.Lemmas.CplxGrad`, `QV.Lemmas.DMGrad`) rewrite with.
-/
import QV.Lemmas.CplxTensor
import QV.Lemmas.Cplx
import QV.Model.Grads

namespace QV
open Cplx (dec)

theorem C.ne_zero_iff (z : C ℝ) : z ≠ (0, 0) ↔ toC z ≠ 0 := by
  rw [← Cplx.dec_eq_toC, Ne, Ne, Cplx.dec_eq_zero]

/-- the guard is used (`dec_inv_scaled` needs a non-zero scale) although the equation also holds at `z = 0`: `C.invH_zero` -/
theorem toC_invH (z : C ℝ) (hz : toC z ≠ 0) : toC (C.invH z) = (toC z)⁻¹ :=
  Cplx.dec_inv_scaled z (max |z.1| |z.2|) (Cplx.max_abs_pos hz).ne'

theorem C.invH_eq (z : C ℝ) (hz : z ≠ (0, 0)) : C.invH z = C.inv z := by
  have hz' := (C.ne_zero_iff z).1 hz
  apply toC_injective
  rw [toC_invH z hz', toC_inv z hz']

/-- at `0` the two formulas also agree over ℝ (`x / 0 = 0`); the CODE yields `nan` at `0` in both forms, which is why
`C.invH_eq` and the property-level theorem carry the guard. -/
theorem C.invH_zero : C.invH ((0, 0) : C ℝ) = C.inv (0, 0) := by
  simp [C.invH, C.inv, C.scaleH, C.conj, C.mul, C.normSq]

theorem toC_divH (x y : C ℝ) (hy : toC y ≠ 0) : toC (C.divH x y) = toC x / toC y :=
  Cplx.dec_div_scaled x y (max |y.1| |y.2|) (Cplx.max_abs_pos hy).ne'

theorem C.divH_eq (x y : C ℝ) (hy : y ≠ (0, 0)) : C.divH x y = C.div x y := by
  have hy' := (C.ne_zero_iff y).1 hy
  apply toC_injective
  rw [toC_divH x y hy', toC_div x y hy']

theorem toC_sdivH (x y : C ℝ) (hy : toC y ≠ 0) : toC (C.sdivH x y) = toC x / toC y := by
  unfold C.sdivH
  rw [toC_mul, toC_invH y hy, div_eq_mul_inv]

theorem C.sdivH_eq (x y : C ℝ) (hy : y ≠ (0, 0)) : C.sdivH x y = C.div x y := by
  have hy' := (C.ne_zero_iff y).1 hy
  apply toC_injective
  rw [toC_sdivH x y hy', toC_div x y hy']

theorem C.absH_eq (z : C ℝ) : C.absH z = Real.sqrt (C.normSq z) := Cplx.hypot_eq z.1 z.2

theorem C.absH_eq_norm (z : C ℝ) : C.absH z = ‖toC z‖ := Cplx.hypot_eq_norm z

theorem dec_csigmoid (x y : ℝ) :
    dec (Grads.csigmoid x y) = Complex.exp (dec (x, y)) / (1 + Complex.exp (dec (x, y))) := by
  show dec (C.div (Cplx.expC (x, y)) (C.add C.one (Cplx.expC (x, y)))) = _
  rw [Cplx.dec_div, Cplx.dec_add, Cplx.dec_one, Cplx.dec_expC]

/-- HEAD's overflow-free sigmoid is the textbook `e^z / (1 + e^z)` for EVERY argument: both decode to the same complex
number, also at the poles `z = i(2k+1)π`, where over ℝ both quotients are `0` — hence no guard. -/
theorem C.csigmoidH_eq (x y : ℝ) : C.csigmoidH x y = Grads.csigmoid x y :=
  Cplx.dec_injective ((Cplx.dec_sigC _).trans (dec_csigmoid x y).symm)

end QV
