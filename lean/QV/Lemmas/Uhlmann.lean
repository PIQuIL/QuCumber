/-
QV.Lemmas.Uhlmann — spectral theory of the product of two positive semidefinite matrices, for the mixed-state
fidelity (C10.5).  For `σ, ρ` PSD over `ℂ` and `S = √ρ` (the PSD square root, Mathlib's `CFC.sqrt` for the
C⋆-algebra of matrices with the Loewner order, `open scoped MatrixOrder`); the helpers only use that `S` is Hermitian
with `S S = ρ`:
* `σ ρ = (σ S) S` and `S (σ S)` have the same characteristic polynomial (`Matrix.charpoly_mul_comm`), and
  `M = S σ S` is PSD, so the roots of `charpoly (σ ρ)` are the (real, non-negative) eigenvalues of `M`;
* `tr √M = Σ_i √λ_i(M)` (spectral theorem + the Hermitian functional calculus);
* `2 tr √M ≤ tr σ + tr ρ`: with `T = √σ`, `A = T S U` (`U` the eigenvector unitary of `M`, so `Aᴴ A = D = diag λ`),
  `E = diag (√λ)⁻¹` (0 where `λ = 0`), `W = A E` (a partial isometry: `W (Wᴴ W) = W`),
  `X = T W`, `Y = S U`:  `Xᴴ Y = E D = diag √λ`, `tr Yᴴ Y = tr ρ`, `tr Xᴴ X = tr (σ · W Wᴴ) ≤ tr σ` because `W Wᴴ` is a
  Hermitian idempotent, and `2 Re tr Xᴴ Y ≤ tr Xᴴ X + tr Yᴴ Y` because `tr (X − Y)ᴴ (X − Y) ≥ 0`.
`exists_rootFidelity` puts the three together; `rootFidelity_self` is the case `σ = ρ`, where the root fidelity is `tr ρ`.
-/
import Mathlib.Analysis.Matrix.Order
import QV.Model.Metrics
import QV.Lemmas.Metrics

namespace QV
namespace C10L
open Matrix Metrics
open scoped ComplexOrder MatrixOrder

variable {n : Type} [Fintype n] [DecidableEq n]

/-- every `CFC.sqrt` on matrices needs this instance; it is resolved once, here, instead of at each occurrence -/
local instance : NonUnitalContinuousFunctionalCalculus ℝ (Matrix n n ℂ) IsSelfAdjoint := inferInstance

/-- `tr √M = Σ_i √λ_i(M)` for PSD `M`: in the eigenbasis `√M = U diag(√λ_i) U⋆` -/
theorem trace_psd_sqrt (M : Matrix n n ℂ) (hM : M.PosSemidef) :
    (CFC.sqrt M).trace = ((∑ i, √(hM.1.eigenvalues i) : ℝ) : ℂ) := by
  rw [CFC.sqrt_eq_cfc, cfc_nnreal_eq_real _ M, hM.1.cfc_eq, IsHermitian.cfc, Unitary.conjStarAlgAut_apply,
    trace_mul_cycle, Unitary.coe_star_mul_self, one_mul, trace_diagonal]
  simp [max_eq_left (hM.eigenvalues_nonneg _)]

/-- The roots of the characteristic polynomial of a PSD `M` are its eigenvalues `λ_i(M) ≥ 0`
(`IsHermitian.roots_charpoly_eq_eigenvalues`), so the code's `.real` and `np.abs` change nothing: `√|Re λ_i| = √λ_i`. -/
theorem fidelityMixed_of_roots (M : Matrix n n ℂ) (hM : M.PosSemidef) (eig : List (C ℝ))
    (heig : ((eig.map toC : List ℂ) : Multiset ℂ) = M.charpoly.roots) :
    fidelityMixed eig = (∑ i, √(hM.1.eigenvalues i)) ^ 2 := by
  have h1 : ((eig.map (fun l => √|l.1|) : List ℝ) : Multiset ℝ)
      = Multiset.map (fun z : ℂ => √|z.re|) ((eig.map toC : List ℂ) : Multiset ℂ) := by
    simp [Function.comp_def]
  rw [fidelityMixed_eq, ← Multiset.sum_coe, h1, heig, hM.1.roots_charpoly_eq_eigenvalues, Multiset.map_map,
    Finset.sum_eq_multiset_sum]
  congr 2
  refine Multiset.map_congr rfl (fun i _ => ?_)
  exact congrArg Real.sqrt (abs_of_nonneg (hM.eigenvalues_nonneg i))

omit [DecidableEq n] in
/-- `2 Re tr XᴴY ≤ tr XᴴX + tr YᴴY` (from `tr (X−Y)ᴴ(X−Y) ≥ 0`) -/
theorem trace_re_mul_le (X Y : Matrix n n ℂ) :
    2 * (Xᴴ * Y).trace.re ≤ (Xᴴ * X).trace.re + (Yᴴ * Y).trace.re := by
  have h := (Complex.le_def.mp (posSemidef_conjTranspose_mul_self (X - Y)).trace_nonneg).1
  have h3 : (Yᴴ * X).trace = star (Xᴴ * Y).trace := by
    rw [← trace_conjTranspose, conjTranspose_mul, conjTranspose_conjTranspose]
  rw [conjTranspose_sub, Matrix.sub_mul, Matrix.mul_sub, Matrix.mul_sub, trace_sub, trace_sub, trace_sub, h3] at h
  simp only [Complex.sub_re, Complex.zero_re, Complex.star_def, Complex.conj_re] at h
  linarith

/-- `Re tr (σ Q) ≤ Re tr σ` for PSD `σ` and a Hermitian idempotent `Q` (`tr (1−Q) σ (1−Q) ≥ 0`) -/
theorem trace_mul_proj_le (σ Q : Matrix n n ℂ) (hσ : σ.PosSemidef) (hQ : Qᴴ = Q) (hQQ : Q * Q = Q) :
    (σ * Q).trace.re ≤ σ.trace.re := by
  have hR : (1 - Q)ᴴ = 1 - Q := by rw [conjTranspose_sub, conjTranspose_one, hQ]
  have hRR : (1 - Q) * (1 - Q) = 1 - Q := by
    rw [Matrix.sub_mul, Matrix.mul_sub, Matrix.mul_sub, hQQ, Matrix.one_mul, Matrix.mul_one, Matrix.one_mul, sub_self, sub_zero]
  have h := (Complex.le_def.mp (hσ.conjTranspose_mul_mul_same (1 - Q)).trace_nonneg).1
  rw [hR, Matrix.mul_assoc, trace_mul_comm, Matrix.mul_assoc, hRR, Matrix.mul_sub, Matrix.mul_one, trace_sub,
    Complex.sub_re, Complex.zero_re] at h
  linarith

/-- polar part of `A`: if `Aᴴ A = diag ev`, then `W = A · diag (√ev)⁻¹` (`0` where `ev = 0`) has `Wᴴ A = diag √ev` and is a
partial isometry, `W (Wᴴ W) = W`, so that `W Wᴴ` is a Hermitian idempotent -/
theorem exists_partialIsometry (A : Matrix n n ℂ) (ev : n → ℝ)
    (hAA : Aᴴ * A = diagonal fun i => (ev i : ℂ)) :
    ∃ W : Matrix n n ℂ, Wᴴ * A = diagonal (fun i => ((√(ev i) : ℝ) : ℂ)) ∧
      (W * Wᴴ)ᴴ = W * Wᴴ ∧ (W * Wᴴ) * (W * Wᴴ) = W * Wᴴ := by
  -- entrywise: `(√ev)⁻¹ · ev = √ev` and `(√ev)⁻¹ · (√ev · (√ev)⁻¹) = (√ev)⁻¹`, also where `√ev = 0`
  have hED : (diagonal fun i => (((√(ev i))⁻¹ : ℝ) : ℂ)) * (diagonal fun i => (ev i : ℂ))
      = diagonal fun i => ((√(ev i) : ℝ) : ℂ) := by
    rw [diagonal_mul_diagonal]
    congr 1; funext i
    rw [← Complex.ofReal_mul, inv_mul_eq_div, Real.div_sqrt]
  have hEP : ∀ i, (√(ev i))⁻¹ * (√(ev i) * (√(ev i))⁻¹) = (√(ev i))⁻¹ := fun i => by
    have h := mul_inv_mul_cancel (√(ev i))⁻¹
    rwa [inv_inv, mul_assoc] at h
  set E : Matrix n n ℂ := diagonal fun i => (((√(ev i))⁻¹ : ℝ) : ℂ) with hEdef
  set R : Matrix n n ℂ := diagonal fun i => ((√(ev i) : ℝ) : ℂ) with hRdef
  have hEh : Eᴴ = E := by
    rw [hEdef, diagonal_conjTranspose]
    congr 1; funext i
    exact Complex.conj_ofReal _
  have hERE : E * R * E = E := by
    rw [hEdef, hRdef, diagonal_mul_diagonal, diagonal_mul_diagonal]
    congr 1; funext i
    rw [← Complex.ofReal_mul, ← Complex.ofReal_mul, mul_assoc, hEP]
  have hWA : (A * E)ᴴ * A = R := by rw [conjTranspose_mul, hEh, Matrix.mul_assoc, hAA, hED]
  have hWWW : A * E * ((A * E)ᴴ * (A * E)) = A * E := by
    rw [← Matrix.mul_assoc (A * E)ᴴ, hWA, Matrix.mul_assoc A, ← Matrix.mul_assoc E, hERE]
  exact ⟨A * E, hWA, by rw [conjTranspose_mul, conjTranspose_conjTranspose],
    by rw [← Matrix.mul_assoc, Matrix.mul_assoc (A * E), hWWW]⟩

/-- trace-norm bound: if a unitary `U` diagonalises `S (T T) S` (`T`, `S` Hermitian) with eigenvalues `ev`, then
`2 Σ √ev_i ≤ tr TT + tr SS` (see the file header) -/
theorem two_sum_sqrt_le (T S U : Matrix n n ℂ) (ev : n → ℝ) (hT : Tᴴ = T) (hS : Sᴴ = S)
    (hU : U * Uᴴ = 1) (hD : Uᴴ * (S * (T * T) * S) * U = diagonal fun i => (ev i : ℂ)) :
    2 * ∑ i, √(ev i) ≤ (T * T).trace.re + (S * S).trace.re := by
  have hσ : (T * T).PosSemidef := by
    have := posSemidef_conjTranspose_mul_self T
    rwa [hT] at this
  -- `A = T S U` has `Aᴴ A = diag ev`; `W` its polar part
  have hAA : (T * S * U)ᴴ * (T * S * U) = diagonal fun i => (ev i : ℂ) := by
    rw [conjTranspose_mul, conjTranspose_mul, hT, hS, ← hD]; simp only [Matrix.mul_assoc]
  obtain ⟨W, hWA, hQ, hQQ⟩ := exists_partialIsometry _ ev hAA
  -- `X = T W`, `Y = S U`: `Xᴴ Y = diag √ev`, `tr Yᴴ Y = tr SS`, `tr Xᴴ X = tr (TT · W Wᴴ)`
  have hXY : (T * W)ᴴ * (S * U) = diagonal fun i => ((√(ev i) : ℝ) : ℂ) := by
    rw [conjTranspose_mul, hT, Matrix.mul_assoc, ← Matrix.mul_assoc T, hWA]
  have hYY : ((S * U)ᴴ * (S * U)).trace = (S * S).trace := by
    rw [conjTranspose_mul, hS, Matrix.mul_assoc, trace_mul_comm, Matrix.mul_assoc, Matrix.mul_assoc, hU, Matrix.mul_one]
  have hXX : ((T * W)ᴴ * (T * W)).trace = (T * T * (W * Wᴴ)).trace := by
    rw [conjTranspose_mul, hT, Matrix.mul_assoc, trace_mul_comm]
    simp only [Matrix.mul_assoc]
  have hRt : (diagonal fun i => ((√(ev i) : ℝ) : ℂ)).trace.re = ∑ i, √(ev i) := by
    rw [trace_diagonal, Complex.re_sum]; rfl
  have key := trace_re_mul_le (T * W) (S * U)
  rw [hXY, hYY, hXX, hRt] at key
  have := trace_mul_proj_le (T * T) _ hσ hQ hQQ
  linarith

/-- **The root fidelity `tr √(√ρ σ √ρ)` of two PSD matrices** is a non-negative real `r` with `2 r ≤ tr σ + tr ρ`, and
the code's value `(Σ √|Re λ|)²` over the roots of the characteristic polynomial of `σ ρ` is `r²`. -/
theorem exists_rootFidelity (σ ρ : Matrix n n ℂ) (hσ : σ.PosSemidef) (hρ : ρ.PosSemidef) :
    ∃ r : ℝ, 0 ≤ r ∧ (CFC.sqrt (CFC.sqrt ρ * σ * CFC.sqrt ρ)).trace = (r : ℂ) ∧
      2 * r ≤ σ.trace.re + ρ.trace.re ∧
      ∀ eig : List (C ℝ), ((eig.map toC : List ℂ) : Multiset ℂ) = (σ * ρ).charpoly.roots → fidelityMixed eig = r ^ 2 := by
  have hT : (CFC.sqrt σ)ᴴ = CFC.sqrt σ := (CFC.sqrt_nonneg σ).posSemidef.1.eq
  have hTT := CFC.sqrt_mul_sqrt_self σ hσ.nonneg
  have hS : (CFC.sqrt ρ)ᴴ = CFC.sqrt ρ := (CFC.sqrt_nonneg ρ).posSemidef.1.eq
  have hSS := CFC.sqrt_mul_sqrt_self ρ hρ.nonneg
  generalize CFC.sqrt σ = T at hT hTT
  generalize CFC.sqrt ρ = S at hS hSS ⊢
  have hM : (S * σ * S).PosSemidef := by
    have h := hσ.conjTranspose_mul_mul_same S
    rwa [hS] at h
  refine ⟨∑ i, √(hM.1.eigenvalues i), Finset.sum_nonneg (fun i _ => Real.sqrt_nonneg _), trace_psd_sqrt _ hM, ?_,
    fun eig heig => ?_⟩
  · have h := two_sum_sqrt_le T S (hM.1.eigenvectorUnitary : Matrix n n ℂ) _ hT hS
      (Unitary.coe_mul_star_self _) (by
        rw [hTT]
        have := hM.1.conjStarAlgAut_star_eigenvectorUnitary
        rwa [Unitary.conjStarAlgAut_star_apply] at this)
    rwa [hTT, hSS] at h
  · -- `σ (S S)` and `S σ S` have the same characteristic polynomial
    rw [← hSS, ← mul_assoc, charpoly_mul_comm, ← mul_assoc] at heig
    exact fidelityMixed_of_roots _ hM eig heig

/-- `√ρ ρ √ρ = ρ²` and `√(ρ²) = ρ`: the root fidelity of a PSD `ρ` with itself is `tr ρ` -/
theorem rootFidelity_self (ρ : Matrix n n ℂ) (hρ : ρ.PosSemidef) :
    (CFC.sqrt (CFC.sqrt ρ * ρ * CFC.sqrt ρ)).trace = ρ.trace := by
  have hSS := CFC.sqrt_mul_sqrt_self ρ hρ.nonneg
  generalize CFC.sqrt ρ = S at hSS ⊢
  rw [show S * ρ * S = ρ * ρ by rw [← hSS]; simp only [Matrix.mul_assoc], CFC.sqrt_mul_self ρ hρ.nonneg]

/-- the characteristic-polynomial roots of a diagonal matrix are its diagonal entries (used by the non-vacuity
example of `C10_fid_mixed_uhlmann`) -/
theorem roots_charpoly_diagonal (d : n → ℂ) :
    (diagonal d).charpoly.roots = Multiset.map d Finset.univ.val := by
  rw [charpoly_diagonal, Polynomial.roots_prod]
  · simp
  · exact Finset.prod_ne_zero_iff.mpr (fun i _ => Polynomial.X_sub_C_ne_zero _)

end C10L
end QV
