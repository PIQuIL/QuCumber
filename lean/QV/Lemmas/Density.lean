/-
QV.Lemmas.Density — helper lemmas for C02: closed forms of the PurificationRBM model over ℝ, the
per-auxiliary-unit identity `exp(log|z| + i·arg z) = z` for `z = 1 + e^{x+iy}` (`pi_unit`) and the conjugation of that
factor under `y ↦ −y` (`pi_unit_conj`, what makes `rho` Hermitian without a guard), the factorisation of a
sum over auxiliary configurations, and the polar form of `Density.rho`.
-/
import Mathlib.Analysis.SpecialFunctions.Complex.Arg
import Mathlib.Analysis.SpecialFunctions.Sqrt
import Mathlib.Analysis.SpecialFunctions.Trigonometric.Basic
import Mathlib.Analysis.Complex.Trigonometric
import Mathlib.Algebra.BigOperators.Ring.Finset
import Mathlib.Data.Fintype.BigOperators
import QV.Model.Density
import QV.Lemmas.Basic

namespace QV
open Finset Complex

variable {n h a : ℕ}

theorem PRBM.preactH_eq (r : PRBM ℝ n h a) (v : Fin n → ℝ) (i : Fin h) :
    r.preactH v i = (∑ j, v j * r.W i j) + r.c i := by rw [PRBM.preactH, sumFin_eq]

theorem PRBM.preactA_eq (r : PRBM ℝ n h a) (v : Fin n → ℝ) (k : Fin a) :
    r.preactA v k = (∑ j, v j * r.U k j) + r.d k := by rw [PRBM.preactA, sumFin_eq]

theorem PRBM.visTerm_eq (r : PRBM ℝ n h a) (v : Fin n → ℝ) :
    r.visTerm v = ∑ j, v j * r.b j + ∑ i, Real.log (1 + Real.exp (r.preactH v i)) := by
  simp only [PRBM.visTerm, dot_eq, sumFin_eq, softplus_eq]

theorem PRBM.neg_effEnergy_eq (r : PRBM ℝ n h a) (v : Fin n → ℝ) :
    -(r.effEnergy v) = r.visTerm v + ∑ k, Real.log (1 + Real.exp (r.preactA v k)) := by
  simp only [PRBM.effEnergy, neg_neg, sumFin_eq, softplus_eq]

theorem PRBM.gamma_eq (r : PRBM ℝ n h a) (s : ℝ) (v vp : Fin n → ℝ) :
    r.gamma s v vp = (r.visTerm v + s * r.visTerm vp) / 2 := by
  rw [PRBM.gamma, two_eq]; ring

/-- the 1-D branch of `gamma` computes the same real number as the batched branch -/
theorem PRBM.gammaVec_eq_gamma (r : PRBM ℝ n h a) (s : ℝ) (v vp : Fin n → ℝ) :
    r.gammaVec s v vp = r.gamma s v vp := by
  simp only [PRBM.gammaVec, PRBM.gamma, PRBM.visTerm, dot_eq, sumFin_eq]
  have : ∑ j, (v j + s * vp j) * r.b j = ∑ j, v j * r.b j + s * ∑ j, vp j * r.b j := by
    rw [Finset.mul_sum, ← Finset.sum_add_distrib]
    exact Finset.sum_congr rfl (fun j _ => by ring)
  rw [this]; ring

namespace Density

theorem one_add_cexp (x y : ℝ) :
    (1 : ℂ) + Complex.exp ((x : ℂ) + (y : ℂ) * I)
      = ⟨1 + Real.exp x * Real.cos y, Real.exp x * Real.sin y⟩ := by
  apply Complex.ext <;> simp [Complex.exp_re, Complex.exp_im]

/-- the radicand of `pi`'s real part (density_matrix.py:148) is `|1 + e^{x+iy}|²` -/
theorem radicand_eq_normSq (x y : ℝ) :
    1 + 2 * Real.exp x * Real.cos y + Real.exp (2 * x)
      = Complex.normSq ((1 : ℂ) + Complex.exp ((x : ℂ) + (y : ℂ) * I)) := by
  rw [one_add_cexp, Complex.normSq_mk, two_mul x, Real.exp_add]
  linear_combination (-(Real.exp x * Real.exp x)) * Real.sin_sq_add_cos_sq y

theorem piRe1_eq (x y : ℝ) :
    piRe1 x y = Real.log ‖(1 : ℂ) + Complex.exp ((x : ℂ) + (y : ℂ) * I)‖ := by
  simp only [piRe1, transc_log, transc_sqrt, transc_exp, transc_cos, two_eq]
  rw [radicand_eq_normSq, Complex.norm_def]

theorem piIm1_eq (x y : ℝ) :
    piIm1 x y = Complex.arg ((1 : ℂ) + Complex.exp ((x : ℂ) + (y : ℂ) * I)) := by
  simp only [piIm1, transc_atan2, transc_exp, transc_cos, transc_sin]
  rw [one_add_cexp]

/-- `piRe1 + i·piIm1 = log ‖z‖ + i·arg z` is a logarithm of `z = 1 + e^{x+iy}`. At `z = 0` the identity is false over ℝ
(`Real.log 0 = 0`, so the left side is `1`), whence `hz`. -/
theorem pi_unit (x y : ℝ) (hz : (1 : ℂ) + Complex.exp ((x : ℂ) + (y : ℂ) * I) ≠ 0) :
    Complex.exp (((piRe1 x y : ℝ) : ℂ) + ((piIm1 x y : ℝ) : ℂ) * I)
      = 1 + Complex.exp ((x : ℂ) + (y : ℂ) * I) := by
  rw [piRe1_eq, piIm1_eq, Complex.exp_add, ← Complex.ofReal_exp,
    Real.exp_log (norm_pos_iff.mpr hz)]
  exact Complex.norm_mul_exp_arg_mul_I _

/-- at `y = 0` the unit's `1 + e^{x+iy}` is the positive real `1 + eˣ` -/
theorem one_add_cexp_zero (x : ℝ) :
    (1 : ℂ) + Complex.exp ((x : ℂ) + ((0 : ℝ) : ℂ) * I) = ((1 + Real.exp x : ℝ) : ℂ) := by
  simp

theorem piRe1_zero (x : ℝ) : piRe1 x 0 = Real.log (1 + Real.exp x) := by
  rw [piRe1_eq, one_add_cexp_zero, Complex.norm_real, Real.norm_of_nonneg (by positivity)]

theorem piIm1_zero (x : ℝ) : piIm1 x 0 = 0 := by
  rw [piIm1_eq, one_add_cexp_zero]
  exact Complex.arg_ofReal_of_nonneg (by positivity)

theorem piArgRe_eq (am : PRBM ℝ n h a) (v vp : Fin n → ℝ) (k : Fin a) :
    piArgRe am v vp k = (∑ j, am.U k j * (v j + vp j) + 2 * am.d k) / 2 := by
  simp only [piArgRe, two_eq, PRBM.preactA_eq, mul_comm (am.U k _), add_mul, Finset.sum_add_distrib]
  ring

theorem piArgIm_eq (ph : PRBM ℝ n h a) (v vp : Fin n → ℝ) (k : Fin a) :
    piArgIm ph v vp k = (∑ j, (v j - vp j) * ph.U k j) / 2 := by
  simp only [piArgIm, two_eq, sumFin_eq, sub_mul, Finset.sum_sub_distrib]

theorem piArgIm_self (ph : PRBM ℝ n h a) (v : Fin n → ℝ) (k : Fin a) : piArgIm ph v v k = 0 := by
  rw [piArgIm, sub_self, zero_div]

theorem piArgRe_self (am : PRBM ℝ n h a) (v : Fin n → ℝ) (k : Fin a) :
    piArgRe am v v k = am.preactA v k := by
  rw [piArgRe, two_eq, add_self_div_two]

theorem mk_exp_cos_sin (r θ : ℝ) :
    (⟨Real.exp r * Real.cos θ, Real.exp r * Real.sin θ⟩ : ℂ) = Complex.exp ((r : ℂ) + (θ : ℂ) * I) := by
  apply Complex.ext <;> simp [Complex.exp_re, Complex.exp_im]

/-- The sum over auxiliary configurations factorises unit by unit (`Fintype.prod_sum`); read from right to left it turns the
product `∏_k (1 + e^{z_k})` that `pi` computes into the partial trace over the auxiliary layer. -/
theorem sum_aux_exp (c : ℂ) (z : Fin a → ℂ) :
    ∑ aux : Fin a → Bool, Complex.exp (c + ∑ k, if aux k then z k else 0)
      = Complex.exp c * ∏ k, (1 + Complex.exp (z k)) := by
  simp only [prod_one_add_eq_sum_bool, Finset.mul_sum, Complex.exp_add, Complex.exp_sum, apply_ite Complex.exp,
    Complex.exp_zero]

/-- `rho` as a complex number, no guard: the `gamma` factor times one factor `exp(Re Π_k + i Im Π_k)` per auxiliary unit -/
theorem rho_complex_prod (am ph : PRBM ℝ n h a) (v vp : Fin n → ℝ) :
    (⟨(rho am ph v vp).1, (rho am ph v vp).2⟩ : ℂ)
      = Complex.exp (((am.gamma 1 v vp : ℝ) : ℂ) + ((ph.gamma (-1) v vp : ℝ) : ℂ) * I)
        * ∏ k, Complex.exp (((piRe1 (piArgRe am v vp k) (piArgIm ph v vp k) : ℝ) : ℂ)
            + ((piIm1 (piArgRe am v vp k) (piArgIm ph v vp k) : ℝ) : ℂ) * I) := by
  simp only [rho, pi, transc_exp, transc_cos, transc_sin, sumFin_eq]
  rw [mk_exp_cos_sin, ← Complex.exp_sum, ← Complex.exp_add]
  congr 1
  push_cast
  rw [Finset.sum_add_distrib, ← Finset.sum_mul]
  ring

/-- `hz` is the guard `NZ` of `QV/Props/C02.lean` written out; it is used only to apply `pi_unit` to each auxiliary unit. -/
theorem rho_complex_eq (am ph : PRBM ℝ n h a) (v vp : Fin n → ℝ)
    (hz : ∀ k, (1 : ℂ) + Complex.exp (((piArgRe am v vp k : ℝ) : ℂ) + ((piArgIm ph v vp k : ℝ) : ℂ) * I) ≠ 0) :
    (⟨(rho am ph v vp).1, (rho am ph v vp).2⟩ : ℂ)
      = Complex.exp (((am.gamma 1 v vp : ℝ) : ℂ) + ((ph.gamma (-1) v vp : ℝ) : ℂ) * I)
        * ∏ k, (1 + Complex.exp (((piArgRe am v vp k : ℝ) : ℂ) + ((piArgIm ph v vp k : ℝ) : ℂ) * I)) := by
  rw [rho_complex_prod]
  congr 1
  exact Finset.prod_congr rfl fun k _ => pi_unit _ _ (hz k)

open scoped ComplexConjugate in
/-- a unit's factor is conjugated when `y` changes sign, without any guard: also when `arg = π`, and at `1 + e^{x+iy} = 0` -/
theorem pi_unit_conj (x y : ℝ) :
    Complex.exp (((piRe1 x (-y) : ℝ) : ℂ) + ((piIm1 x (-y) : ℝ) : ℂ) * I)
      = conj (Complex.exp (((piRe1 x y : ℝ) : ℂ) + ((piIm1 x y : ℝ) : ℂ) * I)) := by
  have hre : piRe1 x (-y) = piRe1 x y := by simp [piRe1]
  have hz : (1 : ℂ) + Complex.exp ((x : ℂ) + ((-y : ℝ) : ℂ) * I) = conj ((1 : ℂ) + Complex.exp ((x : ℂ) + (y : ℂ) * I)) := by
    rw [map_add, map_one, ← Complex.exp_conj]
    simp
  have him : Complex.exp (((piIm1 x (-y) : ℝ) : ℂ) * I) = conj (Complex.exp (((piIm1 x y : ℝ) : ℂ) * I)) := by
    rw [piIm1_eq, piIm1_eq, hz, Complex.arg_conj, ← Complex.exp_conj]
    split_ifs with hpi
    · rw [hpi]
      simp [Complex.exp_pi_mul_I, Complex.exp_neg]
    · simp
  rw [Complex.exp_add, Complex.exp_add, map_mul, hre, him, ← Complex.ofReal_exp, Complex.conj_ofReal]

end Density
end QV
