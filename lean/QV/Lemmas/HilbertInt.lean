/-
QV.Lemmas.HilbertInt — the int64 / Python-int model of `subspace_vector` and of the `generate_hilbert_space` guard
(`QV.Model.HilbertInt`) agrees with the `Nat` model on the documented domain; outcome classes outside it.
-/
import QV.Lemmas.Hilbert
import QV.Model.HilbertInt

namespace QV

theorem effSizeZ_nat (size : Option ℕ) (nv : ℕ) : effSizeZ (size.map Int.ofNat) nv = ((effSize size nv : ℕ) : ℤ) := by
  cases size with
  | none => rfl
  | some s => cases s <;> rfl

theorem inInt64_nat (m : ℕ) (hm : m < 2 ^ 63) : inInt64 (m : ℤ) = true := by
  simp only [inInt64, Bool.and_eq_true, decide_eq_true_eq]
  omega

theorem maskRowZ_nat (s m : ℕ) (hm : m < 2 ^ 63) : maskRowZ s (m : ℤ) = maskRow s m := by
  simp only [maskRowZ, maskRow]
  congr 1
  refine List.map_congr_left (fun i _ => ?_)
  rw [mask_pos_eq_testBit]
  show (decide (i ≤ 62) && m.testBit i) = m.testBit i
  -- the int64 mask cuts off above bit 62, where `m < 2^63` has no bit anyway
  by_cases hi : i ≤ 62
  · simp [hi]
  · have hlt : m < 2 ^ i := lt_of_lt_of_le hm (Nat.pow_le_pow_right (by decide) (by omega))
    have : m.testBit i = false := Nat.testBit_lt_two_pow hlt
    simp [this]

theorem subspaceVectorZ_overflow (nv : ℕ) (num : ℤ) (size : Option ℤ) (h : num < -(2 ^ 63) ∨ 2 ^ 63 ≤ num) :
    subspaceVectorZ num size nv = .overflowError := by
  have : inInt64 num = false := by
    simp only [inInt64, Bool.and_eq_false_iff, decide_eq_false_iff_not, not_le, not_lt]
    exact h
  simp [subspaceVectorZ, this]

theorem subspaceVectorZ_nat (nv m : ℕ) (size : Option ℕ) (hm : m < 2 ^ 63) :
    subspaceVectorZ (m : ℤ) (size.map Int.ofNat) nv = .ok (subspaceVector m size nv) := by
  simp only [subspaceVectorZ, inInt64_nat m hm, if_true, effSizeZ_nat, Int.toNat_natCast, maskRowZ_nat _ m hm,
    subspaceVector]

theorem subspaceVectorZ_negsize (nv m : ℕ) (s : ℤ) (hm : m < 2 ^ 63) (hs : s < 0) : subspaceVectorZ (m : ℤ) (some s) nv = .ok [] := by
  have h0 : ¬ s = 0 := by omega
  have : s.toNat = 0 := by omega
  simp only [subspaceVectorZ, inInt64_nat m hm, if_true, effSizeZ, if_neg h0, this, maskRowZ]
  rfl

theorem spaceGuardZ_nat (nv : ℕ) (size : Option ℕ) : spaceGuardZ (size.map Int.ofNat) nv = spaceGuard size nv := by
  unfold spaceGuardZ spaceGuard
  simp only [effSizeZ_nat, maxSize, gt_iff_lt, Nat.cast_lt, Int.toNat_natCast]
  split_ifs
  · rfl
  · omega
  · rfl

theorem spaceGuardZ_neg (nv : ℕ) (s : ℤ) (hs : s < 0) : spaceGuardZ (some s) nv = .error .TypeError := by
  have h0 : ¬ s = 0 := by omega
  have h1 : ¬ s > ((20 : ℕ) : ℤ) := by omega
  unfold spaceGuardZ
  simp only [effSizeZ, if_neg h0, maxSize, if_neg h1, if_pos hs]

end QV
