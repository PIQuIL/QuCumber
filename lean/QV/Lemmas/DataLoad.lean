/-
QV.Lemmas.DataLoad — the table tokenizer of `QV.Model.DataLoad` inverts the table printer, on the tables the
writer-side predicates `GoodTok` / `GoodRow` / `RectTable` / `BigTable` describe; shape (squeeze) facts of the
`np.loadtxt` model; boolean-mask selection as an index filter.
-/
import Mathlib.Data.List.Basic
import Mathlib.Data.List.FinRange
import QV.Model.DataLoad

namespace QV.DataLoad

/-- a token the writer may emit: non-empty, no field separator, no line end, no comment character -/
def GoodTok (t : Token) : Prop := t ≠ [] ∧ ∀ c ∈ t, isWs c = false ∧ isNl c = false ∧ c ≠ '#'

/-- a printable table row: at least one token, all of them good -/
def GoodRow (r : List Token) : Prop := r ≠ [] ∧ ∀ t ∈ r, GoodTok t

/-- an `N × m` table of good tokens with `N, m ≥ 2`: the target files (`2^n × 2` for a wavefunction, `2^n × 2^n` for a
matrix part), which no squeeze of the default `ndmin=0` read touches -/
def BigTable (rows : List (List Token)) : Prop :=
  (∀ r ∈ rows, GoodRow r) ∧ 2 ≤ rows.length ∧ ∃ m, 2 ≤ m ∧ ∀ r ∈ rows, r.length = m

/-- a rectangular table of writable tokens: any number `N ≥ 0` of rows, each of `m` good tokens
(`m ≥ 1` as soon as there is a row, by `GoodRow`) -/
def RectTable (rows : List (List Token)) (m : Nat) : Prop :=
  (∀ r ∈ rows, GoodRow r) ∧ ∀ r ∈ rows, r.length = m

/-- the list of bases as written in a `bases_path` file (read with `ndmin=1`): a one-column file (one basis
word per line — the form used by tutorial 3) or a one-row file is the 1-D list of its tokens; any other
table is the 2-D table. -/
def basesAsWritten {τ : Type} (T : List (List τ)) (m : Nat) : Arr τ :=
  if T.length ≤ 1 ∨ m ≤ 1 then .vec T.flatten else .mat T

theorem stripComment_append_hash {l : List Char} (c : List Char) (h : ∀ x ∈ l, x ≠ '#') :
    stripComment (l ++ '#' :: c) = l := by
  rw [stripComment, List.takeWhile_append_of_pos (fun x hx => by simpa using h x hx), List.takeWhile_cons_of_neg (by simp),
    List.append_nil]

theorem stripComment_eq_self {l : List Char} (h : ∀ c ∈ l, c ≠ '#') : stripComment l = l := by
  induction l with
  | nil => rfl
  | cons a l ih =>
    rw [stripComment, List.takeWhile_cons_of_pos (by simpa using h a List.mem_cons_self)]
    exact congrArg _ (ih fun c hc => h c (List.mem_cons_of_mem _ hc))

theorem splitWs_append_ws (a b : List Char) {c : Char} (hc : isWs c = true) :
    splitWs (a ++ c :: b) = splitWs a ++ splitWs b := by
  simp [splitWs, List.splitOnP_append_cons a b hc]

theorem splitWs_tok {t : Token} (ht : t ≠ []) (h : ∀ c ∈ t, isWs c = false) : splitWs t = [t] := by
  simp [splitWs, List.splitOnP_eq_singleton h, ht]

theorem splitWs_nil : splitWs [] = [] := by simp [splitWs]

theorem splitWs_intercalate (toks : List Token) (h : ∀ t ∈ toks, GoodTok t) :
    splitWs ([' '].intercalate toks) = toks := by
  induction toks with
  | nil => simp [splitWs_nil]
  | cons t ts ih =>
    have ht := h t (by simp)
    have hts : ∀ t' ∈ ts, GoodTok t' := fun t' ht' => h t' (by simp [ht'])
    have h1 : splitWs t = [t] := splitWs_tok ht.1 (fun c hc => (ht.2 c hc).1)
    cases ts with
    | nil => simpa using h1
    | cons t' ts' =>
      rw [List.intercalate_cons_cons, List.append_assoc, List.singleton_append,
        splitWs_append_ws _ _ (by decide), h1, ih hts]
      rfl

theorem forall_mem_intercalate {p : Char → Prop} (hsp : p ' ') {r : List Token} (h : ∀ t ∈ r, ∀ c ∈ t, p c) :
    ∀ c ∈ [' '].intercalate r, p c := by
  intro c hc
  induction r with
  | nil => simp at hc
  | cons t ts ih =>
    cases ts with
    | nil =>
      rw [List.intercalate_singleton] at hc
      exact h t List.mem_cons_self c hc
    | cons t' ts' =>
      rw [List.intercalate_cons_cons] at hc
      simp only [List.mem_append, List.mem_singleton] at hc
      rcases hc with (hc | rfl) | hc
      · exact h t List.mem_cons_self c hc
      · exact hsp
      · exact ih (fun x hx => h x (List.mem_cons_of_mem _ hx)) hc

theorem parseLine_row {r : List Token} (h : ∀ t ∈ r, GoodTok t) :
    parseLine ([' '].intercalate r) = r := by
  rw [parseLine, stripComment_eq_self (forall_mem_intercalate (by decide) fun t ht c hc => ((h t ht).2 c hc).2.2),
    splitWs_intercalate r h]

theorem parseLine_comment {l : List Char} (c : List Char) (h : ∀ x ∈ l, x ≠ '#') :
    parseLine (l ++ '#' :: c) = parseLine l := by
  rw [parseLine, parseLine, stripComment_append_hash c h, stripComment_eq_self h]

theorem tokenize_append_nl (l rest : List Char) {c : Char} (hc : isNl c = true)
    (h : ∀ x ∈ l, isNl x = false) :
    tokenize (l ++ c :: rest) = (if (parseLine l).isEmpty then [] else [parseLine l]) ++ tokenize rest := by
  unfold tokenize
  rw [List.splitOnP_append_cons_of_forall_mem h c hc rest, List.map_cons, List.filter_cons]
  cases (parseLine l).isEmpty <;> simp

theorem tokenize_nil : tokenize [] = [] := by
  simp [tokenize, parseLine, stripComment, splitWs]

/-- C19.7a -/
theorem tokenize_printTable (rows : List (List Token)) (h : ∀ r ∈ rows, GoodRow r) :
    tokenize (printTable rows) = rows := by
  induction rows with
  | nil => simp [printTable, tokenize_nil]
  | cons r rs ih =>
    have hr := h r (by simp)
    have ih' := ih (fun x hx => h x (by simp [hx]))
    simp only [printTable] at ih' ⊢
    rw [List.map_cons, List.flatten_cons, List.append_assoc, List.singleton_append,
      tokenize_append_nl _ _ (by decide) (forall_mem_intercalate (by decide) fun t ht c hc => ((hr.2 t ht).2 c hc).2.1), parseLine_row hr.2, ih']
    cases r with
    | nil => exact absurd rfl hr.1
    | cons _ _ => simp

/-! ### shapes -/

theorem rect_all_length_eq {τ : Type} {r0 : List τ} {rest : List (List τ)} {m : Nat}
    (hrect : ∀ r ∈ r0 :: rest, r.length = m) : rest.all (fun r => r.length == r0.length) = true := by
  rw [List.all_eq_true]
  intro r hr
  rw [hrect r (List.mem_cons_of_mem _ hr), hrect r0 List.mem_cons_self]
  exact beq_self_eq_true _

theorem ragged_not_all_length_eq {τ : Type} {r0 : List τ} {rest : List (List τ)} (h : ∃ r ∈ rest, r.length ≠ r0.length) :
    rest.all (fun r => r.length == r0.length) = false := by
  obtain ⟨r, hr, hne⟩ := h
  exact List.all_eq_false.2 ⟨r, hr, by simpa using hne⟩

theorem shapeTable_rect {τ : Type} (b : Bool) {r0 : List τ} {rest : List (List τ)} {m : Nat}
    (hrect : ∀ r ∈ r0 :: rest, r.length = m) : shapeTable b (r0 :: rest) = .ok (squeeze b (r0 :: rest)) := by
  rw [shapeTable, rect_all_length_eq hrect]
  rfl

theorem squeeze_rect {τ : Type} (b : Bool) {r0 r1 : List τ} {rs : List (List τ)} {m : Nat}
    (hrect : ∀ r ∈ r0 :: r1 :: rs, r.length = m) :
    squeeze b (r0 :: r1 :: rs) = if m = 1 then .vec (r0 :: r1 :: rs).flatten else .mat (r0 :: r1 :: rs) := by
  simp only [squeeze]
  split_ifs with h1 hm hm
  · rfl
  · exact absurd (by simpa [hrect r0 List.mem_cons_self] using List.all_eq_true.1 h1 r0 List.mem_cons_self) hm
  · exact absurd (List.all_eq_true.2 fun r hr => by rw [hrect r hr, hm]; rfl) h1
  · rfl

theorem shapeTable_mat {τ : Type} (b : Bool) (rows : List (List τ)) (m : Nat) (hN : 2 ≤ rows.length)
    (hm : 2 ≤ m) (hrect : ∀ r ∈ rows, r.length = m) : shapeTable b rows = .ok (.mat rows) := by
  match rows, hN with
  | r0 :: r1 :: rs, _ => rw [shapeTable_rect b hrect, squeeze_rect b hrect, if_neg (by omega)]

theorem shapeTable_one_row {τ : Type} (b : Bool) (r : List τ) (h : 2 ≤ r.length) :
    shapeTable b [r] = .ok (.vec r) := by
  match r, h with
  | x :: y :: zs, _ => rfl

theorem shapeTable_one_col {τ : Type} (b : Bool) (rows : List (List τ)) (hN : 2 ≤ rows.length)
    (hcol : ∀ r ∈ rows, r.length = 1) : shapeTable b rows = .ok (.vec rows.flatten) := by
  match rows, hN with
  | r0 :: r1 :: rs, _ => rw [shapeTable_rect b hcol, squeeze_rect b hcol, if_pos rfl]

theorem shapeTable_single {τ : Type} (b : Bool) (x : τ) :
    shapeTable b [[x]] = .ok (if b then .vec [x] else .scalar x) := rfl

theorem shapeTable_ragged {τ : Type} (b : Bool) (r0 : List τ) (rest : List (List τ))
    (h : ∃ r ∈ rest, r.length ≠ r0.length) : shapeTable b (r0 :: rest) = .error .ValueError := by
  rw [shapeTable, ragged_not_all_length_eq h]
  rfl

/-! ### number conversion -/

theorem convertRow_ok {ν : Type} (parse : Token → Option ν) (round : ν → ν) (val : Token → ν)
    (r : List Token) (h : ∀ t ∈ r, parse t = some (val t)) :
    convertRow parse round r = .ok (r.map (fun t => round (val t))) := by
  induction r with
  | nil => rfl
  | cons t ts ih =>
    simp [convertRow, h t (by simp), ih (fun x hx => h x (by simp [hx]))]

theorem convertRows_ok {ν : Type} (parse : Token → Option ν) (round : ν → ν) (val : Token → ν)
    (rows : List (List Token)) (h : ∀ r ∈ rows, ∀ t ∈ r, parse t = some (val t)) :
    convertRows parse round rows = .ok (rows.map (fun r => r.map (fun t => round (val t)))) := by
  induction rows with
  | nil => rfl
  | cons r rs ih =>
    simp [convertRows, convertRow_ok parse round val r (h r (by simp)),
      ih (fun x hx => h x (by simp [hx]))]

theorem convertRow_valueError_or_ok {ν : Type} (parse : Token → Option ν) (round : ν → ν) (r : List Token) :
    convertRow parse round r = .error .ValueError ∨ ∃ vs, convertRow parse round r = .ok vs := by
  induction r with
  | nil => exact .inr ⟨_, rfl⟩
  | cons t ts ih =>
    rw [convertRow]
    cases parse t with
    | none => exact .inl rfl
    | some v =>
      rcases ih with e | ⟨vs, e⟩
      · rw [e]; exact .inl rfl
      · rw [e]; exact .inr ⟨_, rfl⟩

theorem convertRow_bad {ν : Type} (parse : Token → Option ν) (round : ν → ν) (r : List Token)
    (h : ∃ t ∈ r, parse t = none) : convertRow parse round r = .error .ValueError := by
  induction r with
  | nil => simp at h
  | cons t ts ih =>
    rw [convertRow]
    cases hp : parse t with
    | none => rfl
    | some v =>
      obtain ⟨t', ht', hn⟩ := h
      rcases List.mem_cons.1 ht' with rfl | ht'
      · rw [hp] at hn; cases hn
      · rw [ih ⟨t', ht', hn⟩]

theorem convertRows_bad {ν : Type} (parse : Token → Option ν) (round : ν → ν)
    (rows : List (List Token)) (h : ∃ r ∈ rows, ∃ t ∈ r, parse t = none) :
    convertRows parse round rows = .error .ValueError := by
  induction rows with
  | nil => simp at h
  | cons r rs ih =>
    rw [convertRows]
    rcases convertRow_valueError_or_ok parse round r with e | ⟨v, e⟩ <;> rw [e]
    obtain ⟨r', hr', hx⟩ := h
    rcases List.mem_cons.1 hr' with rfl | hr'
    · rw [convertRow_bad parse round r' hx] at e; cases e
    · rw [ih ⟨r', hr', hx⟩]

theorem loadtxtNum_big {ν : Type} (parse : Token → Option ν) (round : ν → ν) (val : Token → ν)
    (rows : List (List Token)) (h : BigTable rows) (hp : ∀ r ∈ rows, ∀ t ∈ r, parse t = some (val t)) :
    loadtxtNum parse round (printTable rows)
      = .ok (.mat (rows.map (fun r => r.map (fun t => round (val t))))) := by
  obtain ⟨hg, hN, m, hm, hrect⟩ := h
  rw [loadtxtNum, tokenize_printTable rows hg, convertRows_ok parse round val rows hp]
  exact shapeTable_mat false _ m (by simpa using hN) hm (by
    intro r hr; obtain ⟨r', hr', rfl⟩ := List.mem_map.1 hr; simpa using hrect r' hr')

/-! ### `ndmin=2`: no squeeze (F18) -/

theorem BigTable.rect {rows : List (List Token)} (h : BigTable rows) : ∃ m, RectTable rows m := by
  obtain ⟨hg, _, m, _, hrect⟩ := h
  exact ⟨m, hg, hrect⟩

theorem shapeTable2_rect {τ : Type} (rows : List (List τ)) (m : Nat) (hrect : ∀ r ∈ rows, r.length = m) :
    shapeTable2 rows = .ok (.mat rows) := by
  cases rows with
  | nil => rfl
  | cons r0 rest =>
    rw [shapeTable2, rect_all_length_eq hrect]
    rfl

theorem shapeTable2_ragged {τ : Type} (r0 : List τ) (rest : List (List τ))
    (h : ∃ r ∈ rest, r.length ≠ r0.length) : shapeTable2 (r0 :: rest) = .error .ValueError := by
  rw [shapeTable2, ragged_not_all_length_eq h]
  rfl

theorem loadtxtStr2_rect (rows : List (List Token)) (m : Nat) (h : RectTable rows m) :
    loadtxtStr2 (printTable rows) = .ok (.mat rows) := by
  rw [loadtxtStr2, tokenize_printTable rows h.1, shapeTable2_rect rows m h.2]

theorem loadtxtNum2_rect {ν : Type} (parse : Token → Option ν) (round : ν → ν) (val : Token → ν)
    (rows : List (List Token)) (m : Nat) (h : RectTable rows m)
    (hp : ∀ r ∈ rows, ∀ t ∈ r, parse t = some (val t)) :
    loadtxtNum2 parse round (printTable rows)
      = .ok (.mat (rows.map (fun r => r.map (fun t => round (val t))))) := by
  rw [loadtxtNum2, tokenize_printTable rows h.1, convertRows_ok parse round val rows hp]
  exact shapeTable2_rect _ m (by
    intro r hr; obtain ⟨r', hr', rfl⟩ := List.mem_map.1 hr; simpa using h.2 r' hr')

/-! ### `ndmin=1`: the `bases_path` file -/

theorem shapeTable_true_basesAsWritten {τ : Type} (rows : List (List τ)) (m : Nat) (hne : ∀ r ∈ rows, r ≠ [])
    (hrect : ∀ r ∈ rows, r.length = m) : shapeTable true rows = .ok (basesAsWritten rows m) := by
  match rows with
  | [] => rfl
  | [r] =>
    match r, hne r List.mem_cons_self with
    | [x], _ => rfl
    | x :: y :: zs, _ => exact (shapeTable_one_row true _ (by simp)).trans (by simp [basesAsWritten])
  | r0 :: r1 :: rs =>
    have hm : 0 < m := hrect r0 List.mem_cons_self ▸ List.length_pos_of_ne_nil (hne r0 List.mem_cons_self)
    rw [shapeTable_rect true hrect, squeeze_rect true hrect, basesAsWritten]
    by_cases h1 : m = 1
    · rw [if_pos h1, if_pos (.inr (Nat.le_of_eq h1))]
    · rw [if_neg h1, if_neg (by simp only [List.length_cons]; omega)]

theorem loadtxtStr_true_basesAsWritten (rows : List (List Token)) (m : Nat) (h : RectTable rows m) :
    loadtxtStr true (printTable rows) = .ok (basesAsWritten rows m) := by
  rw [loadtxtStr, tokenize_printTable rows h.1, shapeTable_true_basesAsWritten rows m (fun r hr => (h.1 r hr).1) h.2]

/-! ### boolean-mask selection -/

theorem rowAllZ_eq : rowAllZ = fun r : List Token => decide (∀ t ∈ r, t = ['Z']) := by
  funext r
  rw [Bool.eq_iff_iff]
  simp [rowAllZ, zTok, List.all_eq_true]

theorem maskSelect_eq_filter {τ : Type} (xs : List τ) (bs : List Bool) (h : xs.length = bs.length) :
    maskSelect xs bs = ((xs.zip bs).filter (fun p => p.2)).map Prod.fst := by
  induction xs generalizing bs with
  | nil => cases bs <;> simp [maskSelect]
  | cons x xs ih =>
    cases bs with
    | nil => simp at h
    | cons b bs =>
      have := ih bs (by simpa using h)
      cases b <;> simp [maskSelect, this]

theorem maskSelect_sublist {τ : Type} (xs : List τ) (bs : List Bool) : (maskSelect xs bs).Sublist xs := by
  induction xs generalizing bs with
  | nil => cases bs <;> exact List.nil_sublist _
  | cons x xs ih =>
    cases bs with
    | nil => exact List.nil_sublist _
    | cons b bs =>
      cases b
      · exact (ih bs).cons x
      · exact (ih bs).cons_cons x

/-- the form `C19_refbasis` is stated in: `List.finRange` lists the positions in increasing order -/
theorem maskSelect_map_eq_finRange {τ υ : Type} (xs : List τ) (ys : List υ) (p : υ → Bool)
    (h : xs.length = ys.length) :
    maskSelect xs (ys.map p)
      = ((List.finRange xs.length).filter (fun i => p (ys[i.val]'(h ▸ i.isLt)))).map (fun i => xs[i.val]) := by
  induction xs generalizing ys with
  | nil => cases ys <;> simp [maskSelect]
  | cons x xs ih =>
    cases ys with
    | nil => cases h
    | cons y ys =>
      have := ih ys (Nat.succ.inj h)
      simp only [List.map_cons, List.length_cons, List.finRange_succ, List.filter_cons, Fin.val_zero,
        List.getElem_cons_zero, List.filter_map]
      cases hp : p y <;> simp [maskSelect, this, Function.comp_def]

theorem maskSelect_length {τ : Type} (xs : List τ) (bs : List Bool) (h : xs.length = bs.length) :
    (maskSelect xs bs).length = bs.count true := by
  induction xs generalizing bs with
  | nil => cases bs <;> first | rfl | cases h
  | cons x xs ih =>
    cases bs with
    | nil => cases h
    | cons b bs =>
      have := ih bs (Nat.succ.inj h)
      cases b
      · exact this.trans (List.count_cons_of_ne (by decide)).symm
      · exact (congrArg (· + 1) this).trans List.count_cons_self.symm

end QV.DataLoad
