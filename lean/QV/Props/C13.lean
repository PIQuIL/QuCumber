/-
C13 — Streaming observable statistics equal the statistics of all drawn samples.

"However the requested number of samples is split into parallel chains and successive draws, the reported mean,
variance (unbiased), standard error and sample count equal those computed in one pass over the concatenation of
every drawn sample; the count is the number of chains times the number of draws and is never less than requested.
The burn-in is applied once before the first draw and the given number of steps between later draws on the same
continuing chains, and evaluating several observables together gives each the result it would get alone on the
same chain states."

All theorems: ∀ value lists over ℝ, ∀ numbers of chains / draws / samples, ∀ burn-in and step counts, ∀ samplers
(the sampler is an arbitrary function of the call number and the call), ∀ lists of observables.
Model definitions: QV.Model.Stats (`updateStatistics`, `fromSamples`, `obsStatistics`, `sysStatistics`, `draws`,
`chainSetup`, `numTimeSteps`, `systemInit`, `systemStatistics`, `systemFromSamples`, `obsSample`), executed (Float)
against `_update_statistics`, `ObservableBase.statistics / statistics_from_samples / sample` and
`System.__init__ / statistics / statistics_from_samples` by the C13 correspondence check.
`C13_gen_merge` speaks about the definition translated from the Python source of `_update_statistics`
(QV/Gen/UpdateStatistics.lean) instead of the hand-written `updateStatistics`. In `C13_mean_stationary` the sampler is a
probabilistic program (`drawsProg`, `recEnv` of QV.Model.StatsProg); everywhere else it is an arbitrary recorded function.
The one-pass statistics `mean`, `uvar`, `onePass` the results are compared with are defined here, through `List.sum`.

FINDING (System/same-name-observables-merged, known finding F19): `System` keys its observables by `name`, so "any set of observables"
holds only for pairwise different names (`C13_system_nodup`); observables sharing a name — `SigmaX()` and
`SigmaX(absolute=True)`, `SWAP([0])` and `SWAP([1])` — are merged into the last one (`C13_system_dict`,
`C13_system_same_name_merged`).
-/
import Mathlib.Analysis.SpecialFunctions.Sqrt
import Mathlib.Tactic.FieldSimp
import Mathlib.Tactic.Ring
import Mathlib.Tactic.Linarith
import QV.Model.Stats
import QV.Model.Observables
import QV.Lemmas.Stats
import QV.Lemmas.Unbiased
import QV.GenBridge.UpdateStatistics

namespace QV.Props
namespace C13
open QV QV.Stats

/-! ### Specification: one-pass statistics of a list of reals -/

noncomputable def mean (xs : List ℝ) : ℝ := xs.sum / xs.length
/-- sum of squared deviations from the mean -/
noncomputable def ssd (xs : List ℝ) : ℝ := (xs.map (fun x => (x - mean xs) ^ 2)).sum
/-- unbiased sample variance; for a single value this is Lean's `0 / 0 = 0`, which is why `onePass` and the theorems
below only use it under `2 ≤ xs.length` -/
noncomputable def uvar (xs : List ℝ) : ℝ := ssd xs / ((xs.length : ℝ) - 1)
/-- mean, unbiased variance, standard error `sqrt(var / n)` and count in one pass; the variance and the standard
error of fewer than two values are undefined (`none`, Python `nan`). -/
noncomputable def onePass (xs : List ℝ) : Stat ℝ :=
  ⟨mean xs, if 2 ≤ xs.length then some (uvar xs) else none,
   if 2 ≤ xs.length then some (Real.sqrt (uvar xs / xs.length)) else none, xs.length⟩

theorem meanL_eq (xs : List ℝ) : meanL xs = mean xs := by
  simp [meanL, mean]

theorem uvarL_eq (xs : List ℝ) : uvarL xs = if 2 ≤ xs.length then some (uvar xs) else none := by
  unfold uvarL
  by_cases h : 2 ≤ xs.length
  · have h' : xs.length > 1 := h
    simp only [h', h, if_true, sumList_eq_sum, transc_ofNat, meanL_eq, uvar, ssd]
    rw [Nat.cast_sub (by omega)]
    simp [pow_two]
  · have h' : ¬ xs.length > 1 := by omega
    simp [h', h]

theorem mean_mul_length (xs : List ℝ) (h : 1 ≤ xs.length) : mean xs * xs.length = xs.sum :=
  div_mul_cancel₀ _ (Nat.cast_ne_zero.mpr (by omega))

theorem ssd_eq (xs : List ℝ) (h : 1 ≤ xs.length) :
    ssd xs = (xs.map (fun x => x * x)).sum - xs.sum * xs.sum / xs.length := by
  have hn : (xs.length : ℝ) ≠ 0 := by positivity
  have := sum_sq_sub xs (mean xs)
  simp only [ssd, pow_two, this]
  unfold mean
  field_simp
  ring

/-- the merge identity of Chan et al. on the sums `A B` and sums of squares `P Q` of `n` and `m` values -/
theorem chan_identity (A B P Q n m : ℝ) (hn : n ≠ 0) (hm : m ≠ 0) (hnm : n + m ≠ 0) :
    P + Q - (A + B) * (A + B) / (n + m)
      = P - A * A / n + (Q - B * B / m) + (B / m - A / n) * (B / m - A / n) * n * m / (n + m) := by
  field_simp
  ring

theorem ssd_append (xs ys : List ℝ) (hx : 1 ≤ xs.length) (hy : 1 ≤ ys.length) :
    ssd (xs ++ ys) = ssd xs + ssd ys
      + (mean ys - mean xs) * (mean ys - mean xs) * xs.length * ys.length / ((xs.length + ys.length : ℕ) : ℝ) := by
  rw [ssd_eq xs hx, ssd_eq ys hy, ssd_eq (xs ++ ys) (by rw [List.length_append]; omega)]
  simp only [List.map_append, List.sum_append, List.length_append, mean, Nat.cast_add]
  exact chan_identity _ _ _ _ _ _ (Nat.cast_ne_zero.mpr (by omega)) (Nat.cast_ne_zero.mpr (by omega))
    (by rw [← Nat.cast_add]; exact Nat.cast_ne_zero.mpr (by omega))

theorem scaledVar_spec (xs : List ℝ) (va : Option ℝ) (hx : 1 ≤ xs.length)
    (hva : 2 ≤ xs.length → va = some (uvar xs)) : scaledVar va xs.length = some (ssd xs) := by
  unfold scaledVar
  by_cases h : 2 ≤ xs.length
  · have hne : (xs.length : ℝ) - 1 ≠ 0 := by
      rw [← Nat.cast_pred (by omega)]
      exact Nat.cast_ne_zero.mpr (by omega)
    rw [if_pos (show xs.length > 1 from h), hva h, Option.map_some, transc_ofNat, Nat.cast_pred (by omega), uvar,
      div_mul_cancel₀ _ hne]
  · rw [if_neg (show ¬ xs.length > 1 from h)]
    match xs, (show xs.length = 1 by omega) with
    | [x], _ => simp [ssd, mean]

/-! ### C13.1 — the pairwise merge -/

/-- the result of `statistics_from_samples` on per-sample values `xs` is their one-pass statistics -/
theorem C13_fromSamples (xs : List ℝ) (h : xs ≠ []) : fromSamples xs = .ok (onePass xs) := by
  rw [fromSamples_of_ne_nil xs h, statOf, meanL_eq, uvarL_eq, onePass]
  by_cases h2 : 2 ≤ xs.length
  · rw [if_pos h2, if_pos h2]
    rfl
  · rw [if_neg h2, if_neg h2]
    rfl

/-- **C13.1** merging the (mean, unbiased variance, count) of two non-empty chunks gives the (mean, unbiased
variance, count) of their concatenation. The variance reported for a one-value chunk (`nan` in the code) is
arbitrary: the result does not depend on it. -/
theorem C13_merge (xs ys : List ℝ) (va vb : Option ℝ) (hx : 1 ≤ xs.length) (hy : 1 ≤ ys.length)
    (hva : 2 ≤ xs.length → va = some (uvar xs)) (hvb : 2 ≤ ys.length → vb = some (uvar ys)) :
    updateStatistics (mean xs) va xs.length (mean ys) vb ys.length
      = (mean (xs ++ ys), some (uvar (xs ++ ys)), (xs ++ ys).length) := by
  have hx0 : (xs.length == 0) = false := beq_eq_false_iff_ne.mpr (by omega)
  have h1 : xs.length + ys.length > 1 := by omega
  unfold updateStatistics
  simp only [hx0, Bool.false_and, Bool.false_eq_true, if_false, scaledVar_spec xs va hx hva,
    scaledVar_spec ys vb hy hvb, oadd, h1, if_true, Option.map_some, transc_ofNat]
  refine Prod.ext ?_ (Prod.ext ?_ ?_)
  · rw [mean_mul_length xs hx, mean_mul_length ys hy]
    simp [mean]
  · simp only [uvar, ssd_append xs ys hx hy, List.length_append]
    rw [Nat.cast_sub (by omega)]
    push_cast
    rfl
  · exact List.length_append.symm

/-- **C13.1 for the translated source (translator tie, composed).** The definition TRANSLATED FROM THE PYTHON SOURCE of
`_update_statistics` (QV/Gen/UpdateStatistics.lean, regenerated from the checked tree on every run), applied to the (mean,
unbiased variance, count) of two non-empty chunks, returns the (mean, unbiased variance, count) of their concatenation —
finite values, whatever variance (also nan) is reported for a one-value chunk. -/
theorem C13_gen_merge (xs ys : List ℝ) (va vb : Option ℝ) (hx : 1 ≤ xs.length) (hy : 1 ≤ ys.length)
    (hva : 2 ≤ xs.length → va = some (uvar xs)) (hvb : 2 ≤ ys.length → vb = some (uvar ys)) :
    QV.Gen.UpdateStatistics.updateStatistics (some (mean xs)) va (xs.length : Int) (some (mean ys)) vb (ys.length : Int)
      = (some (mean (xs ++ ys)), some (uvar (xs ++ ys)), ((xs ++ ys).length : Int)) := by
  rw [C13_gen_update_eq_model, C13_merge xs ys va vb hx hy hva hvb]
  rfl

/-- the hypotheses of `C13_gen_merge` are met: [1, 4] merged with the one-value chunk [7] whose variance is nan -/
example : QV.Gen.UpdateStatistics.updateStatistics (some (mean [1, 4])) (some (uvar [1, 4])) (2 : Int) (some (mean [7])) none (1 : Int)
    = (some (mean [1, 4, 7]), some (uvar [1, 4, 7]), (3 : Int)) :=
  C13_gen_merge [1, 4] [7] (some (uvar [1, 4])) none (by simp) (by simp) (fun _ => rfl) (fun h => absurd h (by simp))

theorem oadd_zero_left (x : Option ℝ) : oadd (some 0) x = x := by
  cases x with
  | none => rfl
  | some v => exact congrArg some (zero_add v)

theorem oadd_zero_right (x : Option ℝ) : oadd x (some 0) = x := by
  cases x with
  | none => rfl
  | some v => exact congrArg some (add_zero v)

/-- what is left of `updateStatistics`' variance when the other operand is empty: `scaledVar` multiplies by `n - 1`, the
last line divides by it again -/
theorem scaledVar_unscale (v : Option ℝ) (n : ℕ) :
    (if n > 1 then (scaledVar v n).map (fun x => x / Transc.ofNat (n - 1)) else none) = if 2 ≤ n then v else none := by
  by_cases h : 2 ≤ n
  · have hne : ((n - 1 : ℕ) : ℝ) ≠ 0 := Nat.cast_ne_zero.mpr (by omega)
    rw [if_pos h, if_pos (show n > 1 from h), scaledVar, if_pos (show n > 1 from h)]
    cases v with
    | none => rfl
    | some x => exact congrArg some (mul_div_cancel_right₀ x hne)
  · rw [if_neg h, if_neg (show ¬ n > 1 from h)]

/-- **C13.1'** an empty left operand (the state before the first draw) returns the right one; the right one's
variance is kept only if it is defined. -/
theorem C13_merge_empty_left (a : ℝ) (va : Option ℝ) (b : ℝ) (vb : Option ℝ) (m : ℕ) (hm : 1 ≤ m) :
    updateStatistics a va 0 b vb m = (b, if 2 ≤ m then vb else none, m) := by
  have hm0 : (m == 0) = false := beq_eq_false_iff_ne.mpr (by omega)
  have hmR : (m : ℝ) ≠ 0 := Nat.cast_ne_zero.mpr (by omega)
  rw [updateStatistics, hm0, Bool.and_false, if_neg Bool.false_ne_true]
  simp only [transc_ofNat, Nat.cast_zero, mul_zero, zero_mul, zero_div, zero_add]
  rw [show scaledVar va 0 = some 0 from rfl, oadd_zero_left, oadd_zero_right, mul_div_cancel_right₀ b hmR]
  exact congrArg (fun v => (b, v, m)) (scaledVar_unscale vb m)

/-- **C13.1''** an empty right operand (a draw that produced nothing) returns the left one; its variance is kept
only if it is defined (at least two values). Whatever mean / variance is reported for the empty chunk is ignored. -/
theorem C13_merge_empty_right (a : ℝ) (va : Option ℝ) (b : ℝ) (vb : Option ℝ) (n : ℕ) (hn : 1 ≤ n) :
    updateStatistics a va n b vb 0 = (a, if 2 ≤ n then va else none, n) := by
  have hn0 : (n == 0) = false := beq_eq_false_iff_ne.mpr (by omega)
  have hnR : (n : ℝ) ≠ 0 := Nat.cast_ne_zero.mpr (by omega)
  rw [updateStatistics, hn0, Bool.false_and, if_neg Bool.false_ne_true]
  simp only [transc_ofNat, Nat.cast_zero, mul_zero, zero_div, add_zero]
  rw [show scaledVar vb 0 = some 0 from rfl, oadd_zero_right, oadd_zero_right, mul_div_cancel_right₀ a hnR]
  exact congrArg (fun v => (a, v, n)) (scaledVar_unscale va n)

/-- the executed check (`merge_case` in harness/c13.py) splits a dataset of `N` values at every `s ∈ 0..N` and merges the two
parts' statistics; this is the split `s = N`, where the right part is empty -/
theorem C13_merge_split_end (xs : List ℝ) (hx : 1 ≤ xs.length) (b : ℝ) (vb : Option ℝ) :
    updateStatistics (mean xs) (uvarL xs) xs.length b vb 0
      = (mean xs, if 2 ≤ xs.length then some (uvar xs) else none, xs.length) := by
  rw [C13_merge_empty_right _ _ _ _ _ hx, uvarL_eq]
  by_cases h : 2 ≤ xs.length <;> simp [h]

/-! ### C13.2 — the streaming fold over any chunking -/

/-- the invariant of the streaming loop: after the values `A` the running triple is their mean, unbiased variance
(undefined below two values) and count -/
noncomputable def accOf (A : List ℝ) : ℝ × Option ℝ × ℕ :=
  (mean A, if 2 ≤ A.length then some (uvar A) else none, A.length)

theorem accStep_accOf (c : ℕ) (A ys : List ℝ) (hA : 1 ≤ A.length) (hys : ys.length = c) (hc : 1 ≤ c) :
    accStep c (accOf A) (statOf ys) = accOf (A ++ ys) := by
  subst hys
  simp only [accStep, statOf, meanL_eq, uvarL_eq, accOf]
  rw [C13_merge A ys _ _ hA hc (fun h => if_pos h) (fun h => if_pos h), if_pos (by rw [List.length_append]; omega)]

theorem accStep_first (c : ℕ) (ys : List ℝ) (hys : ys.length = c) (hc : 1 ≤ c) :
    accStep c (0, some 0, 0) (statOf ys) = accOf ys := by
  subst hys
  simp only [accStep, statOf, meanL_eq, uvarL_eq, accOf]
  rw [C13_merge_empty_left _ _ _ _ _ hc]
  by_cases h : 2 ≤ ys.length
  · rw [if_pos h]
  · rw [if_neg h, if_neg h]

theorem foldl_accOf (c : ℕ) (hc : 1 ≤ c) (L : List (List ℝ)) (hlen : ∀ ys ∈ L, ys.length = c) (A : List ℝ)
    (hA : 1 ≤ A.length) : (L.map statOf).foldl (accStep c) (accOf A) = accOf (A ++ L.flatten) := by
  induction L generalizing A with
  | nil => simp
  | cons ys L ih =>
    rw [List.map_cons, List.foldl_cons, accStep_accOf c A ys hA (hlen ys (List.mem_cons_self ..)) hc,
      ih (fun z hz => hlen z (List.mem_cons_of_mem _ hz)) _ (by rw [List.length_append]; omega), List.flatten_cons,
      List.append_assoc]

theorem finish_accOf (A : List ℝ) (hA : 1 ≤ A.length) : finish (accOf A) = .ok (onePass A) := by
  have hne : (A.length == 0) = false := beq_eq_false_iff_ne.mpr (by omega)
  simp only [finish, accOf, hne, Bool.false_eq_true, if_false, onePass]
  by_cases h : 2 ≤ A.length
  · rw [if_pos h, if_pos h]
    rfl
  · rw [if_neg h, if_neg h]
    rfl

theorem length_flatten_const (c : ℕ) (L : List (List ℝ)) (hlen : ∀ ys ∈ L, ys.length = c) :
    L.flatten.length = L.length * c := by
  rw [List.length_flatten, List.map_congr_left hlen, List.map_const', List.sum_replicate, smul_eq_mul]

/-- **C13.2** for every chunking of the drawn values into `T ≥ 1` chunks of `c ≥ 1` values, folding
`_update_statistics` over the chunks' own statistics and finishing as `statistics` does returns the mean, the
unbiased variance, `sqrt(var / (T·c))` and the count `T·c` of the concatenation (variance and standard error
undefined exactly when `T·c = 1`). -/
theorem C13_stream (c : ℕ) (hc : 1 ≤ c) (L : List (List ℝ)) (hL : L ≠ []) (hlen : ∀ ys ∈ L, ys.length = c) :
    finish (foldStats c (L.map statOf)) = .ok (onePass L.flatten) ∧ L.flatten.length = L.length * c := by
  refine ⟨?_, length_flatten_const c L hlen⟩
  match L, hL with
  | ys :: L, _ =>
    have hys := hlen ys (List.mem_cons_self ..)
    rw [foldStats, List.map_cons, List.foldl_cons, accStep_first c ys hys hc,
      foldl_accOf c hc L (fun z hz => hlen z (List.mem_cons_of_mem _ hz)) ys (by omega), List.flatten_cons]
    exact finish_accOf _ (by rw [List.length_append]; omega)

/-! ### C13.3 — number of chains, number of draws, count -/

section count
variable {σ : Type}

/-- **C13.3a** the number of chains: the rows of a user-provided `initial_state`, else `num_chains` unless it is
0 or exceeds `num_samples`, in which case `num_samples`. -/
theorem C13_count_chains (env : Env σ) (a : Args σ) :
    (chainSetup env a).2 = match a.init with
      | some s => env.rows s
      | none => if a.numChains = 0 ∨ a.numSamples < a.numChains then a.numSamples else a.numChains := by
  unfold chainSetup
  cases a.init with
  | some s => rfl
  | none =>
    simp only
    by_cases h0 : a.numChains = 0
    · simp [h0]
    · by_cases hlt : a.numSamples < a.numChains
      · simp [h0, hlt, Nat.min_eq_right (Nat.le_of_lt hlt)]
      · simp [h0, hlt, Nat.min_eq_left (Nat.le_of_not_lt hlt)]

/-- **C13.3b** the number of draws is `⌈num_samples / c⌉`: `num_samples ≤ T·c < num_samples + c`, so the count
`T·c` is never less than requested and exceeds it by less than one round of chains. -/
theorem C13_count (ns c T : ℕ) (h : numTimeSteps ns c = .ok T) : 1 ≤ c ∧ ns ≤ T * c ∧ T * c < ns + c := by
  unfold numTimeSteps at h
  split at h
  · contradiction
  · rename_i hc
    have hc' : 1 ≤ c := Nat.pos_of_ne_zero fun h0 => hc (beq_iff_eq.mpr h0)
    have hdm := Nat.div_add_mod ns c
    have hml := Nat.mod_lt ns hc'
    rw [Nat.mul_comm] at hdm
    cases h
    refine ⟨hc', ?_⟩
    split
    · rename_i hmod
      rw [beq_iff_eq] at hmod
      omega
    · rename_i hmod
      rw [beq_iff_eq] at hmod
      rw [Nat.add_mul]
      omega

/-- with at least one requested sample there is at least one draw -/
theorem C13_count_pos (ns c T : ℕ) (h : numTimeSteps ns c = .ok T) (hns : 1 ≤ ns) : 1 ≤ T := by
  obtain ⟨_, h1, _⟩ := C13_count ns c T h
  exact Nat.pos_of_ne_zero (by rintro rfl; omega)

theorem numTimeSteps_ok (ns c : ℕ) (hc : 1 ≤ c) : ∃ T, numTimeSteps ns c = .ok T := by
  unfold numTimeSteps
  rw [beq_eq_false_iff_ne.mpr (by omega : c ≠ 0)]
  exact ⟨_, rfl⟩

end count

/-! ### C13.4 — burn-in / steps schedule and chain threading -/

section schedule
variable {σ : Type}

/-- the calls form one continuing chain: each call's `initial_state` is the previous call's return value, every
call asks for `c` samples with `overwrite=True`, and the recorded state is what the sampler returned. -/
inductive Threaded (env : Env σ) (c : ℕ) : ℕ → Option σ → List (SampleCall σ × σ) → Prop
  | nil (i : ℕ) (ch : Option σ) : Threaded env c i ch []
  | cons (i : ℕ) (ch : Option σ) (call : SampleCall σ) (st : σ) (rest : List (SampleCall σ × σ)) :
      call.init = ch → call.numSamples = c → call.overwrite = true → st = env.samp i call →
      Threaded env c (i + 1) (some st) rest → Threaded env c i ch ((call, st) :: rest)

/-- **C13.4a** the `k` arguments of the `T ≥ 1` sampler calls are `[burn_in, steps, …, steps]`. -/
theorem C13_schedule (env : Env σ) (c burnIn steps T : ℕ) (hT : 1 ≤ T) (ch : Option σ) :
    (draws env c burnIn steps T 0 ch).map (fun d => d.1.k) = burnIn :: List.replicate (T - 1) steps := by
  obtain ⟨n, rfl⟩ : ∃ n, T = n + 1 := ⟨T - 1, by omega⟩
  simp only [draws, List.map_cons, Nat.add_sub_cancel]
  rw [draws_k_of_ne_zero env c burnIn steps n 1 (by omega)]
  simp [gibbsK]

/-- **C13.4b** there are exactly `T` calls and they are threaded from the initial `chains` object. -/
theorem C13_schedule_threaded (env : Env σ) (c burnIn steps T i : ℕ) (ch : Option σ) :
    (draws env c burnIn steps T i ch).length = T ∧ Threaded env c i ch (draws env c burnIn steps T i ch) := by
  refine ⟨draws_length .., ?_⟩
  induction T generalizing i ch with
  | zero => exact .nil i ch
  | succ n ih => exact .cons i ch _ _ _ rfl rfl rfl rfl (ih (i + 1) _)

/-- **C13.4c** the first call starts from nothing (fresh random chains), from the user's own tensor when
`overwrite=True`, and from a clone of it otherwise. -/
theorem C13_schedule_start (env : Env σ) (a : Args σ) :
    (chainSetup env a).1 = match a.init with
      | none => none
      | some u => some (if a.overwrite then u else env.clone u) := by
  unfold chainSetup
  cases a.init <;> rfl

/-- **C13.4d** the caller's `initial_state` is untouched unless `overwrite`: with `overwrite=False`, if `clone`
returns a different object and the sampler only ever returns the caller's object when it was handed that object,
then no sampler call of the loop (all of which may overwrite their argument) receives the caller's object, and no
drawn state is the caller's object. (With `overwrite=True` the first call receives the caller's very tensor:
`C13_schedule_start`.) -/
theorem C13_schedule_untouched (env : Env σ) (ident : σ → ℕ) (a : Args σ) (u : σ) (T : ℕ)
    (hinit : a.init = some u) (hov : a.overwrite = false) (hclone : ident (env.clone u) ≠ ident u)
    (hsamp : ∀ j call, ident (env.samp j call) = ident u → ∃ s, call.init = some s ∧ ident s = ident u) :
    ∀ d ∈ draws env (chainSetup env a).2 a.burnIn a.steps T 0 (chainSetup env a).1,
      (∀ s, d.1.init = some s → ident s ≠ ident u) ∧ ident d.2 ≠ ident u := by
  refine draws_untouched env ident u _ _ _ T 0 _ hsamp ?_
  intro s hs
  rw [C13_schedule_start, hinit] at hs
  simp only [hov, Bool.false_eq_true, if_false, Option.some.injEq] at hs
  rw [← hs]
  exact hclone

end schedule

/-! ### the whole of `ObservableBase.statistics` -/

section whole
variable {σ : Type}

/-- **C13.2 + C13.3 + C13.4 for `ObservableBase.statistics`**: with at least one requested sample and at least
one chain, for an observable producing one value per chain, the call succeeds; the returned dictionary is the
one-pass statistics of the concatenation of the observable's values on every drawn chain state; the count is
`T·c ≥ num_samples`; the sampler calls are those of `draws`. -/
theorem C13_statistics_one_pass (env : Env σ) (f : σ → List ℝ) (a : Args σ) (hns : 1 ≤ a.numSamples)
    (hc : 1 ≤ (chainSetup env a).2) (hf : ∀ st, (f st).length = (chainSetup env a).2) :
    ∃ T, numTimeSteps a.numSamples (chainSetup env a).2 = .ok T ∧ 1 ≤ T ∧
      let ds := draws env (chainSetup env a).2 a.burnIn a.steps T 0 (chainSetup env a).1
      obsStatistics env f a = .ok (onePass (ds.map (fun d => f d.2)).flatten, ds.map (·.1)) ∧
      ((ds.map (fun d => f d.2)).flatten).length = T * (chainSetup env a).2 ∧
      a.numSamples ≤ T * (chainSetup env a).2 := by
  obtain ⟨T, hT⟩ := numTimeSteps_ok a.numSamples _ hc
  have hTpos := C13_count_pos _ _ _ hT hns
  obtain ⟨_, hge, _⟩ := C13_count _ _ _ hT
  have hne : ∀ st, f st ≠ [] := fun st h => by
    have := hf st
    rw [h] at this
    exact absurd this (by simp only [List.length_nil]; omega)
  obtain ⟨hfin, hcount⟩ := C13_stream _ hc
    ((draws env (chainSetup env a).2 a.burnIn a.steps T 0 (chainSetup env a).1).map (fun d => f d.2))
    (fun h => by rw [← List.length_eq_zero_iff, List.length_map, draws_length] at h; omega)
    (fun ys hys => by obtain ⟨d, _, rfl⟩ := List.mem_map.mp hys; exact hf d.2)
  rw [List.length_map, draws_length] at hcount
  rw [List.map_map] at hfin
  refine ⟨T, hT, hTpos, ?_, hcount, hge⟩
  unfold obsStatistics
  simp only [hT]
  rw [collect_map_ok _ _ (fun d : SampleCall σ × σ => statOf (f d.2)) fun d _ => fromSamples_of_ne_nil _ (hne d.2)]
  simp only
  rw [show finish (foldStats _ (List.map (fun d : SampleCall σ × σ => statOf (f d.2)) _)) = _ from hfin]

end whole

/-! ### C13.5 — several observables together -/

section system
variable {σ : Type}

/-- **C13.5 (list level)** `System.statistics`' loop over the dictionary VALUES `fs` (one entry per distinct name, see
`C13_system_init`): every entry gets exactly the dictionary (and the run makes exactly the sampler calls) that
`ObservableBase.statistics` gives for that observable alone with the same sampler, hence on the same chain states; in
particular `total_samples` equals each observable's own count. (Observables are assumed to return at least one value
per batch, so that no call fails half-way.) The user-level statements are `C13_system_dict` / `C13_system_nodup`. -/
theorem C13_system (env : Env σ) (fs : List (σ → List ℝ)) (a : Args σ) (hne : ∀ f ∈ fs, ∀ st, f st ≠ [])
    (j : ℕ) (hj : j < fs.length) :
    (sysStatistics env fs a).map (fun r => (r.1[j]?, r.2))
      = (obsStatistics env fs[j] a).map (fun r => (some r.1, r.2)) := by
  rw [sysStatistics_of_ne_nil env fs a hne]
  unfold obsStatistics
  simp only
  cases numTimeSteps a.numSamples (chainSetup env a).2 with
  | error e => rfl
  | ok T =>
    simp only
    generalize hds : draws env (chainSetup env a).2 a.burnIn a.steps T 0 (chainSetup env a).1 = ds
    rw [collect_map_ok ds _ (fun d => statOf (fs[j] d.2)) fun d _ =>
      fromSamples_of_ne_nil _ (hne _ (List.getElem_mem hj) d.2)]
    simp only
    -- alone, observable `j` counts `T·c` values after the `T` draws: the count `System.statistics` shares
    have hlen : (foldStats (chainSetup env a).2 (ds.map (fun d => statOf (fs[j] d.2)))).2.2
        = T * (chainSetup env a).2 := by
      rw [foldStats, foldl_accStep_len, List.length_map, ← hds, draws_length]
      exact Nat.zero_add _
    have key : (sysFinish (fs.map (fun f => meanVar
          (foldStats (chainSetup env a).2 (ds.map (fun d => statOf (f d.2))))), T * (chainSetup env a).2)).map (·[j]?)
        = (finish (foldStats (chainSetup env a).2 (ds.map (fun d => statOf (fs[j] d.2))))).map some := by
      rw [sysFinish_getElem? _ _ j (by rw [List.length_map]; exact hj), List.getElem_map, ← hlen]
      rfl
    -- both sides wrap these two results with the same sampler calls: compare them case by case
    revert key
    generalize sysFinish (α := ℝ) _ = x
    generalize finish (α := ℝ) _ = y
    intro key
    cases x <;> cases y
    · cases key; rfl
    · cases key
    · cases key
    · exact congrArg (fun o => Except.ok (o, ds.map (·.1))) (Except.ok.inj key)

/-- **C13.5'** `total_samples` (reported as `num_samples` for every observable) is the number of draws times the
number of chains, whatever the observables are: it is updated once per draw, after the per-observable loop. -/
theorem C13_system_count (c m : ℕ) (rows : List (List (Stat ℝ))) :
    (sysFold c m rows).2 = rows.length * c := by
  simpa [sysFold] using foldl_sysStep_total c rows (List.replicate m (0, some 0)) 0

end system

/-! ### C13.5 for `System` as the user calls it: observables keyed by name; `statistics_from_samples`; `sample` -/

section system_dict
variable {σ κ : Type} [BEq κ] [LawfulBEq κ]

/-- **C13.5a** `System.__init__`: the dictionary has one entry per distinct name, in order of first occurrence, and
the entry stored under a name is the LAST observable given with that name — observables sharing a name are merged. -/
theorem C13_system_init {β : Type} (obs : List (κ × β)) :
    (systemInit obs).map (·.1) = firstOcc (obs.map (·.1)) ∧ ((systemInit obs).map (·.1)).Nodup ∧
      (∀ n, (systemInit obs).lookup n = obs.reverse.lookup n) ∧ (∀ e ∈ systemInit obs, e ∈ obs) :=
  ⟨systemInit_keys obs, by rw [systemInit_keys]; exact firstOcc_nodup _, systemInit_lookup obs, mem_systemInit obs⟩

/-- with pairwise different names the dictionary is exactly the given list of observables -/
theorem C13_system_init_nodup {β : Type} (obs : List (κ × β)) (h : (obs.map (·.1)).Nodup) : systemInit obs = obs := by
  induction obs using List.reverseRecOn with
  | nil => rfl
  | append_singleton obs o ih =>
    rw [List.map_append, List.nodup_append] at h
    have hnot : ¬ obs.any (fun e => e.1 == o.1) = true := fun hany =>
      h.2.2 _ ((any_key_iff obs o.1).mp hany) _ (List.mem_singleton_self _) rfl
    rw [systemInit_concat, ih h.1, dictSet, if_neg hnot]

/-- **C13.5b** (`System.statistics` as called by the user, any names): the entry returned under the name `n` is
exactly the dictionary — and the run makes exactly the sampler calls — that `ObservableBase.statistics` gives, alone
with the same sampler, for the LAST observable that was given with the name `n`. -/
theorem C13_system_dict (env : Env σ) (obs : List (κ × (σ → List ℝ))) (a : Args σ)
    (hne : ∀ o ∈ obs, ∀ st, o.2 st ≠ []) (n : κ) (f : σ → List ℝ) (hlast : obs.reverse.lookup n = some f) :
    (systemStatistics env obs a).map (fun r => (r.1.lookup n, r.2))
      = (obsStatistics env f a).map (fun r => (some r.1, r.2)) := by
  have hne' := systemInit_ne_nil obs hne
  -- the dictionary is `l₁ ++ (n, f) :: l₂` with no key `n` in `l₁`, so what `lookup n` finds in the zipped result is
  -- position `l₁.length` of the list-level result, to which `C13_system` applies
  obtain ⟨l₁, l₂, hsplit, hl₁⟩ := List.lookup_eq_some_iff.mp ((systemInit_lookup obs n).trans hlast)
  unfold systemStatistics
  simp only
  rw [hsplit] at hne' ⊢
  have key := C13_system env _ a hne' l₁.length (by simp)
  rw [show ((l₁ ++ (n, f) :: l₂).map (·.2))[l₁.length]'(by simp) = f by simp] at key
  rw [← key]
  cases sysStatistics env ((l₁ ++ (n, f) :: l₂).map (·.2)) a with
  | error e => rfl
  | ok r => exact congrArg (fun o => Except.ok (o, r.2)) (lookup_zip_at l₁ l₂ n f hl₁ r.1)

/-- **C13.5 keys** — the keys of the dictionary `System.statistics` returns are exactly the NAMES of the observables
given, each once, in order of first occurrence (for observables returning at least one value per batch): nothing is
dropped but a repeated name, nothing is added, nothing is renamed or reordered. With `C13_system_dict` (what is stored
under each key) this determines the whole result. -/
theorem C13_system_keys_of_names (env : Env σ) (obs : List (κ × (σ → List ℝ))) (a : Args σ)
    (hne : ∀ o ∈ obs, ∀ st, o.2 st ≠ []) (r : List (κ × Stat ℝ) × List (SampleCall σ))
    (h : systemStatistics env obs a = .ok r) :
    r.1.map (·.1) = firstOcc (obs.map (·.1)) := by
  unfold systemStatistics at h
  simp only at h
  split at h
  · cases h
  · rename_i q hs
    cases h
    rw [← systemInit_keys]
    refine List.map_fst_zip (Nat.le_of_eq ?_)
    rw [sysStatistics_length env _ a (systemInit_ne_nil obs hne) hs, List.length_map, List.length_map]

/-- **C13.5** (the statement's clause, for sets of observables with pairwise different names): evaluating the
observables together gives EACH of them — under its own name — exactly the dictionary it would get alone with the
same sampler, hence on the same chain states, and the same sampler calls are made. -/
theorem C13_system_nodup (env : Env σ) (obs : List (κ × (σ → List ℝ))) (a : Args σ)
    (hne : ∀ o ∈ obs, ∀ st, o.2 st ≠ []) (hnd : (obs.map (·.1)).Nodup) (j : ℕ) (hj : j < obs.length) :
    (systemStatistics env obs a).map (fun r => (r.1.lookup obs[j].1, r.2))
      = (obsStatistics env obs[j].2 a).map (fun r => (some r.1, r.2)) := by
  refine C13_system_dict env obs a hne _ _ ?_
  refine lookup_of_nodup obs.reverse ?_ obs[j] (by simp)
  rw [List.map_reverse, List.nodup_reverse]; exact hnd

/-- **FINDING (System/same-name-observables-merged)** two observables given with the same name: the returned
dictionary has the single key `n`, and its entry is what the SECOND observable gets alone — the first observable's
statistics are not reported at all (whatever its values are). -/
theorem C13_system_same_name_merged (env : Env σ) (n : κ) (f g : σ → List ℝ) (a : Args σ)
    (hf : ∀ st, f st ≠ []) (hg : ∀ st, g st ≠ []) :
    (systemStatistics env [(n, f), (n, g)] a).map (fun r => (r.1.map (·.1), r.1.lookup n, r.2))
      = (obsStatistics env g a).map (fun r => ([n], some r.1, r.2)) := by
  have hne : ∀ o ∈ [(n, f), (n, g)], ∀ st, o.2 st ≠ [] := by
    intro o ho st
    simp only [List.mem_cons, List.not_mem_nil, or_false] at ho
    rcases ho with rfl | rfl
    · exact hf st
    · exact hg st
  have key := C13_system_dict env [(n, f), (n, g)] a hne n g (by simp)
  cases hs : systemStatistics env [(n, f), (n, g)] a with
  | error e =>
    rw [hs] at key
    cases ho : obsStatistics env g a with
    | error e' => rw [ho] at key; cases key; rfl
    | ok q => rw [ho] at key; cases key
  | ok r =>
    have hk : r.1.map (·.1) = [n] := by
      rw [C13_system_keys_of_names env _ a hne r hs]
      simp [firstOcc]
    rw [hs] at key
    cases ho : obsStatistics env g a <;> rw [ho] at key
    · cases key
    · simp only [Except.map, Except.ok.injEq, Prod.mk.injEq] at key ⊢
      exact ⟨hk, key⟩

/-- **C13.6** `System.statistics_from_samples`: the entry under the name `n` is the one-pass statistics of the values
of the last observable given with that name on the given batch (for non-empty values). -/
theorem C13_system_fromSamples (obs : List (κ × (σ → List ℝ))) (samples : σ)
    (hne : ∀ o ∈ obs, o.2 samples ≠ []) (n : κ) (f : σ → List ℝ) (hlast : obs.reverse.lookup n = some f) :
    (systemFromSamples obs samples).map (fun r => r.lookup n) = .ok (some (onePass (f samples))) := by
  have hcol : systemFromSamples obs samples
      = .ok ((systemInit obs).map (fun o => (o.1, onePass (o.2 samples)))) := by
    unfold systemFromSamples
    refine collect_map_ok _ _ _ (fun o ho => ?_)
    rw [C13_fromSamples _ (hne o (mem_systemInit obs o ho))]
  rw [hcol, Except.map, lookup_map_val (systemInit obs) (fun _ g => onePass (g samples)) n, systemInit_lookup, hlast]
  rfl

/-- **C13.8** the empty set of observables, `System()`: whenever the chain count is positive, `System.statistics` makes
exactly the sampler calls of the loop (the same `draws` as for any other set: burn-in first, then `steps`, threaded) and
returns the empty dictionary. -/
theorem C13_system_empty (env : Env σ) (a : Args σ) (T : ℕ)
    (hT : numTimeSteps a.numSamples (chainSetup env a).2 = .ok T) :
    systemStatistics (κ := κ) env ([] : List (κ × (σ → List ℝ))) a
      = .ok ([], (draws env (chainSetup env a).2 a.burnIn a.steps T 0 (chainSetup env a).1).map (·.1)) := by
  unfold systemStatistics
  simp only [systemInit, List.foldl_nil, List.map_nil]
  rw [sysStatistics_of_ne_nil env [] a (fun _ h => nomatch h), hT]
  rfl

/-- an empty batch: every observable's `statistics_from_samples` divides by `len(obs_samples) = 0` -/
theorem C13_fromSamples_empty : fromSamples ([] : List ℝ) = .error .ZeroDivisionError := rfl

end system_dict

section sample
variable {σ : Type}

/-- **C13.7** `ObservableBase.sample`: exactly one sampler call, receiving the caller's `num_samples`, `k`,
`initial_state` and `overwrite` unchanged, and the values are the observable on the tensor that call returned. -/
theorem C13_sample (env : Env σ) (f : σ → List ℝ) (k ns : ℕ) (init : Option σ) (ow : Bool) :
    obsSample env f k ns init ow
      = (f (env.samp 0 { numSamples := ns, k := k, init := init, overwrite := ow }),
         { numSamples := ns, k := k, init := init, overwrite := ow }) := rfl

end sample

/-! ### `to_01` next to `to_pm1` (observables/utils.py:16-33): the two spin conventions are inverse to each other -/

theorem C13_to01_toPm1 (x : ℝ) : to01 (toPm1 x) = x := by
  simp only [to01, toPm1, two_eq]; ring

theorem C13_toPm1_to01 (s : ℝ) : toPm1 (to01 s) = s := by
  simp only [to01, toPm1, two_eq]; ring

/-- on the bits themselves: `to_01` sends the spin of a bit (`0 ↦ −1`, `1 ↦ +1`) back to the bit -/
theorem C13_to01_spin (b : Bool) : to01 (spin b : ℝ) = bit b := C13_to01_toPm1 _

example : to01 (-1 : ℝ) = 0 ∧ to01 (1 : ℝ) = 1 := by
  constructor <;> norm_num [to01, two_eq]


/-! ### C13.9 — the reported mean under a stationary sampler (composition with C05; used by C08/C09)

`Stats.drawsProg` is the loop of `draws` with the `i`-th sampler call made a probabilistic program (`QV.Model.StatsProg`);
`Stats.recEnv` turns one of its outcomes into the recorded sampler that `obsStatistics` reads.  No `Prog` of the whole
`statistics` call exists in `QV.Model.Stats` (the sampler is a recorded function there), so the statement has two halves:
(i) for EVERY recorded execution of `T` draws the dictionary `obsStatistics` returns has the one-pass mean of the drawn values
(`C13_statistics_one_pass` on `recEnv`) and the sampler calls carry `k = [burn_in, steps, …]`; (ii) the expectation of that
mean over the joint law of the `T` threaded draws. -/

section stationary
open Prog
variable {σ : Type}

/-- **C13.9** (expectation of the reported mean).  Let the `i`-th call `nn_state.sample(k_i, initial_state=chains,
overwrite=True)` of the statistics loop be the program `sampleK k_i chains` and let the distribution `μ` of the chain
states be invariant under every such call.  For an observable `F` returning one value per chain (`c ≥ 1` chains), any
`num_samples ≥ 1`, `burn_in`, `steps`, and the caller's `initial_state` drawn from `μ`:
(i) every execution's dictionary is the one-pass statistics of the `T·c` drawn values, `T = ⌈num_samples/c⌉`, with the
`k` schedule `[burn_in, steps, …, steps]`, and (ii) the EXPECTATION of the reported mean over the joint law of the `T`
successive (dependent: the chains continue) draws is the `μ`-average of the per-batch mean of `F` — whatever `burn_in`,
`steps`, `num_samples` are. -/
theorem C13_mean_stationary [Fintype σ] [DecidableEq σ] (sampleK : ℕ → σ → Prog ℝ σ) (μ : σ → ℝ)
    (hinv : ∀ k w, ∑ v, μ v * (sampleK k v).law w = μ w)
    (F : σ → List ℝ) (c : ℕ) (hc : 1 ≤ c) (hF : ∀ st, (F st).length = c)
    (ns nc burnIn steps : ℕ) (hns : 1 ≤ ns) (ow : Bool) (dflt : σ) :
    ∃ T, numTimeSteps ns c = .ok T ∧ 1 ≤ T ∧ ns ≤ T * c ∧
      (∀ (s₀ : σ) (sts : List σ), sts.length = T →
        ∃ calls, obsStatistics (recEnv c sts dflt) F ⟨ns, nc, burnIn, steps, some s₀, ow⟩
            = .ok (onePass ((sts.map F).flatten), calls)
          ∧ calls.map (·.k) = burnIn :: List.replicate (T - 1) steps) ∧
      ∑ s₀, μ s₀ * (drawsProg sampleK burnIn steps T 0 s₀).expect (fun sts => mean ((sts.map F).flatten))
        = ∑ s, μ s * mean (F s) := by
  obtain ⟨T, hT⟩ := numTimeSteps_ok ns c hc
  have hTpos := C13_count_pos _ _ _ hT hns
  obtain ⟨_, hge, _⟩ := C13_count _ _ _ hT
  refine ⟨T, hT, hTpos, hge, ?_, ?_⟩
  · intro s₀ sts hlen
    obtain ⟨T', hT', _, h1, _⟩ := C13_statistics_one_pass (recEnv c sts dflt) F
      ⟨ns, nc, burnIn, steps, some s₀, ow⟩ hns hc hF
    cases Except.ok.inj (hT.symm.trans hT')
    subst hlen
    exact ⟨_, h1.trans (congrArg (fun l => Except.ok (onePass (List.flatten l), _))
        ((List.map_map ..).symm.trans (congrArg (List.map F) (draws_recEnv_all c sts dflt burnIn steps _)))),
      (List.map_map ..).trans (C13_schedule _ c burnIn steps _ hTpos _)⟩
  · have hTR : (T : ℝ) ≠ 0 := Nat.cast_ne_zero.mpr (by omega)
    -- every outcome has `T` states, hence `T·c` values: its mean is the sum of the per-draw sums over the CONSTANT `T·c`
    have hcongr : ∀ s₀, (drawsProg sampleK burnIn steps T 0 s₀).expect (fun sts => mean ((sts.map F).flatten))
        = (drawsProg sampleK burnIn steps T 0 s₀).expect (fun sts => (sts.map (fun st => (F st).sum)).sum)
            / ((T * c : ℕ) : ℝ) := by
      intro s₀
      rw [← Prog.expect_div_const]
      refine drawsProg_expect_congr sampleK burnIn steps T 0 s₀ _ _ (fun l hl => ?_)
      rw [mean, List.sum_flatten, length_flatten_const c (l.map F) (by
        intro ys hys
        obtain ⟨st, _, rfl⟩ := List.mem_map.mp hys
        exact hF st), List.map_map, List.length_map, hl]
      rfl
    simp only [hcongr, ← mul_div_assoc]
    -- linearity over the (dependent) draws: the expected sum is `T` times the `μ`-average of one batch's sum; `T` cancels
    rw [← Finset.sum_div, drawsProg_expect_sum sampleK μ hinv]
    have hm : ∀ s, mean (F s) = (F s).sum / c := by intro s; rw [mean, hF s]
    simp only [hm, ← mul_div_assoc]
    rw [← Finset.sum_div, Nat.cast_mul, mul_div_mul_left _ _ hTR]

end stationary

/-! ### Non-vacuity -/

/-- the merged pair of the finding, concretely: `f ≡ [0, 0]` and `g ≡ [1, 1]` under one name, one draw of two
chains — the system reports mean 1 under that name, while `f` alone has mean 0. -/
example (env : Env Unit) :
    ∃ r s, systemStatistics env [("SigmaX", fun _ => [(0 : ℝ), 0]), ("SigmaX", fun _ => [1, 1])] ⟨2, 2, 0, 0, none, false⟩ = .ok r ∧
      r.1.map (·.1) = ["SigmaX"] ∧ obsStatistics env (fun _ => [(0 : ℝ), 0]) ⟨2, 2, 0, 0, none, false⟩ = .ok s ∧
      (r.1.lookup "SigmaX").map (·.mean) = some 1 ∧ s.1.mean = 0 := by
  have hm := C13_system_same_name_merged env "SigmaX" (fun _ => [(0 : ℝ), 0]) (fun _ => [1, 1]) ⟨2, 2, 0, 0, none, false⟩
    (fun _ => List.cons_ne_nil _ _) (fun _ => List.cons_ne_nil _ _)
  obtain ⟨T, hT, -, hg, -⟩ := C13_statistics_one_pass env (fun _ => [(1 : ℝ), 1]) ⟨2, 2, 0, 0, none, false⟩
    (Nat.le_succ 1) (Nat.le_succ 1) (fun _ => rfl)
  obtain ⟨T', hT', -, hf, -⟩ := C13_statistics_one_pass env (fun _ => [(0 : ℝ), 0]) ⟨2, 2, 0, 0, none, false⟩
    (Nat.le_succ 1) (Nat.le_succ 1) (fun _ => rfl)
  have h1 : numTimeSteps 2 2 = .ok 1 := by decide
  cases Except.ok.inj (hT.symm.trans h1)
  cases Except.ok.inj (hT'.symm.trans h1)
  rw [hg] at hm
  generalize systemStatistics (κ := String) (α := ℝ) env _ _ = x at hm ⊢
  cases x with
  | error e => cases hm
  | ok r =>
    have h2 := Prod.mk.inj (Except.ok.inj hm)
    refine ⟨r, _, rfl, h2.1, hf, ?_, show mean [(0 : ℝ), 0] = 0 by norm_num [mean]⟩
    rw [(Prod.mk.inj h2.2).1]
    exact congrArg some (show mean [(1 : ℝ), 1] = 1 by norm_num [mean])

/-- three chunks of two values: hypotheses of `C13_stream` hold and the one-pass variance is defined -/
example : finish (foldStats 2 ([[1, 4], [2, 2], [7, -3]].map statOf))
    = .ok (onePass [1, 4, 2, 2, 7, -3]) :=
  (C13_stream 2 (by decide) [[1, 4], [2, 2], [7, -3]] (List.cons_ne_nil _ _) (by decide)).1

/-- one chain (single-value chunks, variance of each chunk undefined): the case that raised before fix F6 -/
example : finish (foldStats 1 ([[5], [-1], [3]].map statOf)) = .ok (onePass [5, -1, 3]) :=
  (C13_stream 1 (by decide) [[5], [-1], [3]] (List.cons_ne_nil _ _) (by decide)).1

/-- burn-in 7 once, then 2 steps before each of the two later draws; 7 requested samples on 3 chains are 3 draws -/
example (env : Env ℕ) : (draws env 3 7 2 3 0 none).map (fun d => d.1.k) = [7, 2, 2] :=
  C13_schedule env 3 7 2 3 (by decide) none

/-- two observables that always return two values satisfy the hypothesis of `C13_system` -/
example (env : Env ℕ) (a : Args ℕ) :
    (sysStatistics env [fun s => [(s : ℝ), 1], fun s => [2, -(s : ℝ)]] a).map (fun r => (r.1[1]?, r.2))
      = (obsStatistics env (fun s => [2, -(s : ℝ)]) a).map (fun r => (some r.1, r.2)) :=
  C13_system env _ a (fun f hf st => by
    rcases List.mem_pair.mp hf with rfl | rfl <;> exact List.cons_ne_nil _ _) 1 (by decide)

example : numTimeSteps 7 3 = .ok 3 := by decide
example : numTimeSteps 0 0 = .error .ZeroDivisionError := by decide

end C13
end QV.Props
