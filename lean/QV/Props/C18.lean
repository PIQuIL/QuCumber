/-
C18 — Early stopping halts exactly when its documented convergence rule is met.

"With period, patience p, tolerance and criterion given, training is stopped at the first checked epoch
at which the monitored quantity's deviation between the current evaluation and the evaluation p
evaluations earlier — relative, absolute, or scaled by that earlier evaluation's standard deviation, as
selected — is below the tolerance, and at no earlier epoch; it never stops before p earlier evaluations
exist and never by comparing an evaluation with itself. The variance criterion is refused for plain
metrics, and the deprecated variance-based class behaves as the variance criterion."

All theorems: ∀ sequences of monitored values (functions of the world token of each epoch), ∀ patience
p ≥ 1, ∀ periods ≥ 1 of evaluator and stopper, BOTH orders of evaluator and stopper in the callback list,
∀ tolerances, ∀ earlier histories of the evaluator (`prev`: evaluations made in earlier runs), metric and
observable evaluators.  Model: QV.Model.EarlyStop on top of QV.Model.Callbacks, instantiated at ℝ
(executed at Float against the code by the C18 correspondence check).

No guards.  The degenerate comparisons — `relative` with reference value `M_{t−p} = 0`, `variance` with
`var_{t−p} ≤ 0` — are part of the statement: the deviation is then the extended value `⊤` ("inf or nan" in the
code, after the F8 fix for Python floats as well as for numpy floats), which is below NO tolerance, so the
stopper neither stops nor raises there (`C18_degenerate_no_stop`).  The model produces these values by an explicit
test, never by Mathlib's totalised `x / 0 = 0` (see QV/Model/EarlyStop.lean).  Tolerances range over `ℝ ∪ {∞}`
(`Option ℝ`, `none = float("inf")`, `tolSpec`): every defined deviation is below `∞`, a degenerate one is not.
(F8, repaired: before the fix a Python-float zero reference raised `ZeroDivisionError` out of `fit`.)

Beyond the property text the file has: several stop sources in one callback list (`C18_first_stop_multi`: other stoppers and
callbacks that request a stop; a request once made stands), sessions of consecutive `fit` calls on the same evaluator and stopper
(`C18_session_traces`), the tie of the early-stopping loop to the event protocol of C12 (`C18_fit_cases`, `C18_stop_trace`: the
loop IS `QV.Train.fit` run with the stop requests derived from evaluator and stopper), and the composition with the formulas
translated from the Python source (`C18_gen_deviation_is_documented`; bridge in QV/GenBridge/EarlyStopping.lean).  The
constructor theorems, `C18_stop_request_stands*`, `C18_fit_entered_stopped` and the part of the C12 tie that assumes a returning
run (`C18_derived_requests` … `C18_fitRunMulti_is_C12_fit`) hold for every scalar type.
-/
import Mathlib.Analysis.SpecialFunctions.Sqrt
import Mathlib.Order.WithBot
import QV.Model.EarlyStop
import QV.Real
import QV.Lemmas.Callbacks
import QV.Lemmas.EarlyStopFit
import QV.Props.C17
import QV.GenBridge.EarlyStopping

namespace QV.Props
namespace C18
open QV.Props.C17
open QV QV.Cb

variable {W : Type}

/-! ### specification (the documented rule) -/

/-- one evaluation as the rule sees it: the monitored value `M` and its variance -/
structure Obs where
  M : ℝ
  var : ℝ

/-- the three deviations of the class docstring (early_stopping.py:27-47), reference first, as extended reals:
`⊤` where the quotient is undefined — zero reference (relative), non-positive variance (variance criterion) —
which the code computes as inf or nan -/
noncomputable def devSpec : Criterion → Obs → Obs → WithTop ℝ
  | .relative, ref, cur => if ref.M = 0 then ⊤ else ((|ref.M - cur.M| / |ref.M| : ℝ) : WithTop ℝ)
  | .absolute, ref, cur => ((|ref.M - cur.M| : ℝ) : WithTop ℝ)
  | .variance, ref, cur => if ref.var ≤ 0 then ⊤ else ((|ref.M - cur.M| / Real.sqrt ref.var : ℝ) : WithTop ℝ)

/-- the tolerance as an extended real: `none` is `float("inf")` -/
def tolSpec : Option ℝ → WithTop ℝ
  | none => ⊤
  | some t => (t : WithTop ℝ)

/-- the documented rule on the evaluations `M₀ … M_t` present when the stopper looks:
`t ≥ p ∧ dev(M_{t−p}, M_t) < tol` (in `ℝ ∪ {∞}`: an undefined deviation is below nothing, a defined one is below `∞`) -/
def StopRule (crit : Criterion) (p : ℕ) (tol : WithTop ℝ) (hist : List Obs) : Prop :=
  ∃ (t : ℕ) (ref cur : Obs), hist.length = t + 1 ∧ p ≤ t ∧ hist[t - p]? = some ref ∧ hist[t]? = some cur ∧
    devSpec crit ref cur < tol

/-- the comparison at the end of `hist` is degenerate: zero reference (relative) / non-positive variance (variance) -/
def Degenerate (crit : Criterion) (p : ℕ) (hist : List Obs) : Prop :=
  ∃ (t : ℕ) (ref : Obs), hist.length = t + 1 ∧ p ≤ t ∧ hist[t - p]? = some ref ∧
    ((crit = .relative ∧ ref.M = 0) ∨ (crit = .variance ∧ ref.var ≤ 0))

/-- the evaluation points an evaluator of period `pe` adds while the epochs `cs` go by -/
def evalPoints (pe : Int) (cs : List (Int × W)) : List (Int × W) := cs.filter (fun x => decide (pe ∣ x.1))

/-- the evaluation points present when the STOPPER looks at candidate epoch `x`, `pre` being the epochs of
this run before it and `prev` the evaluations of earlier runs: with the evaluator first in the callback
list this epoch's own evaluation is already there, with the stopper first it is not. -/
def visible (evalFirst : Bool) (pe : Int) (prev pre : List (Int × W)) (x : Int × W) : List (Int × W) :=
  prev ++ evalPoints pe (if evalFirst then pre ++ [x] else pre)

def histOf (Mof Vof : W → Num ℝ) (pts : List (Int × W)) : List Obs :=
  pts.map (fun x => ⟨(Mof x.2).x, (Vof x.2).x⟩)

/-- `ev` is an evaluator in good order that tracks the quantity `name`: at world `w` its evaluation yields
`Mof w` for the monitored value (and `Vof w` for its variance when the criterion needs one), and its
history so far consists of the evaluation points `pts`.  The remaining conjuncts are the hypotheses of `metric_onEpochEnd` /
`observable_onEpochEnd` (QV/Props/C17.lean) under which the evaluator's own `on_epoch_end` does not raise; a metric evaluator
excludes the variance criterion, as the constructor does (`C18_variance_refused`). -/
def Monitors (name : String) (Mof Vof : W → Num ℝ) (crit : Criterion) : AnyEval W ℝ → List (Int × W) → Prop
  | .metric c s, pts =>
    1 ≤ c.period ∧ c.names.Nodup ∧ (c.log = true → "epoch" ∉ c.names) ∧ (name, Mof) ∈ c.metrics ∧
    crit ≠ .variance ∧ s.past = recordsOf c.evalAll pts
  | .observable c s, pts =>
    1 ≤ c.period ∧ (c.log = true → ∀ w, StatsWF (c.statistics w)) ∧
    (∀ w, ∃ d, (c.statistics w).getItem name = .ok d ∧ d.getItem "mean" = .ok (Mof w) ∧
      (crit = .variance → d.getItem "variance" = .ok (Vof w))) ∧
    s.past = recordsOf c.statistics pts

def evalPeriod : AnyEval W ℝ → Int
  | .metric c _ => c.period
  | .observable c _ => c.period

/-- the extended value of a generated float: the non-finite value ↦ `⊤` -/
def flExt : QV.Gen.Fl ℝ → WithTop ℝ
  | none => ⊤
  | some x => (x : WithTop ℝ)

/-! ### the evaluator as seen through `Monitors` -/

theorem monitors_len {name : String} {Mof Vof : W → Num ℝ} {crit : Criterion} {ev : AnyEval W ℝ}
    {pts : List (Int × W)} (h : Monitors name Mof Vof crit ev pts) : ev.len = pts.length := by
  cases ev with
  | metric c s =>
    obtain ⟨_, _, _, _, _, hs⟩ := h
    simp [AnyEval.len, EvalState.len, hs, recordsOf]
  | observable c s =>
    obtain ⟨_, _, _, hs⟩ := h
    simp [AnyEval.len, EvalState.len, hs, recordsOf]

theorem monitors_value {name : String} {Mof Vof : W → Num ℝ} {crit : Criterion} {ev : AnyEval W ℝ}
    {pts : List (Int × W)} (h : Monitors name Mof Vof crit ev pts) (k : ℕ) (hk : k < pts.length) :
    ev.value name (some ((k : Int) - pts.length)) = .ok (Mof pts[k].2) := by
  cases ev with
  | metric c s =>
    obtain ⟨_, hnd, _, hf, _, hs⟩ := h
    have := (C17_records_get_value c.evalAll pts s hs name k hk).2
    simp only [AnyEval.value, this]
    exact C17_records_metric_value c hnd _ hf
  | observable c s =>
    obtain ⟨_, _, hst, hs⟩ := h
    have := (C17_records_get_value c.statistics pts s hs name k hk).2
    obtain ⟨d, hd1, hd2, _⟩ := hst pts[k].2
    simp only [AnyEval.value, this, hd1, hd2]

theorem monitors_variance {name : String} {Mof Vof : W → Num ℝ} {ev : AnyEval W ℝ}
    {pts : List (Int × W)} (h : Monitors name Mof Vof .variance ev pts) (k : ℕ) (hk : k < pts.length) :
    ev.variance name (some ((k : Int) - pts.length)) = .ok (Vof pts[k].2) := by
  cases ev with
  | metric c s =>
    obtain ⟨_, _, _, _, hc, _⟩ := h
    exact absurd rfl hc
  | observable c s =>
    obtain ⟨_, _, hst, hs⟩ := h
    have := (C17_records_get_value c.statistics pts s hs name k hk).2
    obtain ⟨d, hd1, _, hd3⟩ := hst pts[k].2
    simp only [AnyEval.variance, this, hd1, hd3 rfl]

/-- `get_value(name, index=None)`: `None` ↦ −1 (metric_evaluator.py:126) -/
theorem value_none (ev : AnyEval W ℝ) (name : String) : ev.value name none = ev.value name (some (-1)) := by
  cases ev <;> rfl

/-- where the off-by-one of F7 is decided: with `t + 1` evaluations the Python index `-p - 1` is position `t − p` and the default
index `-1` is position `t` (`hidx`, `hlast`); the index `-p` of the unfixed code is position `t + 1 − p`, for `p = 1` the current one -/
theorem monitors_lookback {es : EarlyStopping ℝ} {p : ℕ} (hp : es.patience = (p : Int))
    {Mof Vof : W → Num ℝ} {ev : AnyEval W ℝ} {pts : List (Int × W)}
    (h : Monitors es.quantityName Mof Vof es.criterion ev pts) {t : ℕ} (ht : pts.length = t + 1) (hpt : p ≤ t) :
    ev.value es.quantityName (some (-es.patience - 1)) = .ok (Mof (pts[t - p]'(by omega)).2) ∧
    ev.value es.quantityName none = .ok (Mof (pts[t]'(by omega)).2) ∧
    (es.criterion = .variance →
      ev.variance es.quantityName (some (-es.patience - 1)) = .ok (Vof (pts[t - p]'(by omega)).2)) := by
  have hidx : (-es.patience - 1 : Int) = ((t - p : ℕ) : Int) - pts.length := by omega
  have hlast : (-1 : Int) = (t : Int) - pts.length := by omega
  rw [value_none, hidx, hlast]
  exact ⟨monitors_value h _ (by omega), monitors_value h _ (by omega), fun hc => monitors_variance (hc ▸ h) _ (by omega)⟩

theorem evalPoints_append (pe : Int) (a b : List (Int × W)) : evalPoints pe (a ++ b) = evalPoints pe a ++ evalPoints pe b :=
  List.filter_append ..

theorem evalPoints_cons (pe : Int) (y : Int × W) (l : List (Int × W)) : evalPoints pe (y :: l) = evalPoints pe [y] ++ evalPoints pe l :=
  evalPoints_append pe [y] l

theorem evalPoints_singleton (pe e : Int) (w : W) : evalPoints pe [(e, w)] = if pe ∣ e then [(e, w)] else [] := by
  simp [evalPoints, List.filter_cons]

theorem monitors_step {name : String} {Mof Vof : W → Num ℝ} {crit : Criterion} {ev : AnyEval W ℝ}
    {pts : List (Int × W)} (h : Monitors name Mof Vof crit ev pts) (e : Int) (w : W) :
    ∃ ev', ev.onEpochEnd e w = .ok ev' ∧ evalPeriod ev' = evalPeriod ev ∧
      Monitors name Mof Vof crit ev' (pts ++ evalPoints (evalPeriod ev) [(e, w)]) := by
  cases ev with
  | metric c s =>
    obtain ⟨hp, hnd, hep, hf, hc, hs⟩ := h
    obtain ⟨s', hs', hpast⟩ : ∃ s', c.onEpochEnd s e w = .ok s' ∧
        s'.past = recordsOf c.evalAll (pts ++ evalPoints c.period [(e, w)]) := by
      rw [metric_onEpochEnd c hp hnd hep, evalPoints_singleton]
      exact ⟨_, rfl, by split <;> simp [hs, recordsOf]⟩
    exact ⟨.metric c s', by rw [AnyEval.onEpochEnd, hs']; rfl, rfl, hp, hnd, hep, hf, hc, hpast⟩
  | observable c s =>
    obtain ⟨hp, hwf, hst, hs⟩ := h
    obtain ⟨s', hs', hpast⟩ : ∃ s', c.onEpochEnd s e w = .ok s' ∧
        s'.past = recordsOf c.statistics (pts ++ evalPoints c.period [(e, w)]) := by
      rw [observable_onEpochEnd c hp hwf, evalPoints_singleton]
      exact ⟨_, rfl, by split <;> simp [hs, recordsOf]⟩
    exact ⟨.observable c s', by rw [AnyEval.onEpochEnd, hs']; rfl, rfl, hp, hwf, hst, hpast⟩

/-! ### the rule on a history of known length -/

theorem stopRule_iff {crit : Criterion} {p : ℕ} {tol : WithTop ℝ} {hist : List Obs} {t : ℕ} (ht : hist.length = t + 1) :
    StopRule crit p tol hist ↔ p ≤ t ∧ devSpec crit (hist[t - p]'(by omega)) (hist[t]'(by omega)) < tol := by
  constructor
  · rintro ⟨t', ref, cur, hl, hpt, hr, hcur, hlt⟩
    obtain rfl : t' = t := by omega
    rw [List.getElem?_eq_getElem (by omega)] at hr hcur
    cases hr; cases hcur
    exact ⟨hpt, hlt⟩
  · rintro ⟨hpt, hlt⟩
    exact ⟨t, _, _, ht, hpt, List.getElem?_eq_getElem _, List.getElem?_eq_getElem _, hlt⟩

theorem stopRule_short {crit : Criterion} {p : ℕ} {tol : WithTop ℝ} {hist : List Obs} (hl : hist.length ≤ p) :
    ¬ StopRule crit p tol hist := by
  rintro ⟨t, _, _, hl', hpt, _⟩
  omega

theorem devSpec_eq_top_iff (crit : Criterion) (ref cur : Obs) :
    devSpec crit ref cur = ⊤ ↔ (crit = .relative ∧ ref.M = 0) ∨ (crit = .variance ∧ ref.var ≤ 0) := by
  cases crit <;> simp [devSpec]

theorem degenerate_iff {crit : Criterion} {p : ℕ} {hist : List Obs} {t : ℕ} (ht : hist.length = t + 1) :
    Degenerate crit p hist ↔ p ≤ t ∧ devSpec crit (hist[t - p]'(by omega)) (hist[t]'(by omega)) = ⊤ := by
  rw [devSpec_eq_top_iff]
  constructor
  · rintro ⟨t', ref, hl, hpt, hr, hcase⟩
    obtain rfl : t' = t := by omega
    rw [List.getElem?_eq_getElem (by omega)] at hr
    cases hr
    exact ⟨hpt, hcase⟩
  · rintro ⟨hpt, hcase⟩
    exact ⟨t, _, ht, hpt, List.getElem?_eq_getElem _, hcase⟩

/-! ### the deviation the model computes -/

theorem belowTol_iff (d : ℝ) (tol : Option ℝ) : belowTol d tol = true ↔ ((d : ℝ) : WithTop ℝ) < tolSpec tol := by
  cases tol with
  | none => simp [belowTol, tolSpec, WithTop.coe_lt_top]
  | some t => simp [belowTol, tolSpec, WithTop.coe_lt_coe]

theorem histOf_getElem (Mof Vof : W → Num ℝ) (pts : List (Int × W)) (k : ℕ) (hk : k < (histOf Mof Vof pts).length) :
    (histOf Mof Vof pts)[k] =
      ⟨(Mof (pts[k]'(by simpa [histOf] using hk)).2).x, (Vof (pts[k]'(by simpa [histOf] using hk)).2).x⟩ :=
  List.getElem_map ..

/-- `devSpec` in the shape the code computes it: `abs` of the quotient (`abs(np.divide(change, reference))`), not the quotient of
the `abs`s of the docstring (`abs_div`) -/
theorem devSpec_eq (crit : Criterion) (ref cur : Obs) :
    devSpec crit ref cur = flExt (match crit with
      | .relative => if ref.M = 0 then none else some |(ref.M - cur.M) / ref.M|
      | .absolute => some |ref.M - cur.M|
      | .variance => if ref.var ≤ 0 then none else some (|ref.M - cur.M| / Real.sqrt ref.var)) := by
  cases crit
  · simp only [devSpec, abs_div]; split <;> rfl
  · rfl
  · simp only [devSpec]; split <;> rfl

/-- the model against the specification: with `t + 1 > p` evaluations `deviation()` does not raise, and its extended value is the
documented deviation between `M_{t−p}` and `M_t` — `⊤` exactly in the degenerate cases -/
theorem deviation_documented (es : EarlyStopping ℝ) (p : ℕ) (hp : es.patience = (p : Int))
    {Mof Vof : W → Num ℝ} {ev : AnyEval W ℝ} {pts : List (Int × W)}
    (h : Monitors es.quantityName Mof Vof es.criterion ev pts)
    (t : ℕ) (ht : pts.length = t + 1) (hpt : p ≤ t) :
    ∃ d, es.deviation ev = .ok d ∧
      flExt (devFl d) = devSpec es.criterion ((histOf Mof Vof pts)[t - p]'(by simp [histOf]; omega))
        ((histOf Mof Vof pts)[t]'(by simp [histOf]; omega)) := by
  obtain ⟨href, hcur, hvar⟩ := monitors_lookback hp h ht hpt
  refine ⟨_, deviation_real href hcur hvar, ?_⟩
  rw [histOf_getElem, histOf_getElem, devSpec_eq]
  cases es.criterion
  · dsimp only [devFl]; split <;> rfl
  · rfl
  · dsimp only [devFl]; split <;> rfl

/-- **C18 (translator tie, composed).** The deviation formulas TRANSLATED FROM THE PYTHON SOURCE
(`genDeviation`: QV/Gen/EarlyStopping.lean, regenerated from the checked tree on every run), applied to the getters of an
evaluator that monitors the quantity, compute the DOCUMENTED deviation between `M_{t−p}` and `M_t` of the class docstring —
`⊤` exactly in the degenerate cases (zero reference, non-positive variance) — for every history with `t ≥ p` evaluations. -/
theorem C18_gen_deviation_is_documented (es : EarlyStopping ℝ) (p : ℕ) (hp : es.patience = (p : Int))
    {Mof Vof : W → Num ℝ} {ev : AnyEval W ℝ} {pts : List (Int × W)}
    (h : Monitors es.quantityName Mof Vof es.criterion ev pts)
    (t : ℕ) (ht : pts.length = t + 1) (hpt : p ≤ t) :
    flExt (genDeviation es ev) = devSpec es.criterion ((histOf Mof Vof pts)[t - p]'(by simp [histOf]; omega))
        ((histOf Mof Vof pts)[t]'(by simp [histOf]; omega)) := by
  obtain ⟨href, hcur, hvar⟩ := monitors_lookback hp h ht hpt
  obtain ⟨d, hd, hspec⟩ := deviation_documented es p hp h t ht hpt
  obtain ⟨d', hd', hgen⟩ := C18_gen_deviation_eq_model es ev _ _ _ href hcur hvar
  cases hd.symm.trans hd'
  rw [← hgen, hspec]

/-! ### the stopper's `on_epoch_end` against the documented rule -/

/-- **C18 never-self.** With patience `p ≥ 1` and `t ≥ p`, the change the model computes is
`M_{t−p} − M_t` for the evaluations at positions `t − p` and `t` of the history — two DIFFERENT positions,
`p` apart; the current evaluation is never compared with itself. -/
theorem C18_never_self (es : EarlyStopping ℝ) (p : ℕ) (hp1 : 1 ≤ p) (hp : es.patience = (p : Int))
    {Mof Vof : W → Num ℝ} {ev : AnyEval W ℝ} {pts : List (Int × W)}
    (h : Monitors es.quantityName Mof Vof es.criterion ev pts)
    (t : ℕ) (ht : pts.length = t + 1) (hpt : p ≤ t) :
    ∃ (i j : ℕ) (hi : i < pts.length) (hj : j < pts.length), i < j ∧ i + p = j ∧ j = t ∧
      es.changeInMetric ev = .ok ((Mof pts[i].2).sub (Mof pts[j].2)) := by
  obtain ⟨href, hcur, _⟩ := monitors_lookback hp h ht hpt
  exact ⟨t - p, t, by omega, by omega, by omega, by omega, rfl, EarlyStopping.changeInMetric_of_getters href hcur⟩

/-- one `on_epoch_end` of the stopper against the documented rule: it never raises -/
theorem stopper_onEpochEnd_rule (es : EarlyStopping ℝ) (p : ℕ) (hp : es.patience = (p : Int)) (hps : 1 ≤ es.period)
    {Mof Vof : W → Num ℝ} {ev : AnyEval W ℝ} {pts : List (Int × W)}
    (h : Monitors es.quantityName Mof Vof es.criterion ev pts) (st : StopState) (e : Int) :
    (es.period ∣ e ∧ StopRule es.criterion p (tolSpec es.tolerance) (histOf Mof Vof pts) →
      es.onEpochEnd ev st e = .ok ⟨true, some e⟩) ∧
    (¬ (es.period ∣ e ∧ StopRule es.criterion p (tolSpec es.tolerance) (histOf Mof Vof pts)) →
      es.onEpochEnd ev st e = .ok st) := by
  unfold EarlyStopping.onEpochEnd
  rw [gate_pos hps, monitors_len h, hp]
  by_cases hd : es.period ∣ e
  swap
  · simp [hd]
  simp only [hd, decide_true, true_and]
  by_cases hlen : ((pts.length : Int) > (p : Int))
  · obtain ⟨t, ht⟩ : ∃ t, pts.length = t + 1 := ⟨pts.length - 1, by omega⟩
    have hpt : p ≤ t := by omega
    obtain ⟨d, hd1, hd2⟩ := deviation_documented es p hp h t ht hpt
    have hrule : StopRule es.criterion p (tolSpec es.tolerance) (histOf Mof Vof pts) ↔
        flExt (devFl d) < tolSpec es.tolerance :=
      (stopRule_iff (by simp [histOf, ht])).trans ((and_iff_right hpt).trans (by rw [hd2]))
    simp only [hlen, if_true, hd1, hrule]
    cases d with
    | none => exact ⟨fun hr => absurd hr (not_top_lt), fun _ => rfl⟩
    | some v =>
      have hb : belowTol v.x es.tolerance = true ↔ flExt (devFl (some v)) < tolSpec es.tolerance := belowTol_iff _ _
      exact ⟨fun hr => by simp only [hb.mpr hr, if_true], fun hr => by simp only [mt hb.mp hr, Bool.false_eq_true, if_false]⟩
  · simp only [hlen, if_false]
    exact ⟨fun hr => absurd hr (stopRule_short (by simp [histOf]; omega)), fun _ => trivial⟩

/-- **C18 degenerate comparisons never stop and never raise.** At a checked or unchecked epoch, when the comparison
the stopper would make is degenerate — criterion `relative` and the reference evaluation `M_{t−p}` is exactly zero
(Python float or numpy float alike), or criterion `variance` and the reference variance is `≤ 0` — `on_epoch_end`
returns normally and leaves the stop flag and `last_epoch` as they were, for EVERY tolerance including `∞`. -/
theorem C18_degenerate_no_stop (es : EarlyStopping ℝ) (p : ℕ) (hp : es.patience = (p : Int)) (hps : 1 ≤ es.period)
    {Mof Vof : W → Num ℝ} {ev : AnyEval W ℝ} {pts : List (Int × W)}
    (h : Monitors es.quantityName Mof Vof es.criterion ev pts)
    (hdeg : Degenerate es.criterion p (histOf Mof Vof pts)) (st : StopState) (e : Int) :
    es.onEpochEnd ev st e = .ok st := by
  apply (stopper_onEpochEnd_rule es p hp hps h st e).2
  rintro ⟨_, hr⟩
  have ⟨t, _, hl, _⟩ := hdeg
  exact not_top_lt (((degenerate_iff hl).mp hdeg).2 ▸ ((stopRule_iff hl).mp hr).2)

/-- **C18 infinite tolerance.** With `tolerance = float("inf")` the rule holds exactly when a comparison takes place
(`t ≥ p`) and is not degenerate. -/
theorem C18_tolerance_infinite (crit : Criterion) (p : ℕ) (hist : List Obs) :
    StopRule crit p (tolSpec none) hist ↔ (p < hist.length ∧ ¬ Degenerate crit p hist) := by
  cases hl : hist.length with
  | zero => exact ⟨fun h => absurd h (stopRule_short (by omega)), fun h => absurd h.1 (Nat.not_lt_zero _)⟩
  | succ t =>
    rw [stopRule_iff hl, degenerate_iff hl, Nat.lt_succ_iff]
    exact and_congr_right fun hpt => by simp [tolSpec, lt_top_iff_ne_top, hpt]

/-- **C18 needs-history.** While fewer than `p + 1` evaluations exist (`t < p`) the stopper does nothing —
whatever the tolerance (`es.tolerance : Option ℝ`, `none = ∞` included), the criterion and the values (zeros
included); it neither stops nor raises. -/
theorem C18_needs_history (es : EarlyStopping ℝ) (p : ℕ) (hp : es.patience = (p : Int)) (hps : 1 ≤ es.period)
    {Mof Vof : W → Num ℝ} {ev : AnyEval W ℝ} {pts : List (Int × W)}
    (h : Monitors es.quantityName Mof Vof es.criterion ev pts) (hfew : pts.length ≤ p)
    (st : StopState) (e : Int) :
    es.onEpochEnd ev st e = .ok st := by
  exact EarlyStopping.onEpochEnd_of_len_le (by omega) (by rw [monitors_len h, hp]; exact Int.ofNat_le.mpr hfew) st e

/-! ### the run -/

/-- "training is stopped at candidate `x` (preceded by `pre`)": `x` is a checked epoch and the documented rule
holds on the evaluations visible there -/
def StopsAt (es : EarlyStopping ℝ) (p : ℕ) (evalFirst : Bool) (pe : Int) (Mof Vof : W → Num ℝ)
    (prev pre : List (Int × W)) (x : Int × W) : Prop :=
  es.period ∣ x.1 ∧ StopRule es.criterion p (tolSpec es.tolerance) (histOf Mof Vof (visible evalFirst pe prev pre x))

/-- **C18 first-stop.** Run `fit` over the candidate epochs `cands` (with their world tokens) with the
callback list `[evaluator, stopper]` (`evalFirst`) or `[stopper, evaluator]`, patience `p ≥ 1`, any periods
≥ 1, any tolerance in `ℝ ∪ {∞}`, ANY monitored values (zeros, zero or negative variances included), the evaluator
already holding the evaluations `prev`.  The run does not raise, and
* either there is a FIRST candidate `x` (`cands = pre ++ x :: post`) that is a checked epoch at which the
  documented rule holds on the evaluations present there — no earlier candidate is one —; then the
  epoch-ends that fired are exactly those of `pre ++ [x]`, the stop flag is set and `last_epoch = x`;
* or no candidate is one; then every epoch-end fired, the flag is still clear and `last_epoch` unchanged. -/
theorem C18_first_stop (es : EarlyStopping ℝ) (p : ℕ) (_hp1 : 1 ≤ p) (hp : es.patience = (p : Int))
    (hps : 1 ≤ es.period) (evalFirst : Bool) {Mof Vof : W → Num ℝ} (cands : List (Int × W)) :
    ∀ (ev : AnyEval W ℝ) (prev : List (Int × W)) (last₀ : Option Int) (fired₀ : List Int),
    Monitors es.quantityName Mof Vof es.criterion ev prev →
    ∃ r, fitRun es evalFirst ⟨ev, ⟨false, last₀⟩, fired₀⟩ cands = .ok r ∧
      ((∃ pre x post, cands = pre ++ x :: post ∧
          StopsAt es p evalFirst (evalPeriod ev) Mof Vof prev pre x ∧
          (∀ pre' x' post', cands = pre' ++ x' :: post' → pre'.length < pre.length →
            ¬ StopsAt es p evalFirst (evalPeriod ev) Mof Vof prev pre' x') ∧
          r.st = ⟨true, some x.1⟩ ∧ r.fired = fired₀ ++ (pre ++ [x]).map Prod.fst) ∨
       ((∀ pre x post, cands = pre ++ x :: post →
            ¬ StopsAt es p evalFirst (evalPeriod ev) Mof Vof prev pre x) ∧
          r.st = ⟨false, last₀⟩ ∧ r.fired = fired₀ ++ cands.map Prod.fst)) := by
  intro ev prev last₀ fired₀ hmon
  simp only [fitRun, Bool.false_eq_true, if_false]
  obtain ⟨r, hr, hcases⟩ := loop_first_stop (step := fun s x => epochEndBoth es evalFirst s x.1 x.2) (stop := fun s => s.st.stop)
    (loop := fitLoop es evalFirst) (fun _ => rfl) (fun _ ⟨_, _⟩ _ _ h => by rw [fitLoop, h])
    (Inv := fun pre s => Monitors es.quantityName Mof Vof es.criterion s.ev (prev ++ evalPoints (evalPeriod ev) pre) ∧
      evalPeriod s.ev = evalPeriod ev ∧ s.st = ⟨false, last₀⟩ ∧ s.fired = fired₀ ++ pre.map Prod.fst)
    (P := fun pre x => StopsAt es p evalFirst (evalPeriod ev) Mof Vof prev pre x)
    (Q := fun pre x r => r.st = ⟨true, some x.1⟩ ∧ r.fired = fired₀ ++ (pre ++ [x]).map Prod.fst)
    (by
      rintro pre ⟨e, w⟩ ⟨ev1, st1, f1⟩ ⟨hm, hpe, rfl, rfl⟩
      obtain ⟨ev', hev', hper, hmon'⟩ := monitors_step hm e w
      rw [hpe, List.append_assoc, ← evalPoints_append] at hmon'
      have hf : fired₀ ++ pre.map Prod.fst ++ [e] = fired₀ ++ (pre ++ [(e, w)]).map Prod.fst := by simp
      unfold StopsAt visible epochEndBoth
      cases evalFirst with
      | true =>
        obtain ⟨h1, h2⟩ := stopper_onEpochEnd_rule es p hp hps hmon' ⟨false, last₀⟩ e
        exact ⟨fun hs => ⟨⟨ev', _, _⟩, by simp only [if_true, hev', h1 hs], rfl, rfl, hf⟩,
          fun hs => ⟨⟨ev', _, _⟩, by simp only [if_true, hev', h2 hs], rfl, hmon', hper.trans hpe, rfl, hf⟩⟩
      | false =>
        obtain ⟨h1, h2⟩ := stopper_onEpochEnd_rule es p hp hps hm ⟨false, last₀⟩ e
        exact ⟨fun hs => ⟨⟨ev', _, _⟩, by simp only [Bool.false_eq_true, if_false, hev', h1 hs], rfl, rfl, hf⟩,
          fun hs => ⟨⟨ev', _, _⟩, by simp only [Bool.false_eq_true, if_false, hev', h2 hs], rfl, hmon', hper.trans hpe, rfl, hf⟩⟩)
    cands [] ⟨ev, ⟨false, last₀⟩, fired₀⟩ ⟨by rwa [evalPoints, List.filter_nil, List.append_nil], rfl, rfl, (List.append_nil _).symm⟩
  exact ⟨r, hr, hcases.imp id fun ⟨h, _, _, h3, h4⟩ => ⟨h, h3, h4⟩⟩

/-! ### several stop sources in one fit: a stop request, once made, stands -/

/-- **C18 a stop request stands (one stopper).** Whatever the evaluator holds, whatever the epoch: if `on_epoch_end` of an
`EarlyStopping` returns, it either leaves the flag and `last_epoch` exactly as it found them or sets the flag (and
`last_epoch`); in particular a flag that was ALREADY set — by another stopper listed earlier, by any other callback in
this dispatch or at the end of a batch of this epoch — is still set afterwards.  (A stopper that assigned
`stop_training = (deviation < tolerance)` would clear it.) -/
theorem C18_stop_request_stands {α : Type} [Sub α] [Div α] [Zero α] [BEq α] [LT α] [DecidableLT α] [Transc α]
    (es : EarlyStopping α) (ev : AnyEval W α) (st st' : StopState) (e : Int)
    (h : es.onEpochEnd ev st e = .ok st') :
    (st' = st ∨ st' = ⟨true, some e⟩) ∧ (st.stop = true → st'.stop = true) := by
  have key : st' = st ∨ st' = ⟨true, some e⟩ := by
    rw [stopper_onEpochEnd_asks h]
    cases stopperAsks es ev e
    exacts [Or.inl rfl, Or.inr rfl]
  refine ⟨key, fun hs => ?_⟩
  rcases key with h1 | h1 <;> rw [h1]
  exact hs

/-- **C18 a stop request stands (whole dispatch).** Through the `on_epoch_end` of any sequence of stop sources (stoppers of
any configuration, other requesting callbacks), a flag that is set stays set. -/
theorem C18_stop_request_stands_dispatch {α : Type} [Sub α] [Div α] [Zero α] [BEq α] [LT α] [DecidableLT α] [Transc α]
    (ev : AnyEval W α) (e : Int) (l : List (StopSrc α × Option Int)) :
    ∀ (l' : List (StopSrc α × Option Int)) (stop' : Bool), srcsEpochEnd ev e l true = .ok (l', stop') → stop' = true := by
  exact fun l' stop' h => (srcsEpochEnd_asks ev e l l' true stop' h).1

/-! ### several stop sources in one fit: the first stop -/

/-- what is required of a stop source in the theorems below: a stopper has a patience `≥ 0`, a period `≥ 1`, and the
evaluator tracks its quantity (`Mof name`, `Vof name`: monitored value / variance of the quantity `name` by world) -/
def SrcOK (Mof Vof : String → W → Num ℝ) (ev : AnyEval W ℝ) (pts : List (Int × W)) : StopSrc ℝ → Prop
  | .stopper es => 0 ≤ es.patience ∧ 1 ≤ es.period ∧
      Monitors es.quantityName (Mof es.quantityName) (Vof es.quantityName) es.criterion ev pts
  | .request _ => True

/-- source `src` asks for a stop at epoch `e` when the evaluator holds the evaluation points `pts`: a stopper iff `e` is one
of its checked epochs and ITS documented rule holds on `pts`; a requesting callback iff `e` is one of its epochs -/
def FiresAt (Mof Vof : String → W → Num ℝ) (src : StopSrc ℝ) (e : Int) (pts : List (Int × W)) : Prop :=
  match src with
  | .stopper es => es.period ∣ e ∧
      StopRule es.criterion es.patience.toNat (tolSpec es.tolerance) (histOf (Mof es.quantityName) (Vof es.quantityName) pts)
  | .request eps => e ∈ eps

/-- the same at candidate `x` of a run (`pre`: the candidates before it, `prev`: evaluations of earlier runs); `evalFirst`:
the source is listed AFTER the evaluator -/
def Fires (Mof Vof : String → W → Num ℝ) (evalFirst : Bool) (pe : Int) (prev pre : List (Int × W)) (x : Int × W)
    (src : StopSrc ℝ) : Prop :=
  FiresAt Mof Vof src x.1 (visible evalFirst pe prev pre x)

theorem fires_stopper (Mof Vof : String → W → Num ℝ) (evalFirst : Bool) (pe : Int) (prev pre : List (Int × W)) (x : Int × W)
    (es : EarlyStopping ℝ) :
    Fires Mof Vof evalFirst pe prev pre x (.stopper es) ↔
      StopsAt es es.patience.toNat evalFirst pe (Mof es.quantityName) (Vof es.quantityName) prev pre x := Iff.rfl

open Classical in
/-- a source's `last_epoch` after a dispatch at epoch `e`: `e` if it asked for the stop (stoppers only), else unchanged -/
noncomputable def updLast (Mof Vof : String → W → Num ℝ) (e : Int) (pts : List (Int × W)) (p : StopSrc ℝ × Option Int) :
    StopSrc ℝ × Option Int :=
  match p.1 with
  | .stopper _ => (p.1, if FiresAt Mof Vof p.1 e pts then some e else p.2)
  | .request _ => p

theorem srcsEpochEnd_rule (Mof Vof : String → W → Num ℝ) {ev : AnyEval W ℝ} {pts : List (Int × W)} (e : Int)
    (l : List (StopSrc ℝ × Option Int)) :
    (∀ p ∈ l, SrcOK Mof Vof ev pts p.1) → ∀ stop : Bool,
    ∃ stop', srcsEpochEnd ev e l stop = .ok (l.map (updLast Mof Vof e pts), stop') ∧
      (stop' = true ↔ stop = true ∨ ∃ p ∈ l, FiresAt Mof Vof p.1 e pts) := by
  induction l with
  | nil => intro _ stop; exact ⟨stop, rfl, by simp only [List.not_mem_nil, false_and, exists_false, or_false]⟩
  | cons p rest ih =>
    intro hok stop
    obtain ⟨src, last⟩ := p
    obtain ⟨st, hst, hupd, hiff⟩ : ∃ st, src.onEpochEnd ev stop last e = .ok st ∧
        (src, st.lastEpoch) = updLast Mof Vof e pts (src, last) ∧ (st.stop = true ↔ stop = true ∨ FiresAt Mof Vof src e pts) := by
      have hsrc := hok _ List.mem_cons_self
      cases src with
      | request eps => exact ⟨⟨stop || eps.contains e, last⟩, rfl, rfl, by simp [FiresAt]⟩
      | stopper es =>
        obtain ⟨hp0, hps, hmon⟩ := hsrc
        have hstep := stopper_onEpochEnd_rule es es.patience.toNat (Int.toNat_of_nonneg hp0).symm hps hmon ⟨stop, last⟩ e
        by_cases hf : FiresAt Mof Vof (.stopper es) e pts
        · exact ⟨⟨true, some e⟩, hstep.1 hf, by simp [updLast, hf], by simp [hf]⟩
        · exact ⟨⟨stop, last⟩, hstep.2 hf, by simp [updLast, hf], by simp [hf]⟩
    obtain ⟨stop', hrest, hiff'⟩ := ih (fun q hq => hok q (List.mem_cons_of_mem _ hq)) st.stop
    exact ⟨stop', by simp only [srcsEpochEnd, hst, hrest, List.map_cons, hupd],
      by rw [hiff', hiff, or_assoc, List.exists_mem_cons_iff]⟩

theorem updLast_id (Mof Vof : String → W → Num ℝ) (e : Int) (pts : List (Int × W)) (l : List (StopSrc ℝ × Option Int))
    (h : ∀ p ∈ l, ¬ FiresAt Mof Vof p.1 e pts) : l.map (updLast Mof Vof e pts) = l := by
  refine (List.map_congr_left fun p hp => ?_).trans (List.map_id l)
  obtain ⟨src, last⟩ := p
  cases src with
  | stopper es => simp only [updLast, if_neg (h _ hp), id]
  | request eps => rfl

theorem srcOK_step (Mof Vof : String → W → Num ℝ) {ev ev' : AnyEval W ℝ} {pts : List (Int × W)} (e : Int) (w : W)
    (hev : ev.onEpochEnd e w = .ok ev') (src : StopSrc ℝ) (hok : SrcOK Mof Vof ev pts src) :
    SrcOK Mof Vof ev' (pts ++ evalPoints (evalPeriod ev) [(e, w)]) src := by
  cases src with
  | request eps => trivial
  | stopper es =>
    obtain ⟨hp0, hps, hmon⟩ := hok
    obtain ⟨ev'', hev'', _, hmon'⟩ := monitors_step hmon e w
    cases hev.symm.trans hev''
    exact ⟨hp0, hps, hmon'⟩

/-- some source of the callback list `before ++ [evaluator] ++ after` asks for the stop at candidate `x` -/
def AnyFires (Mof Vof : String → W → Num ℝ) (pe : Int) (before after : List (StopSrc ℝ × Option Int))
    (prev pre : List (Int × W)) (x : Int × W) : Prop :=
  (∃ p ∈ before, Fires Mof Vof false pe prev pre x p.1) ∨ (∃ p ∈ after, Fires Mof Vof true pe prev pre x p.1)

open Classical in
/-- the sources after the stopping dispatch at candidate `x`: `last_epoch = x` for the stoppers whose rule held there -/
noncomputable def lastsAt (Mof Vof : String → W → Num ℝ) (evalFirst : Bool) (pe : Int) (prev pre : List (Int × W)) (x : Int × W)
    (l : List (StopSrc ℝ × Option Int)) : List (StopSrc ℝ × Option Int) :=
  l.map (updLast Mof Vof x.1 (visible evalFirst pe prev pre x))

/-- **C18 first-stop with several stop sources.** Run `fit` with the callback list `before ++ [evaluator] ++ after`, where
`before` and `after` are ANY sequences of `EarlyStopping` callbacks (each with its own criterion, patience `≥ 0`, period
`≥ 1`, tolerance in `ℝ ∪ {∞}`, monitored quantity) and of other callbacks that request a stop at given epochs.  The run does
not raise, and
* either there is a FIRST candidate `x` at which SOME source asks for the stop — a stopper listed before the evaluator whose
  rule holds on the evaluations without this epoch's, one listed after it whose rule holds with it, a requesting callback
  —; then training stops exactly there: the completed dispatches are those of `pre ++ [x]`, the flag is set — although the
  sources dispatched after the asking one did not ask —, every stopper whose rule held at `x` has `last_epoch = x`, every
  other source's `last_epoch` is unchanged;
* or no source ever asks; then every dispatch completed, the flag is clear and every `last_epoch` unchanged. -/
theorem C18_first_stop_multi (Mof Vof : String → W → Num ℝ) (before after : List (StopSrc ℝ × Option Int))
    (cands : List (Int × W)) :
    ∀ (ev : AnyEval W ℝ) (prev : List (Int × W)) (fired₀ : List Int),
    (∃ name crit, Monitors name (Mof name) (Vof name) crit ev prev) →
    (∀ p ∈ before ++ after, SrcOK Mof Vof ev prev p.1) →
    ∃ r, fitRunMulti ⟨ev, before, after, false, fired₀⟩ cands = .ok r ∧
      ((∃ pre x post, cands = pre ++ x :: post ∧
          AnyFires Mof Vof (evalPeriod ev) before after prev pre x ∧
          (∀ pre' x' post', cands = pre' ++ x' :: post' → pre'.length < pre.length →
            ¬ AnyFires Mof Vof (evalPeriod ev) before after prev pre' x') ∧
          r.stop = true ∧ r.fired = fired₀ ++ (pre ++ [x]).map Prod.fst ∧
          r.before = lastsAt Mof Vof false (evalPeriod ev) prev pre x before ∧
          r.after = lastsAt Mof Vof true (evalPeriod ev) prev pre x after) ∨
       ((∀ pre x post, cands = pre ++ x :: post → ¬ AnyFires Mof Vof (evalPeriod ev) before after prev pre x) ∧
          r.stop = false ∧ r.fired = fired₀ ++ cands.map Prod.fst ∧ r.before = before ∧ r.after = after)) := by
  intro ev prev fired₀ hev hok
  simp only [fitRunMulti, Bool.false_eq_true, if_false]
  obtain ⟨r, hr, hcases⟩ := loop_first_stop (step := fun s x => epochEndMulti s x.1 x.2) (stop := fun s => s.stop)
    (loop := fitLoopMulti) (fun _ => rfl) (fun _ ⟨_, _⟩ _ _ h => by rw [fitLoopMulti, h])
    (Inv := fun pre s => (∃ name crit, Monitors name (Mof name) (Vof name) crit s.ev (prev ++ evalPoints (evalPeriod ev) pre)) ∧
      evalPeriod s.ev = evalPeriod ev ∧
      (∀ p ∈ before ++ after, SrcOK Mof Vof s.ev (prev ++ evalPoints (evalPeriod ev) pre) p.1) ∧
      s.before = before ∧ s.after = after ∧ s.stop = false ∧ s.fired = fired₀ ++ pre.map Prod.fst)
    (P := fun pre x => AnyFires Mof Vof (evalPeriod ev) before after prev pre x)
    (Q := fun pre x r => r.stop = true ∧ r.fired = fired₀ ++ (pre ++ [x]).map Prod.fst ∧
      r.before = lastsAt Mof Vof false (evalPeriod ev) prev pre x before ∧
      r.after = lastsAt Mof Vof true (evalPeriod ev) prev pre x after)
    (by
      rintro pre ⟨e, w⟩ ⟨ev1, b1, a1, s1, f1⟩ ⟨⟨name, crit, hm⟩, hpe, hok1, rfl, rfl, rfl, rfl⟩
      obtain ⟨ev', hev', hper, hmon'⟩ := monitors_step hm e w
      have hok' := fun p hp => srcOK_step Mof Vof e w hev' p.1 (hok1 p hp)
      rw [hpe, List.append_assoc, ← evalPoints_append] at hmon' hok'
      have hf : fired₀ ++ pre.map Prod.fst ++ [e] = fired₀ ++ (pre ++ [(e, w)]).map Prod.fst := by simp
      -- the dispatch at this epoch: the sources before the evaluator, the evaluator, the sources after it
      obtain ⟨stop1, hB, hiffB⟩ := srcsEpochEnd_rule Mof Vof e b1 (fun p hp => hok1 p (List.mem_append_left _ hp)) false
      obtain ⟨stop2, hA, hiffA⟩ := srcsEpochEnd_rule Mof Vof e a1 (fun p hp => hok' p (List.mem_append_right _ hp)) stop1
      have hany : stop2 = true ↔ AnyFires Mof Vof (evalPeriod ev) b1 a1 prev pre (e, w) := by
        rw [hiffA, hiffB]
        simp only [Bool.false_eq_true, false_or]
        rfl
      have hstep : epochEndMulti ⟨ev1, b1, a1, false, fired₀ ++ pre.map Prod.fst⟩ e w
          = .ok ⟨ev', lastsAt Mof Vof false (evalPeriod ev) prev pre (e, w) b1,
              lastsAt Mof Vof true (evalPeriod ev) prev pre (e, w) a1, stop2, fired₀ ++ (pre ++ [(e, w)]).map Prod.fst⟩ := by
        simp only [epochEndMulti, hB, hev', hA, hf]
        rfl
      refine ⟨fun hs => ⟨_, hstep, hany.mpr hs, hany.mpr hs, rfl, rfl, rfl⟩, fun hs => ?_⟩
      have hno := not_or.mp hs
      refine ⟨_, hstep, (Bool.not_eq_true _).mp (mt hany.mp hs), ⟨name, crit, hmon'⟩, hper.trans hpe, hok', ?_, ?_,
        (Bool.not_eq_true _).mp (mt hany.mp hs), rfl⟩
      · exact updLast_id _ _ _ _ _ fun p hp hf => hno.1 ⟨p, hp, hf⟩
      · exact updLast_id _ _ _ _ _ fun p hp hf => hno.2 ⟨p, hp, hf⟩)
    cands [] ⟨ev, before, after, false, fired₀⟩
    ⟨by rwa [evalPoints, List.filter_nil, List.append_nil], rfl, by rwa [evalPoints, List.filter_nil, List.append_nil], rfl, rfl, rfl,
      (List.append_nil _).symm⟩
  exact ⟨r, hr, hcases.imp id fun ⟨h, _, _, _, hb, ha, hs, hf⟩ => ⟨h, hs, hf, hb, ha⟩⟩

/-! ### constructor table -/

theorem normCriterion_variance : normCriterion "variance" = "variance" := by decide

/-- **C18 variance refused.** `criterion` normalising (strip, lower) to "variance" with a `MetricEvaluator`
is a `TypeError` — for every period, tolerance, integer patience and quantity name; so is the deprecated
class with a `MetricEvaluator`. -/
theorem C18_variance_refused {α : Type} (period : Int) (tol : Option α) (i : Int) (name : String) (criterion : String)
    (hc : normCriterion criterion = "variance") (vn : Option String) :
    (EarlyStopping.new period tol (.int i) .metric name criterion : Except PyErr (EarlyStopping α)) = .error .TypeError ∧
    (VarianceBasedEarlyStopping.new period tol (.int i) .metric name vn : Except PyErr (EarlyStopping α)) = .error .TypeError := by
  constructor
  · simp [EarlyStopping.new, PatArg.toInt, hc]
  · simp [VarianceBasedEarlyStopping.new, EarlyStopping.new, PatArg.toInt, normCriterion_variance]

/-- **C18 unknown criterion.** A criterion that normalises to none of the three names is a `ValueError` with
either evaluator class; something that is not an evaluator is a `TypeError` whatever the criterion. -/
theorem C18_unknown_criterion {α : Type} (period : Int) (tol : Option α) (i : Int) (name : String) (criterion : String)
    (h1 : normCriterion criterion ≠ "relative") (h2 : normCriterion criterion ≠ "absolute")
    (h3 : normCriterion criterion ≠ "variance") :
    (EarlyStopping.new period tol (.int i) .metric name criterion : Except PyErr (EarlyStopping α)) = .error .ValueError ∧
    (EarlyStopping.new period tol (.int i) .observable name criterion : Except PyErr (EarlyStopping α)) = .error .ValueError ∧
    (EarlyStopping.new period tol (.int i) .other name criterion : Except PyErr (EarlyStopping α)) = .error .TypeError := by
  simp [EarlyStopping.new, PatArg.toInt, criterionOfString, h1, h2, h3]

/-- **C18 deprecated class.** (Conjuncts 1-2 hold BY CONSTRUCTION of the model — `VarianceBasedEarlyStopping.new` is defined as
`EarlyStopping.new … "variance"` and never looks at `variance_name`; a subclass overriding `on_epoch_end` or reading `variance_name`
cannot be expressed in it.  The tie to the code is the correspondence: oracle `EarlyStopping/deprecated-twin` and the runs of the
deprecated class with every value of `variance_name` — 'std_error', 'mean', 'num_samples', … positionally and by keyword — against
this model.)  `VarianceBasedEarlyStopping(period, tol, patience, evaluator, name, variance_name)`
builds exactly the object `EarlyStopping(…, criterion="variance")` builds (same fields, hence the same
decisions in every run, by `C18_first_stop`); `variance_name` is ignored; with an `ObservableEvaluator` that
object has period, tolerance, `int(patience)`, name as given and the variance criterion. -/
theorem C18_deprecated_eq {α : Type} (period : Int) (tol : Option α) (pa : PatArg) (ek : EvalKind) (name : String)
    (vn vn' : Option String) (i : Int) :
    (VarianceBasedEarlyStopping.new period tol pa ek name vn : Except PyErr (EarlyStopping α))
      = EarlyStopping.new period tol pa ek name "variance" ∧
    (VarianceBasedEarlyStopping.new period tol pa ek name vn : Except PyErr (EarlyStopping α))
      = VarianceBasedEarlyStopping.new period tol pa ek name vn' ∧
    (VarianceBasedEarlyStopping.new period tol (.int i) .observable name vn : Except PyErr (EarlyStopping α))
      = .ok ⟨period, tol, i, name, .variance, .observable⟩ := by
  refine ⟨rfl, rfl, ?_⟩
  simp [VarianceBasedEarlyStopping.new, EarlyStopping.new, PatArg.toInt, normCriterion_variance, criterionOfString]

/-! ### sessions: several consecutive `fit` calls on the same evaluator and stopper -/

/-- **C18 sessions: a `fit` call keeps the evaluator in good order.**  Whatever the stopper decides, after a call of `fit` over `cands`
(entered with the flag set or clear) the evaluator still `Monitors` the quantity, and its history is the earlier one plus the
evaluation points of exactly the epochs that ran (`cands.take k`, the epochs whose `on_epoch_end` fired).  Hence `C18_first_stop`
applies to the NEXT call on the same evaluator and stopper objects with `prev := prev ++ evalPoints pe (cands.take k)` and
`last₀ :=` the stopper's `last_epoch` after this call: in a session of consecutive `fit` calls (`QV.Cb.sessionRun`, driver op
`c18.session`) every call stops at the first checked epoch at which the documented rule holds on ALL evaluations made so far and at
no earlier epoch — in particular a call that makes ONE evaluation compares it with the evaluation made `p` calls earlier. -/
theorem C18_fit_keeps_monitoring (es : EarlyStopping ℝ) (evalFirst : Bool) {name : String} {Mof Vof : W → Num ℝ} {crit : Criterion}
    (cands : List (Int × W)) :
    ∀ (ev : AnyEval W ℝ) (prev : List (Int × W)) (st : StopState) (fired₀ : List Int) (r : FitState W ℝ),
    Monitors name Mof Vof crit ev prev →
    fitRun es evalFirst ⟨ev, st, fired₀⟩ cands = .ok r →
    ∃ k, k ≤ cands.length ∧ r.fired = fired₀ ++ (cands.take k).map Prod.fst ∧ evalPeriod r.ev = evalPeriod ev ∧
      Monitors name Mof Vof crit r.ev (prev ++ evalPoints (evalPeriod ev) (cands.take k)) := by
  intro ev prev st fired₀ r hmon h
  have hnil : Monitors name Mof Vof crit ev (prev ++ evalPoints (evalPeriod ev) (cands.take 0)) := by
    rwa [List.take_zero, evalPoints, List.filter_nil, List.append_nil]
  unfold fitRun at h
  split at h
  · cases h
    exact ⟨0, Nat.zero_le _, (List.append_nil _).symm, rfl, hnil⟩
  · rename_i hns
    clear hns hnil
    induction cands generalizing ev prev st fired₀ with
    | nil =>
      cases h
      exact ⟨0, Nat.zero_le _, (List.append_nil _).symm, rfl, by rwa [List.take_nil, evalPoints, List.filter_nil, List.append_nil]⟩
    | cons y rest ih =>
      obtain ⟨e, w⟩ := y
      obtain ⟨ev', hev', hper, hmon'⟩ := monitors_step hmon e w
      rw [fitLoop] at h
      cases hb : epochEndBoth es evalFirst ⟨ev, st, fired₀⟩ e w with
      | error err => rw [hb] at h; cases h
      | ok s' =>
        obtain ⟨ev'', g1, hs'⟩ := epochEndBoth_asks hb
        cases hev'.symm.trans g1
        obtain ⟨ev2, st2, f2⟩ := s'
        obtain ⟨rfl, -, rfl⟩ := FitState.mk.inj hs'
        rw [hb] at h
        dsimp only at h
        split at h
        · cases h
          exact ⟨1, Nat.succ_le_succ (Nat.zero_le _), rfl, hper, hmon'⟩
        · obtain ⟨k, hk, hf, hp, hm⟩ := ih _ _ _ _ hmon' h
          refine ⟨k + 1, Nat.succ_le_succ hk, by rw [hf, List.append_assoc]; rfl, hp.trans hper, ?_⟩
          rw [hper] at hm
          rwa [List.take_succ_cons, evalPoints_cons, ← List.append_assoc]

/-- **C18 sessions: `clear_history()` between two calls.** The evaluator is in good order with the EMPTY history: the next call
needs `p + 1` new evaluations before it may stop (`C18_needs_history`), whatever stale `last_epoch` the stopper holds. -/
theorem C18_clear_history_monitors {name : String} {Mof Vof : W → Num ℝ} {crit : Criterion} {ev : AnyEval W ℝ}
    {prev : List (Int × W)} (h : Monitors name Mof Vof crit ev prev) :
    Monitors name Mof Vof crit ev.clearHistory [] ∧ evalPeriod ev.clearHistory = evalPeriod ev := by
  cases ev with
  | metric c s =>
    obtain ⟨hp, hnd, hep, hf, hc, _⟩ := h
    exact ⟨⟨hp, hnd, hep, hf, hc, rfl⟩, rfl⟩
  | observable c s =>
    obtain ⟨hp, hwf, hst, _⟩ := h
    exact ⟨⟨hp, hwf, hst, rfl⟩, rfl⟩

/-- a `fit` call entered with the stop flag still set does nothing (by construction of the model: `fitRun` tests the flag first,
neural_state.py:563-564; tied to the code by the session cases that do not reset the flag — the session ends there) -/
theorem C18_fit_entered_stopped {α : Type} [Sub α] [Div α] [Zero α] [BEq α] [LT α] [DecidableLT α] [Transc α]
    (es : EarlyStopping α) (evalFirst : Bool) (ev : AnyEval W α) (last : Option Int) (fired : List Int) (cands : List (Int × W)) :
    fitRun es evalFirst ⟨ev, ⟨true, last⟩, fired⟩ cands = .ok ⟨ev, ⟨true, last⟩, fired⟩ := by
  rfl

/-! ### the early-stopping loop IS the event protocol of C12 run with the derived stop requests

`QV.Cb.fitLoop` / `fitRun` (QV/Model/EarlyStop.lean) compute the stop requests from the evaluation history;
`QV.Train.fit` (QV/Model/Train.lean, property C12) takes them as a fixed oracle `Req`.  `QV.Cb.stopperReq`
(QV/Model/EarlyStopFit.lean) is the oracle DERIVED from the evaluator, the stopper and the world tokens.  The theorems below
show that `Train.fit` run with it traverses exactly the epochs `fitRun` fires, ends with the same flag, and that the hypotheses
of C12's stop theorems (`QuietBefore`, `QuietUpto`, a request at `on_epoch_end`) hold for it — so `C12_protocol`,
`C12_stop_at_epoch_end`, `C12_complete_without_stop`, `C12_sticky`, `C12_no_event_after_stop`, … apply verbatim to
early-stopped runs.  Generic in the scalar type (no `ℝ`-specific hypothesis): all sizes, periods, patience, values. -/

theorem fullEpochs_epochEnds (nb : Nat) (a b : Int) :
    (C12.fullEpochs nb a b).filterMap C12.epochEndOf = Train.epochRange a b := by
  unfold C12.fullEpochs
  induction Train.epochRange a b with
  | nil => rfl
  | cons e es ih =>
    have h1 := C12.pairs_filterMap_none C12.epochEndOf e nb (fun _ => rfl) (fun _ => rfl)
    have b1 : (C12.epochBlock e nb).filterMap C12.epochEndOf = [e] := by
      simp [C12.epochBlock, List.filterMap_cons, List.filterMap_append, h1, C12.epochEndOf]
    rw [List.flatMap_cons, List.filterMap_append, b1, ih]; rfl

/-- what C12 gives for ANY request oracle `R` that asks only while an `on_epoch_end` is dispatched, and there as `ask` says (shared
by the tie for one stopper and for several sources): `QuietUpto` then holds at every epoch for free, so `QuietBefore e` is "`ask`
is false on `start … e-1`", and the two cases are `C12_stop_at_epoch_end` at the FIRST `e` with `ask e` and
`C12_complete_without_stop` when there is none. -/
theorem fit_of_epochEnd_requests (c : Train.Cfg) (R : Train.Req) (ask : Int → Bool)
    (hee : ∀ e, Train.reqEv c R (.epochEnd e) = ask e)
    (hother : Train.reqEv c R .trainStart = false ∧ Train.reqEv c R .trainEnd = false ∧
      (∀ e, Train.reqEv c R (.epochStart e) = false) ∧
      (∀ e b, Train.reqEv c R (.batchStart e b) = false ∧ R.mid e b = false ∧ Train.reqEv c R (.batchEnd e b) = false)) :
    (∀ e, c.start ≤ e → e ≤ c.epochs → ask e = true → (∀ e', c.start ≤ e' → e' < e → ask e' = false) →
      C12.QuietBefore c R e ∧ C12.QuietUpto c R e c.numBatches ∧ Train.reqEv c R (.epochEnd e) = true ∧
      Train.events (Train.fit c R false).1 =
        Train.Event.trainStart :: (C12.fullEpochs c.numBatches c.start e ++ [Train.Event.trainEnd]) ∧
      (Train.fit c R false).2.stop = true) ∧
    ((∀ e', c.start ≤ e' → e' ≤ c.epochs → ask e' = false) →
      C12.QuietBefore c R (c.epochs + 1) ∧
      Train.events (Train.fit c R false).1 =
        Train.Event.trainStart :: (C12.fullEpochs c.numBatches c.start c.epochs ++ [Train.Event.trainEnd]) ∧
      (Train.fit c R false).2.stop = false) := by
  obtain ⟨hts, hte, hes, hb⟩ := hother
  have hup : ∀ e j, C12.QuietUpto c R e j := fun e j => ⟨hes e, fun b _ => hb e b⟩
  have hqb : ∀ e, (∀ e', c.start ≤ e' → e' < e → ask e' = false) → C12.QuietBefore c R e :=
    fun e h => ⟨hts, fun e' h1 h2 => ⟨hup e' _, (hee e').trans (h e' h1 h2)⟩⟩
  constructor
  · intro e h1 h2 he hpre
    have hr := (hee e).trans he
    obtain ⟨t1, t2⟩ := C12.C12_stop_at_epoch_end c R e h1 h2 (hqb e hpre) (hup e _) hr
    exact ⟨hqb e hpre, hup e _, hr, t1, t2⟩
  · intro hnone
    have hq := hqb (c.epochs + 1) fun e' g1 g2 => hnone e' g1 (by omega)
    obtain ⟨t1, t2⟩ := C12.C12_complete_without_stop c R hq
    exact ⟨hq, t1, t2.trans hte⟩

section tie
variable {α : Type} [Sub α] [Div α] [Zero α] [BEq α] [LT α] [DecidableLT α] [Transc α]

/-- **C18 ↔ C12: the derived requests.** For the request oracle derived from evaluator + stopper (any callback list that
contains the stopper; the other callbacks never ask): nobody asks at train-start, epoch-start, batch-start, inside a batch,
at batch-end or at train-end; at `on_epoch_end(e)` somebody asks iff `stopAsk … e`.  Hence, in C12's vocabulary: every
epoch is quiet up to any batch, epoch `e` is quiet iff the stopper does not ask at its end, and `QuietBefore e` iff it asks
at the end of no epoch `start ≤ e' < e`. -/
theorem C18_derived_requests (stId : Nat) (es : EarlyStopping α) (evalFirst : Bool) (ev₀ : AnyEval W α) (wof : Int → W)
    (c : Train.Cfg) (hst : stId ∈ c.cbs) :
    let R := stopperReq stId es evalFirst ev₀ wof c.start
    Train.reqEv c R .trainStart = false ∧ Train.reqEv c R .trainEnd = false ∧
    (∀ e, Train.reqEv c R (.epochEnd e) = stopAsk es evalFirst ev₀ wof c.start e) ∧
    (∀ e j, C12.QuietUpto c R e j) ∧
    (∀ e, C12.QuietEpoch c R e ↔ stopAsk es evalFirst ev₀ wof c.start e = false) ∧
    (∀ e, C12.QuietBefore c R e ↔ ∀ e', c.start ≤ e' → e' < e → stopAsk es evalFirst ev₀ wof c.start e' = false) := by
  intro R
  have hreq := stopperReq_reqEv stId es evalFirst ev₀ wof c hst
  have hup : ∀ e j, C12.QuietUpto c R e j :=
    fun e j => ⟨hreq (.epochStart e), fun b _ => ⟨hreq (.batchStart e b), rfl, hreq (.batchEnd e b)⟩⟩
  have hqe : ∀ e, C12.QuietEpoch c R e ↔ stopAsk es evalFirst ev₀ wof c.start e = false :=
    fun e => ⟨fun h => (hreq (.epochEnd e)).symm.trans h.2, fun h => ⟨hup e _, (hreq (.epochEnd e)).trans h⟩⟩
  exact ⟨hreq .trainStart, hreq .trainEnd, fun e => hreq (.epochEnd e), hup, hqe,
    fun e => ⟨fun h e' h1 h2 => (hqe e').mp (h.2 e' h1 h2), fun h => ⟨hreq .trainStart, fun e' h1 h2 => (hqe e').mpr (h e' h1 h2)⟩⟩⟩

/-- **C18 ↔ C12: the two cases of a run.** `fit(starting_epoch = c.start, epochs = c.epochs)` of QV.Model.EarlyStop (callback list
`[evaluator, stopper]` or `[stopper, evaluator]`, the evaluator holding `ev₀` on entry, any `last_epoch` / fired log so far) that
returns `r`, and `Train.fit` with the derived requests `R`, ANY number of batches (also 0), any other callbacks / timer /
scheduler in `c`:
* either the run stopped: at an epoch `e` of the range; `R` satisfies exactly the hypotheses of `C12_stop_at_epoch_end` at `e`
  (`QuietBefore`, `QuietUpto`, a request at `on_epoch_end(e)`); the epochs EarlyStop fired are `start … e`; the C12 event trace
  is train-start, the epochs `start … e` in full, train-end; both flags are set, `last_epoch = e`;
* or it did not: `R` is quiet before `epochs + 1` (the hypothesis of `C12_complete_without_stop`), all epochs fired, the C12
  trace is the complete one, both flags are clear, `last_epoch` is untouched. -/
theorem C18_fit_cases (stId : Nat) (es : EarlyStopping α) (evalFirst : Bool) (ev₀ : AnyEval W α) (wof : Int → W)
    (c : Train.Cfg) (hst : stId ∈ c.cbs) (last₀ : Option Int) (fired₀ : List Int) (r : FitState W α)
    (hrun : fitRun es evalFirst ⟨ev₀, ⟨false, last₀⟩, fired₀⟩
      ((Train.epochRange c.start c.epochs).map (fun e => (e, wof e))) = .ok r) :
    let R := stopperReq stId es evalFirst ev₀ wof c.start
    (∃ e, c.start ≤ e ∧ e ≤ c.epochs ∧
        C12.QuietBefore c R e ∧ C12.QuietUpto c R e c.numBatches ∧ Train.reqEv c R (.epochEnd e) = true ∧
        r.st = ⟨true, some e⟩ ∧ r.fired = fired₀ ++ Train.epochRange c.start e ∧
        Train.events (Train.fit c R false).1 =
          Train.Event.trainStart :: (C12.fullEpochs c.numBatches c.start e ++ [Train.Event.trainEnd]) ∧
        (Train.fit c R false).2.stop = true) ∨
    (C12.QuietBefore c R (c.epochs + 1) ∧
        r.st = ⟨false, last₀⟩ ∧ r.fired = fired₀ ++ Train.epochRange c.start c.epochs ∧
        Train.events (Train.fit c R false).1 =
          Train.Event.trainStart :: (C12.fullEpochs c.numBatches c.start c.epochs ++ [Train.Event.trainEnd]) ∧
        (Train.fit c R false).2.stop = false) := by
  intro R
  have hreq := stopperReq_reqEv stId es evalFirst ev₀ wof c hst
  obtain ⟨hstop, hquiet⟩ := fit_of_epochEnd_requests c R (stopAsk es evalFirst ev₀ wof c.start) (fun e => hreq (.epochEnd e))
    ⟨hreq .trainStart, hreq .trainEnd, fun e => hreq (.epochStart e),
      fun e b => ⟨hreq (.batchStart e b), rfl, hreq (.batchEnd e b)⟩⟩
  simp only [fitRun, Bool.false_eq_true, if_false] at hrun
  rcases fitLoop_stopAsk es evalFirst ev₀ wof c.start c.epochs _ c.start ev₀ last₀ fired₀ r rfl (Int.le_refl _)
      (evalAfter_empty_range ev₀ wof c.start) hrun with
    ⟨e, h1, h2, he, hpre, hrst, hrf⟩ | ⟨hnone, hrst, hrf⟩
  · obtain ⟨hq, hu, hr, t1, t2⟩ := hstop e h1 h2 he hpre
    exact Or.inl ⟨e, h1, h2, hq, hu, hr, hrst, hrf, t1, t2⟩
  · obtain ⟨hq, t1, t2⟩ := hquiet hnone
    exact Or.inr ⟨hq, hrst, hrf, t1, t2⟩

/-- **C18 ↔ C12: the early-stopping loop is `Train.fit` with the derived requests.** Under the hypotheses of `C18_fit_cases`
(∀ starting epochs, last epochs — empty ranges included —, numbers of batches, periods, patience, tolerances, criteria, value
sequences, list orders, earlier histories; a run that returns): the epochs whose `on_epoch_end` EarlyStop's loop fired are
exactly the epochs of the C12 event trace — which is train-start, those epochs each with ALL its batches, train-end —, the
`on_epoch_end` events of that trace are that list, the final `stop_training` of both models agree, and the stopper's
`last_epoch` is the last epoch of the trace iff the flag is set (untouched otherwise). -/
theorem C18_fitLoop_is_C12_fit (stId : Nat) (es : EarlyStopping α) (evalFirst : Bool) (ev₀ : AnyEval W α) (wof : Int → W)
    (c : Train.Cfg) (hst : stId ∈ c.cbs) (last₀ : Option Int) (fired₀ : List Int) (r : FitState W α)
    (hrun : fitRun es evalFirst ⟨ev₀, ⟨false, last₀⟩, fired₀⟩
      ((Train.epochRange c.start c.epochs).map (fun e => (e, wof e))) = .ok r) :
    let R := stopperReq stId es evalFirst ev₀ wof c.start
    ∃ run, r.fired = fired₀ ++ run ∧
      Train.events (Train.fit c R false).1 =
        Train.Event.trainStart :: (run.flatMap (fun e => C12.epochBlock e c.numBatches) ++ [Train.Event.trainEnd]) ∧
      (Train.events (Train.fit c R false).1).filterMap C12.epochEndOf = run ∧
      (Train.fit c R false).2.stop = r.st.stop ∧
      r.st.lastEpoch = (if r.st.stop then run.getLast? else last₀) ∧
      (r.st.stop = true → run ≠ []) := by
  intro R
  have hfm : ∀ b, (Train.Event.trainStart :: (C12.fullEpochs c.numBatches c.start b ++ [Train.Event.trainEnd])).filterMap
      C12.epochEndOf = Train.epochRange c.start b := by
    intro b
    rw [List.filterMap_cons, List.filterMap_append, fullEpochs_epochEnds]
    simp [C12.epochEndOf]
  rcases C18_fit_cases stId es evalFirst ev₀ wof c hst last₀ fired₀ r hrun with
    ⟨e, h1, _, _, _, _, hrst, hrf, t1, t2⟩ | ⟨_, hrst, hrf, t1, t2⟩
  · refine ⟨Train.epochRange c.start e, hrf, t1, by rw [t1]; exact hfm e, by rw [t2, hrst], ?_, ?_⟩
    · rw [hrst, Train.epochRange_snoc c.start e h1]; simp
    · intro _
      rw [Train.epochRange_snoc c.start e h1]; simp
  · refine ⟨Train.epochRange c.start c.epochs, hrf, t1, by rw [t1]; exact hfm _, by rw [t2, hrst], ?_, ?_⟩
    · rw [hrst]; simp
    · rw [hrst]; simp

/-- **C18 ↔ C12 with several stop sources.** One `fit(starting_epoch = c.start, epochs = c.epochs)` with the callback list
`before ++ [evaluator] ++ after` of QV.Model.EarlyStop (`fitRunMulti`; sources = stoppers of any configuration and callbacks
requesting a stop at given epoch-ends, each with any `last_epoch` so far) that returns `r`, and `Train.fit` with ANY request
oracle `R` that asks exactly as the sources do — at `on_epoch_end(e)` iff `multiAsk … e` (some source before the evaluator asks
on the history without this epoch's evaluation, or some source after it asks with it), never at another event or inside a batch
(`multiReq`, `C18_multiReq_derived`, is such an oracle): either the run stopped at an epoch `e` of the range, `R` satisfies the
hypotheses of `C12_stop_at_epoch_end` at `e`, the fired epochs are `start … e` and the C12 trace is train-start, `start … e`
in full, train-end, both flags set; or nobody asked: `R` is quiet, complete trace, both flags clear. -/
theorem C18_fit_cases_multi (before after : List (StopSrc α × Option Int)) (ev₀ : AnyEval W α) (wof : Int → W)
    (c : Train.Cfg) (R : Train.Req) (fired₀ : List Int) (r : MultiState W α)
    (hee : ∀ e, Train.reqEv c R (.epochEnd e) =
      multiAsk (before.map Prod.fst) (after.map Prod.fst) ev₀ wof c.start e)
    (hother : Train.reqEv c R .trainStart = false ∧ Train.reqEv c R .trainEnd = false ∧
      (∀ e, Train.reqEv c R (.epochStart e) = false) ∧
      (∀ e b, Train.reqEv c R (.batchStart e b) = false ∧ R.mid e b = false ∧ Train.reqEv c R (.batchEnd e b) = false))
    (hrun : fitRunMulti ⟨ev₀, before, after, false, fired₀⟩
      ((Train.epochRange c.start c.epochs).map (fun e => (e, wof e))) = .ok r) :
    (∃ e, c.start ≤ e ∧ e ≤ c.epochs ∧
        C12.QuietBefore c R e ∧ C12.QuietUpto c R e c.numBatches ∧ Train.reqEv c R (.epochEnd e) = true ∧
        r.stop = true ∧ r.fired = fired₀ ++ Train.epochRange c.start e ∧
        Train.events (Train.fit c R false).1 =
          Train.Event.trainStart :: (C12.fullEpochs c.numBatches c.start e ++ [Train.Event.trainEnd]) ∧
        (Train.fit c R false).2.stop = true) ∨
    (C12.QuietBefore c R (c.epochs + 1) ∧
        r.stop = false ∧ r.fired = fired₀ ++ Train.epochRange c.start c.epochs ∧
        Train.events (Train.fit c R false).1 =
          Train.Event.trainStart :: (C12.fullEpochs c.numBatches c.start c.epochs ++ [Train.Event.trainEnd]) ∧
        (Train.fit c R false).2.stop = false) := by
  obtain ⟨hstop, hquiet⟩ := fit_of_epochEnd_requests c R _ hee hother
  simp only [fitRunMulti, Bool.false_eq_true, if_false] at hrun
  rcases fitLoopMulti_ask (before.map Prod.fst) (after.map Prod.fst) ev₀ wof c.start c.epochs _ c.start
      ⟨ev₀, before, after, false, fired₀⟩ r rfl (Int.le_refl _) rfl rfl rfl (evalAfter_empty_range ev₀ wof c.start) hrun with
    ⟨e, h1, h2, he, hpre, hrs, hrf⟩ | ⟨hnone, hrs, hrf⟩
  · obtain ⟨hq, hu, hr, t1, t2⟩ := hstop e h1 h2 he hpre
    exact Or.inl ⟨e, h1, h2, hq, hu, hr, hrs, hrf, t1, t2⟩
  · obtain ⟨hq, t1, t2⟩ := hquiet hnone
    exact Or.inr ⟨hq, hrs, hrf, t1, t2⟩

/-- **C18 ↔ C12: the derived requests of several sources.** `multiReq` — callback identities = positions in the list
`before ++ [evaluator] ++ after`; a source before the evaluator asks on the history without this epoch's evaluation, one after
it with it, the evaluator never — is an oracle as `C18_fit_cases_multi` wants it: some callback asks at `on_epoch_end(e)` iff
`multiAsk … e`, nobody asks at any other event or inside a batch. -/
theorem C18_multiReq_derived (before after : List (StopSrc α)) (ev₀ : AnyEval W α) (wof : Int → W) (c : Train.Cfg)
    (hc : c.cbs = List.range (before.length + 1 + after.length)) :
    let R := multiReq before after ev₀ wof c.start
    (∀ e, Train.reqEv c R (.epochEnd e) = multiAsk before after ev₀ wof c.start e) ∧
    (Train.reqEv c R .trainStart = false ∧ Train.reqEv c R .trainEnd = false ∧
      (∀ e, Train.reqEv c R (.epochStart e) = false) ∧
      (∀ e b, Train.reqEv c R (.batchStart e b) = false ∧ R.mid e b = false ∧ Train.reqEv c R (.batchEnd e b) = false)) := by
  intro R
  have h := multiReq_reqEv before after ev₀ wof c hc
  exact ⟨fun e => h (.epochEnd e), h .trainStart, h .trainEnd, fun e => h (.epochStart e),
    fun e b => ⟨h (.batchStart e b), rfl, h (.batchEnd e b)⟩⟩

/-- **C18 ↔ C12: `fitRunMulti` is `Train.fit` with the derived requests `multiReq`** (the instance of `C18_fit_cases_multi`
for the concrete oracle): the epochs fired by EarlyStop's loop with several stop sources are the epochs of the C12 trace, which
is train-start, those epochs in full, train-end; the final flags agree. -/
theorem C18_fitRunMulti_is_C12_fit (before after : List (StopSrc α × Option Int)) (ev₀ : AnyEval W α) (wof : Int → W)
    (c : Train.Cfg) (hc : c.cbs = List.range (before.length + 1 + after.length)) (fired₀ : List Int) (r : MultiState W α)
    (hrun : fitRunMulti ⟨ev₀, before, after, false, fired₀⟩
      ((Train.epochRange c.start c.epochs).map (fun e => (e, wof e))) = .ok r) :
    let R := multiReq (before.map Prod.fst) (after.map Prod.fst) ev₀ wof c.start
    ∃ run, r.fired = fired₀ ++ run ∧
      Train.events (Train.fit c R false).1 =
        Train.Event.trainStart :: (run.flatMap (fun e => C12.epochBlock e c.numBatches) ++ [Train.Event.trainEnd]) ∧
      (Train.fit c R false).2.stop = r.stop ∧
      (∃ last, run = Train.epochRange c.start last ∧ last ≤ c.epochs ∧ (r.stop = false → last = c.epochs)) := by
  intro R
  obtain ⟨hee, hother⟩ := C18_multiReq_derived (before.map Prod.fst) (after.map Prod.fst) ev₀ wof c (by simpa using hc)
  rcases C18_fit_cases_multi before after ev₀ wof c R fired₀ r hee hother hrun with
    ⟨e, _, h2, _, _, _, hrs, hrf, t1, t2⟩ | ⟨_, hrs, hrf, t1, t2⟩
  · exact ⟨_, hrf, t1, by rw [t2, hrs], e, rfl, h2, fun h => by rw [hrs] at h; simp at h⟩
  · exact ⟨_, hrf, t1, by rw [t2, hrs], c.epochs, rfl, Int.le_refl _, fun _ => rfl⟩

end tie

/-! ### the stop in the C12 event trace (ℝ, no "the run returns" hypothesis) -/

theorem trace_ends_at {evs : List Train.Event} {nb : Nat} {a e : Int} (h1 : a ≤ e)
    (t1 : evs = Train.Event.trainStart :: (C12.fullEpochs nb a e ++ [Train.Event.trainEnd])) :
    evs = Train.Event.trainStart :: (C12.fullEpochs nb a (e - 1) ++ C12.epochBlock e nb ++ [Train.Event.trainEnd]) ∧
    ∀ e', e < e' → Train.Event.epochStart e' ∉ evs := by
  refine ⟨by rw [t1, C12.fullEpochs_snoc nb a e h1], fun e' hlt hmem => ?_⟩
  have h2 : e' ∈ evs.filterMap C12.epochStartOf := List.mem_filterMap.mpr ⟨_, hmem, rfl⟩
  rw [t1, List.filterMap_cons, List.filterMap_append, ← C12.fullEpochs_start_end, fullEpochs_epochEnds] at h2
  simp only [C12.epochStartOf, List.filterMap_cons, List.filterMap_nil, List.append_nil] at h2
  exact absurd ((Train.mem_epochRange _ _ _).mp h2).2 (by omega)

/-- **C18 stop trace.** The hypotheses of `C18_first_stop` (ℝ; any value sequence `wof`, patience `p ≥ 1`, periods ≥ 1, any
tolerance, either list order, an evaluator in good order with any earlier history `prev`), the run being
`fit(starting_epoch = c.start, epochs = c.epochs)` with `c.numBatches` batches per epoch and any further callbacks that do not
ask for a stop.  NO "the run returns" hypothesis.  With `R` the derived request oracle:
* either the documented rule first holds at a checked candidate `x` (`StopsAt`, no earlier candidate): then the C12 event trace
  is train-start, the epochs before `x` in full, epoch `x` in full, train-end — it ends `…, ee x, te` —, no epoch after `x`
  starts, the flag of `Train.fit` is set, and `R` satisfies the hypotheses of `C12_stop_at_epoch_end` at `x`;
* or it holds at no candidate: the trace is the complete one, the flag clear, `R` is quiet (`C12_complete_without_stop`). -/
theorem C18_stop_trace (es : EarlyStopping ℝ) (p : ℕ) (hp1 : 1 ≤ p) (hp : es.patience = (p : Int))
    (hps : 1 ≤ es.period) (evalFirst : Bool) {Mof Vof : W → Num ℝ} (wof : Int → W) (c : Train.Cfg) (stId : Nat)
    (hst : stId ∈ c.cbs) (ev₀ : AnyEval W ℝ) (prev : List (Int × W))
    (hmon : Monitors es.quantityName Mof Vof es.criterion ev₀ prev) :
    let cands := (Train.epochRange c.start c.epochs).map (fun e => (e, wof e))
    let R := stopperReq stId es evalFirst ev₀ wof c.start
    (∃ pre x post, cands = pre ++ x :: post ∧ c.start ≤ x.1 ∧ x.1 ≤ c.epochs ∧
        StopsAt es p evalFirst (evalPeriod ev₀) Mof Vof prev pre x ∧
        (∀ pre' x' post', cands = pre' ++ x' :: post' → pre'.length < pre.length →
          ¬ StopsAt es p evalFirst (evalPeriod ev₀) Mof Vof prev pre' x') ∧
        C12.QuietBefore c R x.1 ∧ C12.QuietUpto c R x.1 c.numBatches ∧ Train.reqEv c R (.epochEnd x.1) = true ∧
        Train.events (Train.fit c R false).1 =
          Train.Event.trainStart :: (C12.fullEpochs c.numBatches c.start (x.1 - 1) ++ C12.epochBlock x.1 c.numBatches
            ++ [Train.Event.trainEnd]) ∧
        (∀ e', x.1 < e' → Train.Event.epochStart e' ∉ Train.events (Train.fit c R false).1) ∧
        (Train.fit c R false).2.stop = true) ∨
    ((∀ pre x post, cands = pre ++ x :: post → ¬ StopsAt es p evalFirst (evalPeriod ev₀) Mof Vof prev pre x) ∧
        C12.QuietBefore c R (c.epochs + 1) ∧
        Train.events (Train.fit c R false).1 =
          Train.Event.trainStart :: (C12.fullEpochs c.numBatches c.start c.epochs ++ [Train.Event.trainEnd]) ∧
        (Train.fit c R false).2.stop = false) := by
  intro cands R
  obtain ⟨r, hrun, hcases⟩ := C18_first_stop es p hp1 hp hps evalFirst cands ev₀ prev none [] hmon
  rcases C18_fit_cases stId es evalFirst ev₀ wof c hst none [] r hrun with
    ⟨e, h1, h2, hq, hu, hr, hrst, _, t1, t2⟩ | ⟨hq, hrst, _, t1, t2⟩
  · rcases hcases with ⟨pre, x, post, hsplit, hsa, hearlier, hrst', _⟩ | ⟨_, hrst', _⟩
    · obtain rfl : e = x.1 := by simpa [hrst] using hrst'
      obtain ⟨t3, t4⟩ := trace_ends_at h1 t1
      exact Or.inl ⟨pre, x, post, hsplit, h1, h2, hsa, hearlier, hq, hu, hr, t3, t4, t2⟩
    · cases hrst.symm.trans hrst'
  · rcases hcases with ⟨_, _, _, _, _, _, hrst', _⟩ | ⟨hnone, _, _⟩
    · cases hrst.symm.trans hrst'
    · exact Or.inr ⟨hnone, hq, t1, t2⟩

/-- **C18 stop trace with several stop sources.** The hypotheses of `C18_first_stop_multi` (ℝ; callback list
`before ++ [evaluator] ++ after`, ANY stoppers — own criterion, patience `≥ 0`, period `≥ 1`, tolerance, quantity — and requesting
callbacks, each with any `last_epoch`; an evaluator in good order with any earlier history `prev`; any value sequence `wof`), the
run being `fit(starting_epoch = c.start, epochs = c.epochs)` with `c.numBatches` batches per epoch, callback identities =
positions in the list.  NO "the run returns" hypothesis.  With `R := multiReq …` the derived request oracle:
* either SOME source's rule first holds at a candidate `x` (`AnyFires`, at no earlier candidate): then the C12 event trace of
  `Train.fit` is train-start, the epochs before `x` in full, epoch `x` in full, train-end — it ends `…, ee x, te` —, no epoch
  after `x` starts, the flag of `Train.fit` is set, and `R` satisfies the hypotheses of `C12_stop_at_epoch_end` at `x`;
* or no source ever fires: the trace is the complete one, the flag clear, `R` is quiet (`C12_complete_without_stop`). -/
theorem C18_stop_trace_multi (Mof Vof : String → W → Num ℝ) (before after : List (StopSrc ℝ × Option Int))
    (wof : Int → W) (c : Train.Cfg) (hc : c.cbs = List.range (before.length + 1 + after.length))
    (ev₀ : AnyEval W ℝ) (prev : List (Int × W))
    (hev : ∃ name crit, Monitors name (Mof name) (Vof name) crit ev₀ prev)
    (hok : ∀ p ∈ before ++ after, SrcOK Mof Vof ev₀ prev p.1) :
    let cands := (Train.epochRange c.start c.epochs).map (fun e => (e, wof e))
    let R := multiReq (before.map Prod.fst) (after.map Prod.fst) ev₀ wof c.start
    (∃ pre x post, cands = pre ++ x :: post ∧ c.start ≤ x.1 ∧ x.1 ≤ c.epochs ∧
        AnyFires Mof Vof (evalPeriod ev₀) before after prev pre x ∧
        (∀ pre' x' post', cands = pre' ++ x' :: post' → pre'.length < pre.length →
          ¬ AnyFires Mof Vof (evalPeriod ev₀) before after prev pre' x') ∧
        C12.QuietBefore c R x.1 ∧ C12.QuietUpto c R x.1 c.numBatches ∧ Train.reqEv c R (.epochEnd x.1) = true ∧
        Train.events (Train.fit c R false).1 =
          Train.Event.trainStart :: (C12.fullEpochs c.numBatches c.start (x.1 - 1) ++ C12.epochBlock x.1 c.numBatches
            ++ [Train.Event.trainEnd]) ∧
        (∀ e', x.1 < e' → Train.Event.epochStart e' ∉ Train.events (Train.fit c R false).1) ∧
        (Train.fit c R false).2.stop = true) ∨
    ((∀ pre x post, cands = pre ++ x :: post → ¬ AnyFires Mof Vof (evalPeriod ev₀) before after prev pre x) ∧
        C12.QuietBefore c R (c.epochs + 1) ∧
        Train.events (Train.fit c R false).1 =
          Train.Event.trainStart :: (C12.fullEpochs c.numBatches c.start c.epochs ++ [Train.Event.trainEnd]) ∧
        (Train.fit c R false).2.stop = false) := by
  intro cands R
  obtain ⟨r, hrun, hcases⟩ := C18_first_stop_multi Mof Vof before after cands ev₀ prev [] hev hok
  obtain ⟨hee, hother⟩ := C18_multiReq_derived (before.map Prod.fst) (after.map Prod.fst) ev₀ wof c (by simpa using hc)
  rcases C18_fit_cases_multi before after ev₀ wof c R [] r hee hother hrun with
    ⟨e, h1, h2, hq, hu, hr, hrs, hrf, t1, t2⟩ | ⟨hq, hrs, _, t1, t2⟩
  · rcases hcases with ⟨pre, x, post, hsplit, hsa, hearlier, _, hrf', _, _⟩ | ⟨_, hrs', _⟩
    · obtain rfl : e = x.1 := by
        rw [hrf, Train.epochRange_snoc c.start e h1] at hrf'
        simpa using congrArg List.getLast? hrf'
      obtain ⟨t3, t4⟩ := trace_ends_at h1 t1
      exact Or.inl ⟨pre, x, post, hsplit, h1, h2, hsa, hearlier, hq, hu, hr, t3, t4, t2⟩
    · cases hrs.symm.trans hrs'
  · rcases hcases with ⟨_, _, _, _, _, _, hrs', _⟩ | ⟨hnone, _, _⟩
    · cases hrs.symm.trans hrs'
    · exact Or.inr ⟨hnone, hq, t1, t2⟩

/-! ### a whole session of consecutive `fit` calls -/

/-- one `fit` call of a session as the user makes it: `clear` = `evaluator.clear_history()` before it, `reset` =
`nn_state.stop_training = False` before it, then `fit(starting_epoch = cfg.start, epochs = cfg.epochs)` with `cfg.numBatches`
batches per epoch and the callback list `cfg.cbs`; `wof e` = the world token at the end of epoch `e` of THIS call -/
structure Call (W : Type) where
  clear : Bool
  reset : Bool
  cfg : Train.Cfg
  wof : Int → W

def Call.cands (k : Call W) : List (Int × W) := (Train.epochRange k.cfg.start k.cfg.epochs).map (fun e => (e, k.wof e))

/-- the call as a segment of `QV.Cb.sessionRun` -/
def Call.seg (k : Call W) : Segment W := ⟨k.clear, k.reset, k.cands⟩

/-- what ONE call `k` of a session does when entered with the flag CLEAR, the evaluator holding `ev` (evaluation points `prev`)
and the stopper's `last_epoch = last`, in terms of its result `r`: the conclusion of `C18_first_stop` (first checked epoch at
which the documented rule holds on `prev` plus this call's evaluations) and of `C18_fitLoop_is_C12_fit` (the C12 event trace of
`Train.fit` with the requests derived FROM `ev` is train-start, the fired epochs in full, train-end; flags agree). -/
def CallTrace (es : EarlyStopping ℝ) (p : ℕ) (evalFirst : Bool) (stId : Nat) (Mof Vof : W → Num ℝ) (k : Call W)
    (ev : AnyEval W ℝ) (prev : List (Int × W)) (last : Option Int) (r : FitState W ℝ) : Prop :=
  ((∃ pre x post, k.cands = pre ++ x :: post ∧ StopsAt es p evalFirst (evalPeriod ev) Mof Vof prev pre x ∧
      (∀ pre' x' post', k.cands = pre' ++ x' :: post' → pre'.length < pre.length →
        ¬ StopsAt es p evalFirst (evalPeriod ev) Mof Vof prev pre' x') ∧
      r.st = ⟨true, some x.1⟩ ∧ r.fired = (pre ++ [x]).map Prod.fst) ∨
   ((∀ pre x post, k.cands = pre ++ x :: post → ¬ StopsAt es p evalFirst (evalPeriod ev) Mof Vof prev pre x) ∧
      r.st = ⟨false, last⟩ ∧ r.fired = k.cands.map Prod.fst)) ∧
  (Train.events (Train.fit k.cfg (stopperReq stId es evalFirst ev k.wof k.cfg.start) false).1 =
      Train.Event.trainStart :: (r.fired.flatMap (fun e => C12.epochBlock e k.cfg.numBatches) ++ [Train.Event.trainEnd]) ∧
    (Train.events (Train.fit k.cfg (stopperReq stId es evalFirst ev k.wof k.cfg.start) false).1).filterMap C12.epochEndOf
      = r.fired ∧
    (Train.fit k.cfg (stopperReq stId es evalFirst ev k.wof k.cfg.start) false).2.stop = r.st.stop)

/-- the specification of a whole session, call by call: the session entered with the evaluator `ev` (evaluation points `prev`)
and the stopper state `st`; `rs` = the results of the calls.  For each call, with the evaluator / its points taken after the
optional `clear_history()` (the `if k.clear …` terms) and the flag after the optional reset (`if k.reset …`):
* entered with the flag still set (no reset): the call changes nothing (`r` = the entry state, nothing fired) and `Train.fit`
  entered with the flag set emits the EMPTY trace;
* entered with the flag clear: `CallTrace` from the state LEFT BY THE PREVIOUS CALLS;
* in both cases the epochs that fired are a prefix `cands.take n` of the call's epochs, the evaluator is in good order with the
  points it had on entry followed by the evaluation points among those epochs, and the REST of the session satisfies the specification from the
  evaluator, stop flag / `last_epoch` and points this call leaves. -/
def SessionTraces (es : EarlyStopping ℝ) (p : ℕ) (evalFirst : Bool) (stId : Nat) (Mof Vof : W → Num ℝ) :
    List (Call W) → List (FitState W ℝ) → AnyEval W ℝ → StopState → List (Int × W) → Prop
  | [], [], _, _, _ => True
  | k :: ks, r :: rs, ev, st, prev =>
    (((if k.reset then false else st.stop) = true →
        r = ⟨if k.clear then ev.clearHistory else ev, ⟨true, st.lastEpoch⟩, []⟩ ∧
        Train.events (Train.fit k.cfg (stopperReq stId es evalFirst (if k.clear then ev.clearHistory else ev) k.wof
          k.cfg.start) true).1 = []) ∧
      ((if k.reset then false else st.stop) = false →
        CallTrace es p evalFirst stId Mof Vof k (if k.clear then ev.clearHistory else ev) (if k.clear then [] else prev)
          st.lastEpoch r)) ∧
    ∃ n, n ≤ k.cands.length ∧ r.fired = (k.cands.take n).map Prod.fst ∧ evalPeriod r.ev = evalPeriod ev ∧
      Monitors es.quantityName Mof Vof es.criterion r.ev
        ((if k.clear then [] else prev) ++ evalPoints (evalPeriod ev) (k.cands.take n)) ∧
      SessionTraces es p evalFirst stId Mof Vof ks rs r.ev r.st
        ((if k.clear then [] else prev) ++ evalPoints (evalPeriod ev) (k.cands.take n))
  | _, _, _, _, _ => False

/-- the step of the induction in `C18_session_traces`: one call, `ev` / `prev` taken AFTER the optional `clear_history()` and `stop`
after the optional reset.  The last conjunct (`Monitors` for `r.ev`) is what the next call needs. -/
theorem call_trace (es : EarlyStopping ℝ) (p : ℕ) (hp1 : 1 ≤ p) (hp : es.patience = (p : Int)) (hps : 1 ≤ es.period)
    (evalFirst : Bool) (stId : Nat) {Mof Vof : W → Num ℝ} (k : Call W) (hst : stId ∈ k.cfg.cbs)
    {ev : AnyEval W ℝ} {prev : List (Int × W)} (hmon : Monitors es.quantityName Mof Vof es.criterion ev prev)
    (stop : Bool) (last : Option Int) :
    ∃ r, fitRun es evalFirst ⟨ev, ⟨stop, last⟩, []⟩ k.cands = .ok r ∧
      (stop = true → r = ⟨ev, ⟨true, last⟩, []⟩) ∧
      (stop = false → CallTrace es p evalFirst stId Mof Vof k ev prev last r) ∧
      ∃ n, n ≤ k.cands.length ∧ r.fired = (k.cands.take n).map Prod.fst ∧ evalPeriod r.ev = evalPeriod ev ∧
        Monitors es.quantityName Mof Vof es.criterion r.ev (prev ++ evalPoints (evalPeriod ev) (k.cands.take n)) := by
  cases stop with
  | true =>
    exact ⟨_, rfl, fun _ => rfl, nofun, 0, Nat.zero_le _, rfl, rfl,
      by rwa [List.take_zero, evalPoints, List.filter_nil, List.append_nil]⟩
  | false =>
    obtain ⟨r, hr, hcases⟩ := C18_first_stop es p hp1 hp hps evalFirst k.cands ev prev last [] hmon
    obtain ⟨run, hrun, t1, t2, t3, _, _⟩ := C18_fitLoop_is_C12_fit stId es evalFirst ev k.wof k.cfg hst last [] r hr
    obtain rfl : run = r.fired := hrun.symm
    exact ⟨r, hr, nofun, fun _ => ⟨hcases, t1, t2, t3⟩, C18_fit_keeps_monitoring es evalFirst k.cands ev prev _ [] r hmon hr⟩

/-- **C18 session traces.** A WHOLE SESSION of consecutive `fit` calls on the SAME evaluator and stopper objects
(`QV.Cb.sessionRun`): ANY list of calls — each with its own starting epoch, last epoch (empty ranges included), number of
batches, world tokens, further non-asking callbacks; each preceded or not by `evaluator.clear_history()` and / or by
`stop_training = False` —, any entry state of the session (flag set or clear, any `last_epoch`, an evaluator in good order with
any earlier evaluation points `prev`), patience `p ≥ 1`, periods `≥ 1`, any tolerance / criterion / values, either list order.
NO "the session returns" hypothesis: the session does not raise, and its results satisfy `SessionTraces`: by induction over the
calls, each call's C12 event trace is the one `C18_fit_cases` / `C18_fitLoop_is_C12_fit` give for the requests derived from
the evaluator state and `last_epoch` LEFT BY THE PREVIOUS CALLS, it stops at the first checked epoch at which the documented
rule holds on ALL evaluation points accumulated so far in the session (since the last `clear_history()`), and a call entered
with the flag still set emits the empty trace and changes nothing (so every later call without a reset does nothing either). -/
theorem C18_session_traces (es : EarlyStopping ℝ) (p : ℕ) (hp1 : 1 ≤ p) (hp : es.patience = (p : Int))
    (hps : 1 ≤ es.period) (evalFirst : Bool) (stId : Nat) {Mof Vof : W → Num ℝ} (calls : List (Call W)) :
    (∀ k ∈ calls, stId ∈ k.cfg.cbs) →
    ∀ (ev : AnyEval W ℝ) (st : StopState) (prev : List (Int × W)),
    Monitors es.quantityName Mof Vof es.criterion ev prev →
    ∃ rs, sessionRun es evalFirst ev st (calls.map Call.seg) = .ok rs ∧
      SessionTraces es p evalFirst stId Mof Vof calls rs ev st prev := by
  induction calls with
  | nil => intro _ ev st prev _; exact ⟨[], rfl, trivial⟩
  | cons k ks ih =>
    intro hst ev st prev hmon
    obtain ⟨hm1, hper1⟩ : Monitors es.quantityName Mof Vof es.criterion (if k.clear then ev.clearHistory else ev)
        (if k.clear then [] else prev) ∧ evalPeriod (if k.clear then ev.clearHistory else ev) = evalPeriod ev := by
      cases k.clear
      exacts [⟨hmon, rfl⟩, C18_clear_history_monitors hmon]
    obtain ⟨r, hr, hset, hclear, n, hn, hfn, hpn, hmn⟩ := call_trace es p hp1 hp hps evalFirst stId k (hst k List.mem_cons_self)
      hm1 (if k.reset then false else st.stop) st.lastEpoch
    rw [hper1] at hpn hmn
    obtain ⟨rs, hrs, hspec⟩ := ih (fun k' hk' => hst k' (List.mem_cons_of_mem _ hk')) r.ev r.st _ hmn
    exact ⟨r :: rs, by simp only [List.map_cons, sessionRun, Call.seg, hr, hrs],
      ⟨fun h => ⟨hset h, rfl⟩, hclear⟩, n, hn, hfn, hpn, hmn, hspec⟩

/-! ### non-vacuity, the F7 regression witness and the (repaired) F8 witness

The witnesses are concrete runs.  The evaluator's getters on a concrete history are closed terms (`rfl`); the stopper's decision then
comes from the closed form of the deviation (`deviation_real`) and one comparison of numerals. -/

/-- a metric evaluator of period 1 tracking one scripted quantity "m" (value = function of the epoch) -/
def exEval (f : Int → Num ℝ) : AnyEval Int ℝ := .metric ⟨1, [("m", f)], false⟩ ⟨[], [], []⟩

/-- a stopper of period 1 and patience 1 on "m" -/
def exStopper (crit : Criterion) (tol : ℝ) : EarlyStopping ℝ := ⟨1, some tol, 1, "m", crit, .metric⟩

theorem exEval_monitors (f : Int → Num ℝ) {crit : Criterion} (hc : crit ≠ .variance) : Monitors "m" f f crit (exEval f) [] :=
  ⟨le_refl 1, List.nodup_singleton "m", nofun, List.mem_singleton_self _, hc, rfl⟩

/-- the hypotheses of `C18_first_stop` are satisfiable: the example evaluator monitors "m" -/
example (f : Int → Num ℝ) : Monitors "m" f f .absolute (exEval f) [] :=
  exEval_monitors f (by decide)

/-- the example evaluator after the evaluations `recs` -/
def exEvalAt (f : Int → Num ℝ) (recs : List (Int × ℝ)) : AnyEval Int ℝ :=
  .metric ⟨1, [("m", f)], false⟩
    ⟨recs.map (fun r => (r.1, [("m", ⟨.py, r.2⟩)])), (match recs.getLast? with | some r => [("m", ⟨.py, r.2⟩)] | none => []), []⟩

theorem exEvalAt_step (f : Int → Num ℝ) (recs : List (Int × ℝ)) (e w : Int) (v : ℝ) (hv : f w = ⟨.py, v⟩) :
    (exEvalAt f recs).onEpochEnd e w = .ok (exEvalAt f (recs ++ [(e, v)])) := by
  simp [exEvalAt, AnyEval.onEpochEnd, MetricEvaluator.onEpochEnd, gate_pos, MetricEvaluator.evalAll, Except.map, hv]

/-- scripted values 1, 5, 5, 5, … by epoch -/
def f15 : Int → Num ℝ := fun e => ⟨.py, if e = 1 then 1 else 5⟩

theorem f15_one : f15 1 = ⟨.py, 1⟩ := congrArg (Num.mk .py) (if_pos rfl)

theorem f15_ne_one {e : Int} (h : e ≠ 1) : f15 e = ⟨.py, 5⟩ := congrArg (Num.mk .py) (if_neg h)

/-- values 1, 5: `|1 − 5| = 4` is not below 0.01 -/
theorem exStop15_two (st : StopState) :
    (exStopper .absolute 0.01).onEpochEnd (exEvalAt f15 [(1, 1), (2, 5)]) st 2 = .ok st := by
  rw [EarlyStopping.onEpochEnd_of_deviation rfl (by decide)
    (deviation_real (ref := ⟨.py, 1⟩) (cur := ⟨.py, 5⟩) (var := ⟨.py, 0⟩) rfl rfl fun h => absurd h (by decide))]
  norm_num [exStopper, belowTol]

/-- values 1, 5, 5 and patience 1: `|5 − 5| = 0 < 0.01` -/
theorem exStop15_three (st : StopState) :
    (exStopper .absolute 0.01).onEpochEnd (exEvalAt f15 [(1, 1), (2, 5), (3, 5)]) st 3 = .ok ⟨true, some 3⟩ := by
  rw [EarlyStopping.onEpochEnd_of_deviation rfl (by decide)
    (deviation_real (ref := ⟨.py, 5⟩) (cur := ⟨.py, 5⟩) (var := ⟨.py, 0⟩) rfl rfl fun h => absurd h (by decide))]
  norm_num [exStopper, belowTol]

/-- **F7 regression witness** (`p = 1`, values `[1, 5, 5, …]`, tolerance `0.01`, absolute): the run does NOT stop at
the second evaluation (where the unfixed code compared 5 with itself) but at the third. -/
theorem exRun15 : (fitRun (exStopper .absolute 0.01) true ⟨exEval f15, ⟨false, none⟩, []⟩ [(1, 1), (2, 2), (3, 3), (4, 4)]).map
        (fun r => (r.st, r.fired)) = .ok (⟨true, some 3⟩, [1, 2, 3]) := by
  rw [show exEval f15 = exEvalAt f15 [] from rfl]
  simp [fitRun, fitLoop, epochEndBoth, Except.map, exEvalAt_step f15 _ 1 1 1 f15_one,
    exEvalAt_step f15 _ 2 2 5 (f15_ne_one (by decide)), exEvalAt_step f15 _ 3 3 5 (f15_ne_one (by decide)),
    EarlyStopping.onEpochEnd_of_len_le (es := exStopper .absolute 0.01) (ev := exEvalAt f15 [(1, 1)]) (by decide) (by decide), exStop15_two, exStop15_three]

/-- scripted Python-float values 0, 5, 5, 5, … by epoch -/
def f05 : Int → Num ℝ := fun e => ⟨.py, if e = 1 then 0 else 5⟩

theorem f05_ne_one {e : Int} (h : e ≠ 1) : f05 e = ⟨.py, 5⟩ := congrArg (Num.mk .py) (if_neg h)

/-- the hypotheses of the translator bridge `C18_gen_deviation_eq_model` are met by the example evaluator after two
evaluations — with a ZERO reference value, i.e. on the degenerate branch of the relative criterion -/
example : ∃ d, (exStopper .relative 0.01).deviation (exEvalAt f05 [(1, 0), (2, 5)]) = .ok d ∧
    devFl d = genDeviation (exStopper .relative 0.01) (exEvalAt f05 [(1, 0), (2, 5)]) :=
  C18_gen_deviation_eq_model _ _ ⟨.py, 0⟩ ⟨.py, 5⟩ ⟨.py, 0⟩ rfl rfl fun h => absurd h (by decide)

/-- … and of `C18_gen_on_epoch_end_eq_model` (period 1, tolerance 0.01, absolute criterion, values 1, 5) -/
example : ∃ r, (exStopper .absolute 0.01).onEpochEnd (exEvalAt f15 [(1, 1), (2, 5)]) ⟨false, none⟩ 2 = .ok r := by
  obtain ⟨d, hd, _⟩ := C18_gen_deviation_eq_model (exStopper .absolute 0.01) (exEvalAt f15 [(1, 1), (2, 5)])
    ⟨.py, 1⟩ ⟨.py, 5⟩ ⟨.py, 0⟩ rfl rfl fun h => absurd h (by decide)
  exact ⟨_, C18_gen_on_epoch_end_eq_model _ _ _ 2 0.01 d (by decide) rfl hd⟩

/-- scripted values 5, 5, 5, … -/
def f55 : Int → Num ℝ := fun _ => ⟨.py, 5⟩

/-- **length gate, CLOSED at `len = patience`** (patience 1, ONE evaluation, values constant so that the rule itself would
be met): model and translated `on_epoch_end` both leave `(False, None)` — through `C18_gen_on_epoch_end_gate_closed` and
through the unconditional `C18_gen_on_epoch_end_eq_model_total`.  A `≥` gate on either side breaks this example (the model
would read index `-2` of a one-element history: `IndexError`; the generated side would not be the entry state for all
deviations). -/
example : (exStopper .absolute 0.01).onEpochEnd (exEvalAt f55 [(1, 5)]) ⟨false, none⟩ 1 = .ok ⟨false, none⟩
    ∧ (∀ tol dAny : Gen.Fl ℝ, Gen.EarlyStopping.onEpochEnd 1 1 1 tol 1 dAny false none = (false, none)) := by
  have h := C18_gen_on_epoch_end_gate_closed (exStopper .absolute 0.01) (exEvalAt f55 [(1, 5)]) ⟨false, none⟩ 1
    (by decide) (Or.inr (by decide))
  exact ⟨h.1, h.2.2⟩

/-- **length gate, OPEN at `len = patience + 1`** (patience 1, TWO evaluations 5, 5: `|5 − 5| = 0 < 0.01`): the model
stops (`(True, 2)`), and by the unconditional bridge that is the translated `on_epoch_end` on the translated deviation; the
translated function on `len = 2`, deviation `0` gives `(True, 2)` as well.  A gate `len > patience + 1` on either side breaks
this example. -/
example : (exStopper .absolute 0.01).onEpochEnd (exEvalAt f55 [(1, 5), (2, 5)]) ⟨false, none⟩ 2 = .ok ⟨true, some 2⟩
    ∧ Gen.EarlyStopping.onEpochEnd 2 1 1 (some (0.01 : ℝ)) 2
        (genDeviation (exStopper .absolute 0.01) (exEvalAt f55 [(1, 5), (2, 5)])) false none = (true, some 2)
    ∧ Gen.EarlyStopping.onEpochEnd 2 1 1 (some (0.01 : ℝ)) 2 (some 0) false none = (true, some 2) := by
  have hm : (exStopper .absolute 0.01).onEpochEnd (exEvalAt f55 [(1, 5), (2, 5)]) ⟨false, none⟩ 2 = .ok ⟨true, some 2⟩ := by
    rw [EarlyStopping.onEpochEnd_of_deviation rfl (by decide)
      (deviation_real (ref := ⟨.py, 5⟩) (cur := ⟨.py, 5⟩) (var := ⟨.py, 0⟩) rfl rfl fun h => absurd h (by decide))]
    norm_num [exStopper, belowTol]
  have ht := C18_gen_on_epoch_end_eq_model_total (exStopper .absolute 0.01) (exEvalAt f55 [(1, 5), (2, 5)]) ⟨false, none⟩ 2 0.01
    (by decide) rfl
  rw [hm] at ht
  refine ⟨hm, Prod.ext (congrArg StopState.stop ht).symm (congrArg StopState.lastEpoch ht).symm, ?_⟩
  norm_num [Gen.EarlyStopping.onEpochEnd, Gen.flt]

/-- **F8 witness, repaired.** Criterion "relative", Python-float metric values, reference value exactly 0.0
(`M₀ = 0`, `M₁ = M₂ = 5`, patience 1, tolerance 0.01): the second epoch-end (reference 0: degenerate) neither raises —
before the F8 fix it raised `ZeroDivisionError` out of `fit` — nor stops; the third (`|5 − 5| / |5| = 0 < 0.01`) stops. -/
example : (fitRun (exStopper .relative 0.01) true
      ⟨exEval f05, ⟨false, none⟩, []⟩ [(1, 1), (2, 2), (3, 3), (4, 4)]).map
        (fun r => (r.st, r.fired)) = .ok (⟨true, some 3⟩, [1, 2, 3]) := by
  have h2 : ∀ st, (exStopper .relative 0.01).onEpochEnd (exEvalAt f05 [(1, 0), (2, 5)]) st 2 = .ok st := by
    intro st
    rw [EarlyStopping.onEpochEnd_of_deviation rfl (by decide)
      (deviation_real (ref := ⟨.py, 0⟩) (cur := ⟨.py, 5⟩) (var := ⟨.py, 0⟩) rfl rfl fun h => absurd h (by decide))]
    norm_num [exStopper]
  have h3 : ∀ st, (exStopper .relative 0.01).onEpochEnd (exEvalAt f05 [(1, 0), (2, 5), (3, 5)]) st 3 = .ok ⟨true, some 3⟩ := by
    intro st
    rw [EarlyStopping.onEpochEnd_of_deviation rfl (by decide)
      (deviation_real (ref := ⟨.py, 5⟩) (cur := ⟨.py, 5⟩) (var := ⟨.py, 0⟩) rfl rfl fun h => absurd h (by decide))]
    norm_num [exStopper, belowTol]
  rw [show exEval f05 = exEvalAt f05 [] from rfl]
  simp [fitRun, fitLoop, epochEndBoth, Except.map, exEvalAt_step f05 _ 1 1 0 (congrArg (Num.mk .py) (if_pos rfl)),
    exEvalAt_step f05 _ 2 2 5 (f05_ne_one (by decide)), exEvalAt_step f05 _ 3 3 5 (f05_ne_one (by decide)),
    EarlyStopping.onEpochEnd_of_len_le (es := exStopper .relative 0.01) (ev := exEvalAt f05 [(1, 0)]) (by decide) (by decide), h2, h3]

/-- a stopper of period 1 and patience 2 on "m" -/
def exStopper2 (crit : Criterion) (tol : ℝ) : EarlyStopping ℝ := ⟨1, some tol, 2, "m", crit, .metric⟩

/-- **Two stoppers in one fit (regression witness for a stopper that CLEARS the flag).** Values `1, 5, 5, 5`; callback list
`[evaluator, A, B]` with `A` = absolute, tolerance `0.01`, patience 1 and `B` = the same with patience 2, and a third
callback requesting nothing.  At epoch 3 `A`'s rule is met (`|5 − 5| < 0.01`) while `B`, dispatched after `A`, compares `1`
with `5` and is not converged: the run stops at epoch 3 all the same, `A.last_epoch = 3`, `B.last_epoch` stays `None`.
(With `stop_training = (deviation < tolerance)` in `B` the flag would be cleared again and the run would go on to epoch 4.) -/
example : (fitRunMulti ⟨exEval f15, [], [(.stopper (exStopper .absolute 0.01), none), (.stopper (exStopper2 .absolute 0.01), none),
        (.request [], none)], false, []⟩ [(1, 1), (2, 2), (3, 3), (4, 4)]).map
        (fun r => (r.stop, r.fired, r.after.map Prod.snd)) = .ok (true, [1, 2, 3], [some 3, none, none]) := by
  -- the second stopper, dispatched after the first has set the flag, compares 1 with 5 and leaves the flag as it is
  have hB : ∀ st, (exStopper2 .absolute 0.01).onEpochEnd (exEvalAt f15 [(1, 1), (2, 5), (3, 5)]) st 3 = .ok st := by
    intro st
    rw [EarlyStopping.onEpochEnd_of_deviation rfl (by decide)
      (deviation_real (ref := ⟨.py, 1⟩) (cur := ⟨.py, 5⟩) (var := ⟨.py, 0⟩) rfl rfl fun h => absurd h (by decide))]
    norm_num [exStopper2, belowTol]
  rw [show exEval f15 = exEvalAt f15 [] from rfl]
  simp [fitRunMulti, fitLoopMulti, epochEndMulti, srcsEpochEnd, StopSrc.onEpochEnd, Except.map,
    exEvalAt_step f15 _ 1 1 1 f15_one, exEvalAt_step f15 _ 2 2 5 (f15_ne_one (by decide)),
    exEvalAt_step f15 _ 3 3 5 (f15_ne_one (by decide)),
    EarlyStopping.onEpochEnd_of_len_le (es := exStopper .absolute 0.01) (ev := exEvalAt f15 [(1, 1)]) (by decide) (by decide),
    EarlyStopping.onEpochEnd_of_len_le (es := exStopper2 .absolute 0.01) (ev := exEvalAt f15 [(1, 1)]) (by decide) (by decide),
    EarlyStopping.onEpochEnd_of_len_le (es := exStopper2 .absolute 0.01) (ev := exEvalAt f15 [(1, 1), (2, 5)]) (by decide) (by decide),
    exStop15_two, exStop15_three, hB]

/-- both stoppers of that list, and a requester, are `SrcOK` for the example evaluator -/
theorem ex_srcOK (eps : List Int) : ∀ p ∈ ([] : List (StopSrc ℝ × Option Int)) ++ [(.stopper (exStopper .absolute 0.01), none),
      (.stopper (exStopper2 .absolute 0.01), none), (.request eps, none)],
    SrcOK (fun _ => f15) (fun _ => f15) (exEval f15) [] p.1 := by
  have hm := exEval_monitors f15 (crit := .absolute) (by decide)
  intro p hp
  simp only [List.nil_append, List.mem_cons, List.not_mem_nil, or_false] at hp
  rcases hp with rfl | rfl | rfl
  exacts [⟨by decide, by decide, hm⟩, ⟨by decide, by decide, hm⟩, trivial]

/-- the hypotheses of `C18_first_stop_multi` are satisfiable by that list: both stoppers are `SrcOK` for the example evaluator -/
example : ∀ p ∈ ([] : List (StopSrc ℝ × Option Int)) ++ [(.stopper (exStopper .absolute 0.01), none),
      (.stopper (exStopper2 .absolute 0.01), none), (.request [7], none)],
    SrcOK (fun _ => f15) (fun _ => f15) (exEval f15) [] p.1 :=
  ex_srcOK [7]

/-- Python's own `/` (which the code uses in `abs(change) / np.sqrt(variance)`, where the divisor is a numpy scalar) raises
exactly for Python-float / Python-float zero; `np.divide` never raises; a zero divisor is never divided by -/
example (a : ℝ) : Num.div (⟨.py, a⟩ : Num ℝ) ⟨.py, 0⟩ = .error .ZeroDivisionError ∧
    Num.div (⟨.py, a⟩ : Num ℝ) ⟨.np, 0⟩ = .ok none ∧ Num.npDivide (⟨.py, a⟩ : Num ℝ) ⟨.py, 0⟩ = none := by
  simp [Num.div, Num.npDivide]

/-- degenerate histories exist and are exactly what `C18_degenerate_no_stop` is about: values `[0, 3]`, patience 1,
relative (the reference is the zero); variance `[0, …]` under the variance criterion -/
example : Degenerate .relative 1 [⟨0, 1⟩, ⟨3, 1⟩] ∧ Degenerate .variance 1 [⟨2, 0⟩, ⟨3, 1⟩] ∧
    ¬ Degenerate .relative 1 [⟨3, 0⟩, ⟨0, 0⟩] := by
  refine ⟨⟨1, ⟨0, 1⟩, rfl, le_refl 1, rfl, Or.inl ⟨rfl, rfl⟩⟩, ⟨1, ⟨2, 0⟩, rfl, le_refl 1, rfl, Or.inr ⟨rfl, le_refl 0⟩⟩, ?_⟩
  intro h
  have := ((degenerate_iff (t := 1) rfl).mp h).2
  norm_num [devSpec] at this

/-- with tolerance `∞` the rule holds on a non-degenerate comparison and fails on a degenerate one -/
example : StopRule .relative 1 (tolSpec none) [⟨3, 0⟩, ⟨100, 0⟩] ∧ ¬ StopRule .relative 1 (tolSpec none) [⟨0, 1⟩, ⟨3, 1⟩] := by
  constructor
  · refine ⟨1, ⟨3, 0⟩, ⟨100, 0⟩, rfl, le_refl 1, rfl, rfl, ?_⟩
    simp [devSpec, tolSpec, WithTop.coe_lt_top]
  · intro h
    have := ((stopRule_iff (t := 1) rfl).mp h).2
    simp [devSpec, tolSpec] at this

/-- the criterion string is normalised before the table lookup: `"  Variance\n"` is refused for a metric evaluator -/
example : (EarlyStopping.new 1 (some (0 : ℝ)) (.int 2) .metric "m" "  Variance\n" : Except PyErr (EarlyStopping ℝ)) = .error .TypeError :=
  (C18_variance_refused 1 (some 0) 2 "m" "  Variance\n" (by decide) none).1

example : (EarlyStopping.new 1 (some (0 : ℝ)) (.int 2) .observable "m" "rel" : Except PyErr (EarlyStopping ℝ)) = .error .ValueError :=
  (C18_unknown_criterion 1 (some 0) 2 "m" "rel" (by decide) (by decide) (by decide)).2.1

/-! ### the tie to C12 on the F7 witness -/

/-- the `fit` of the F7 witness as a C12 configuration: `starting_epoch = 1`, `epochs = 4`, 2 batches per epoch,
callback list `[evaluator (identity 0), stopper (identity 1)]`, no timer, no scheduler -/
def exCfg18 : Train.Cfg := ⟨1, 4, 2, [0, 1], false, false⟩

/-- the hypothesis "`fitRun` returns" of `C18_fit_cases` / `C18_fitLoop_is_C12_fit` holds on the F7 witness, and the
conclusion pins the C12 event trace of the run with the derived requests: epochs 1, 2, 3 in full (two batches each), then
train-end — epoch 4 never starts — and the stop flag of `Train.fit` is set. -/
example :
    Train.events (Train.fit exCfg18 (stopperReq 1 (exStopper .absolute 0.01) true (exEval f15) (fun e => e) 1) false).1
      = Train.Event.trainStart :: (C12.fullEpochs 2 1 3 ++ [Train.Event.trainEnd]) ∧
    (Train.fit exCfg18 (stopperReq 1 (exStopper .absolute 0.01) true (exEval f15) (fun e => e) 1) false).2.stop = true := by
  have hc : (Train.epochRange exCfg18.start exCfg18.epochs).map (fun e => (e, (fun e : Int => e) e))
      = [(1, 1), (2, 2), (3, 3), (4, 4)] := by decide
  obtain ⟨r, hr, hst⟩ : ∃ r, fitRun (exStopper .absolute 0.01) true ⟨exEval f15, ⟨false, none⟩, []⟩
      [(1, 1), (2, 2), (3, 3), (4, 4)] = .ok r ∧ r.st = ⟨true, some 3⟩ := by
    have h := exRun15
    cases hf : fitRun (exStopper .absolute 0.01) true ⟨exEval f15, ⟨false, none⟩, []⟩ [(1, 1), (2, 2), (3, 3), (4, 4)] with
    | error err => rw [hf] at h; simp [Except.map] at h
    | ok r =>
      rw [hf] at h
      simp only [Except.map, Except.ok.injEq, Prod.mk.injEq] at h
      exact ⟨r, rfl, h.1⟩
  rw [← hc] at hr
  rcases C18_fit_cases 1 (exStopper .absolute 0.01) true (exEval f15) (fun e => e) exCfg18 (by decide) none [] r hr with
    ⟨e, _, _, _, _, _, hrst, _, t1, t2⟩ | ⟨_, hrst, _⟩
  · have he : e = 3 := by rw [hst] at hrst; simpa using hrst.symm
    subst he
    exact ⟨t1, t2⟩
  · rw [hst] at hrst; simp at hrst

/-- the hypotheses of `C18_stop_trace` are met by the F7 witness (patience 1, period 1, the example evaluator, the stopper at
position 1 of the callback list) -/
example := C18_stop_trace (exStopper .absolute 0.01) 1 (Nat.le_refl 1) rfl (by decide) true (Mof := f15) (Vof := f15)
  (fun e => e) exCfg18 1 (by decide) (exEval f15) [] (exEval_monitors f15 (by decide))

/-- the hypotheses of `C18_multiReq_derived` / `C18_fitRunMulti_is_C12_fit` are met by the callback list
`[evaluator, stopper (patience 1), stopper (patience 2), requester at epoch 2]` (identities = positions 0..3) -/
example := C18_multiReq_derived (α := ℝ) [] [.stopper (exStopper .absolute 0.01), .stopper (exStopper2 .absolute 0.01), .request [2]]
  (exEval f15) (fun e => e) ⟨1, 4, 2, [0, 1, 2, 3], false, false⟩ (by decide)

/-- the hypotheses of `C18_stop_trace_multi` are met by the callback list `[evaluator, stopper (patience 1), stopper (patience 2),
requester at epoch 7]` (identities = positions 0..3) on the F7 witness values, 2 batches per epoch, epochs 1..4 -/
example := C18_stop_trace_multi (fun _ => f15) (fun _ => f15) []
  [(.stopper (exStopper .absolute 0.01), none), (.stopper (exStopper2 .absolute 0.01), none), (.request [7], none)]
  (fun e => e) ⟨1, 4, 2, [0, 1, 2, 3], false, false⟩ (by decide) (exEval f15) []
  ⟨"m", .absolute, exEval_monitors f15 (by decide)⟩ (ex_srcOK [7])

/-- the hypotheses of `C18_session_traces` are met by a session of four calls on the F7 witness objects: epochs 1..4 (stops at
3), a call WITHOUT reset (entered stopped: empty trace), a resumed call over epochs 5..6 with 3 batches, and a call over an
empty range after `clear_history()` — from a clear flag; and the same session entered with the flag already SET -/
example (st : StopState) := C18_session_traces (exStopper .absolute 0.01) 1 (Nat.le_refl 1) rfl (by decide) true 1
  (Mof := f15) (Vof := f15)
  [⟨false, false, exCfg18, fun e => e⟩, ⟨false, false, exCfg18, fun e => e⟩, ⟨false, true, ⟨5, 6, 3, [0, 1], false, false⟩, fun e => e⟩,
    ⟨true, true, ⟨3, 2, 2, [0, 1], false, false⟩, fun e => e⟩]
  (by simp [exCfg18]) (exEval f15) st [] (exEval_monitors f15 (by decide))

/-- `SessionTraces` is not vacuous: for a one-call session entered with the flag set it pins the result (nothing fired, the
entry state) — and it is FALSE for a result list of the wrong length -/
example (r : FitState Int ℝ) (h : SessionTraces (exStopper .absolute 0.01) 1 true 1 f15 f15
    [⟨false, false, exCfg18, fun e => e⟩] [r] (exEval f15) ⟨true, some 9⟩ []) :
    r = ⟨exEval f15, ⟨true, some 9⟩, []⟩ ∧
    ¬ SessionTraces (exStopper .absolute 0.01) 1 true 1 f15 f15 [⟨false, false, exCfg18, fun e => e⟩] [] (exEval f15) ⟨true, some 9⟩ [] := by
  refine ⟨?_, fun h' => h'⟩
  have := (h.1.1 (by simp)).1
  simpa using this

end C18
end QV.Props
