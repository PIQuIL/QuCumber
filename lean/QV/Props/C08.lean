/-
C08 — Observable estimators are unbiased for the operator they name.

"For each built-in observable (average X, Y and Z magnetisation, c-th neighbour ZZ interaction with
open or periodic boundaries), the average of its per-sample value over the model's exact basis-state
distribution equals the trace of the normalised reconstructed state with the corresponding operator,
for positive, complex and mixed states alike. Evaluating an observable returns one real number per
sample and leaves the sample array unchanged."

Conventions (computational basis indexed by `σ : Fin n → Bool`, site 0 first; a single-site matrix is a
function `(row, column) ↦ ℂ` of the two bit values):
  X = [[0,1],[1,0]],   Y = [[0,−i],[i,0]],   and, following the library's documented spin convention
  0 ↦ −1, 1 ↦ +1 (`to_pm1`),   Z = diag(−1,+1);
  `P_i` = P on site i, identity elsewhere:  P_i(σ,σ') = P(σ_i,σ'_i) · Π_{j≠i} [σ_j = σ'_j];
  M_P = (1/n) Σ_i P_i ;   N_c = (1/n) Σ_{(i,k) : k = i + c} Z_i Z_k   (open: k = i + c as numbers, so only
  i + c < n contribute — nothing at all when c ≥ n; periodic: k = (i + c) mod n).
  tr(R·O) = Σ_{σ,σ'} R(σ,σ') O(σ',σ).
  SIGN CONVENTION.  The observables read a sample bit through `to_pm1`: bit 0 ↦ spin −1, bit 1 ↦ spin +1
  (observables/utils.py:16-24, documented).  With `Z = diag(−1,+1)` on (|0⟩,|1⟩) and the standard X, Y matrices on the same
  ordered basis, the triple is LEFT-handed: `X·Y = −iZ` (`C08_pauli_triple`); each estimator matches the operator its own
  docstring names.  The Y matrix is read off the code's coefficient `i·to_pm1(σ_i)` (`C08_sigmaY`), so the per-observable
  theorems alone cannot detect a sign error; the independent anchor is the library's basis-rotation convention
  (utils/unitaries.py, property C04: rows of the default `X`, `Y` unitaries are the +1, −1 eigen-bras in that order, i.e.
  outcome 0 ↔ eigenvalue +1).  The two documented conventions differ by a sign on the meaning of outcome 0, hence
      Σ_σ p_P(σ)·SigmaZ.apply(σ) = −Σ_σ p(σ)·SigmaP.apply(σ),  P ∈ {X, Y},  p_P = Born distribution in the all-P basis
  (`C08_basis_rotation_sign`, `C08_rotated_Z`, `C08_rotated_Z_pure`, `C08_rotated_Z_mixed`); the harness evaluates exactly
  this relation on the real code with `rotate_psi` / `rotate_psi_inner_prod` / `rotate_rho_probs` (oracle "rotated-basis
  SigmaZ == −SigmaP").  This is an OBSERVATION about two documented conventions, not a violation of the property: a user who
  feeds X-basis measurement outcomes to `SigmaZ` obtains −⟨X⟩ relative to `SigmaX`.

States.  The observables see a state only through `importance_sampling_numerator/denominator`
(`ImpState`).  `Represents S G p` says which unnormalised density matrix `G` and which exact sampling
distribution `p` an interface `S` stands for; `C08_represents_pure` (ψ, for positive and complex
wavefunctions: G = |ψ⟩⟨ψ|, p = |ψ|²/Σ|ψ|²) and `C08_represents_mixed` (G = ρ, p = ρ_σσ / tr ρ) establish it for
the two implementations in the library under `ψ σ ≠ 0` resp. `ρ σσ = probability σ ≠ 0`; both hold for every RBM
state (`C08_rbm_psi_ne_zero` from C01, `C08_rbm_rho_diag` from C02_diagonal: `|ψ σ|² = ρ σσ = exp(−E(σ)) > 0`), so
`C08_mixed_rbm` is hypothesis-free.  No Hermiticity of ρ is needed for the real-part identities; for Hermitian ρ the
trace is real (`C08_trace_real`; RBM density matrix: `C08_rbm_rho_hermitian` from C02_hermitian_entry,
`C08_mixed_rbm_trace_real`).

Beyond the exact-distribution identities of the property text: composition with the sampler (C05) and the streaming statistics
(C13) — from a start drawn from the exact distribution, the expected per-sample value after any number of Gibbs passes and the
expectation of the mean `statistics` reports are `Re tr(ρ̂ O)` (`C08_unbiased_stationary*`, `C08_unbiased_statistics*`); NOT
proved: convergence from any other start.  `absolute=True`: pointwise `|·|` only (`C08_real`, `C08_unbiased_absolute`, with the
counterexample that its average is not `tr(ρ̂|O|)`).  Constructor flags as the objects passed: `C08_flag_*`.

Model definitions: QV.Model.Observables (executed against the code by the C08 correspondence check).
(`Obs.toC` is written qualified: QV.Lemmas.Cplx, imported through C04, has an identical decoding `QV.toC`; `obs_toC_eq`.)
-/
import Mathlib.Data.Complex.Basic
import Mathlib.Data.Complex.BigOperators
import Mathlib.Algebra.BigOperators.Field
import QV.Model.Observables
import QV.Model.States
import QV.Lemmas.Observables
import QV.Lemmas.PyFlag
import QV.Props.C01
import QV.Props.C02
import QV.Props.C04
import QV.Props.C05
import QV.Props.C13
import QV.Lemmas.Unbiased
import QV.GenBridge.SpinConv

namespace QV.Props
namespace C08
open QV QV.Obs Finset
open scoped ComplexConjugate

variable {n : ℕ}

/-! ### Specification: operators, traces, states (not part of the code) -/

/-- Pauli X = [[0,1],[1,0]] -/
def pauliX (a b : Bool) : ℂ := if a = b then 0 else 1
/-- Pauli Y = [[0,−i],[i,0]] (row/column 0 ≙ bit 0) -/
def pauliY (a b : Bool) : ℂ := if a = b then 0 else if a then Complex.I else -Complex.I
/-- Z = diag(−1,+1): bit 0 ↦ −1, bit 1 ↦ +1 (`to_pm1`) -/
def pauliZ (a b : Bool) : ℂ := if a = b then (if a then 1 else -1) else 0

example : pauliY false true = -Complex.I ∧ pauliY true false = Complex.I ∧ pauliY true true = 0 := by
  simp [pauliY]
example : pauliZ false false = -1 ∧ pauliZ true true = 1 ∧ pauliZ true false = 0 := by
  simp [pauliZ]

/-- an operator on `n` sites as its matrix in the computational basis -/
abbrev Op (n : ℕ) := Cfg n → Cfg n → ℂ

/-- `P_i`: the single-site matrix `P` on site `i` tensored with identities on all other sites -/
def siteOp (P : Bool → Bool → ℂ) (i : Fin n) : Op n :=
  fun σ σ' => if ∀ j, j ≠ i → σ j = σ' j then P (σ i) (σ' i) else 0

def opMul (O₁ O₂ : Op n) : Op n := fun σ σ' => ∑ τ, O₁ σ τ * O₂ τ σ'

/-- average magnetisation operator `M_P = (1/n) Σ_i P_i` -/
noncomputable def magnetOp (P : Bool → Bool → ℂ) : Op n := fun σ σ' => (1 / (n : ℂ)) * ∑ i, siteOp P i σ σ'

/-- `N_c` with open boundaries: `(1/n) Σ Z_i Z_k` over the pairs of sites with `k = i + c` -/
noncomputable def neighbourOpenOp (c : ℕ) : Op n := fun σ σ' =>
  (1 / (n : ℂ)) * ∑ i : Fin n, ∑ k : Fin n,
    if k.val = i.val + c then opMul (siteOp pauliZ i) (siteOp pauliZ k) σ σ' else 0

/-- `N_c` with periodic boundaries: pairs with `k = (i + c) mod n` -/
noncomputable def neighbourPeriodicOp (c : ℕ) : Op n := fun σ σ' =>
  (1 / (n : ℂ)) * ∑ i : Fin n, ∑ k : Fin n,
    if k.val = (i.val + c) % n then opMul (siteOp pauliZ i) (siteOp pauliZ k) σ σ' else 0

/-- `tr(R · O)` -/
def trOp (R O : Op n) : ℂ := ∑ σ, ∑ σ', R σ σ' * O σ' σ

/-- `R / tr R` -/
noncomputable def normalised (G : Op n) : Op n := fun σ σ' => G σ σ' / ∑ τ, G τ τ

/-- `|ψ⟩⟨ψ|` for a wavefunction given as real pairs -/
def dmPure (psi : Cfg n → C ℝ) : Op n := fun σ σ' => Obs.toC (psi σ) * conj (Obs.toC (psi σ'))

/-- the matrix of a mixed state given as real pairs -/
def dmMixed (rho : Cfg n → Cfg n → C ℝ) : Op n := fun σ σ' => Obs.toC (rho σ σ')

/-- exact sampling distribution of a pure state: `|ψ σ|² / Σ_τ |ψ τ|²` (= `probability(σ)/Z`, C01) -/
noncomputable def bornPure (psi : Cfg n → C ℝ) (σ : Cfg n) : ℝ :=
  C.normSq (psi σ) / ∑ τ, C.normSq (psi τ)

/-- exact sampling distribution of a mixed state: `probability(σ) / Σ_τ probability(τ)` -/
noncomputable def bornMixed (prob : Cfg n → ℝ) (σ : Cfg n) : ℝ := prob σ / ∑ τ, prob τ

/-- `⟨ψ|O|ψ⟩ / ⟨ψ|ψ⟩` -/
noncomputable def expectation (psi : Cfg n → C ℝ) (O : Op n) : ℂ :=
  (∑ σ, ∑ σ', conj (Obs.toC (psi σ)) * O σ σ' * Obs.toC (psi σ')) / ((∑ τ, C.normSq (psi τ) : ℝ) : ℂ)

/-- The importance-sampling interface `S` stands for the unnormalised density matrix `G`, sampled with
the exact distribution `p`:  `p σ = G σσ / tr G`,  `G σσ ≠ 0`, and
`numerator(σ', σ) / denominator(σ) = G σ'σ / G σσ`. -/
structure Represents (S : ImpState ℝ n) (G : Op n) (p : Cfg n → ℝ) : Prop where
  born : ∀ σ, (p σ : ℂ) = G σ σ / ∑ τ, G τ τ
  nz : ∀ σ, G σ σ ≠ 0
  ratio : ∀ vp v, Obs.toC (S.numer vp v) / Obs.toC (S.denom v) = G vp v / G v v

/-! ### Entries and traces of the operators -/

theorem normalised_trace {G : Op n} (h : ∑ τ, G τ τ ≠ 0) : ∑ s, normalised G s s = 1 := by
  simp only [normalised]
  rw [← Finset.sum_div, div_self h]

def diagOp (d : Cfg n → ℂ) : Op n := fun σ σ' => if σ = σ' then d σ else 0

theorem trOp_diagOp (R : Op n) (d : Cfg n → ℂ) : trOp R (diagOp d) = ∑ σ, R σ σ * d σ := by
  simp only [trOp, diagOp, mul_ite, mul_zero, Finset.sum_ite_eq', Finset.mem_univ, if_true]

theorem opMul_diagOp (d e : Cfg n → ℂ) : opMul (diagOp d) (diagOp e) = diagOp fun σ => d σ * e σ := by
  funext σ σ'
  unfold opMul diagOp
  rw [Fintype.sum_eq_single σ fun τ hτ => by rw [if_neg (Ne.symm hτ), zero_mul], if_pos rfl, mul_ite, mul_zero]

theorem diagOp_hermitian (d : Cfg n → ℝ) (σ σ' : Cfg n) :
    diagOp (fun τ => (d τ : ℂ)) σ' σ = conj (diagOp (fun τ => (d τ : ℂ)) σ σ') := by
  unfold diagOp
  by_cases h : σ = σ'
  · subst h; rw [if_pos rfl, Complex.conj_ofReal]
  · rw [if_neg h, if_neg (Ne.symm h), map_zero]

theorem siteOp_diag {P : Bool → Bool → ℂ} (hP : ∀ a b, a ≠ b → P a b = 0) (i : Fin n) :
    siteOp P i = diagOp fun σ => P (σ i) (σ i) := by
  funext σ σ'
  unfold siteOp diagOp
  by_cases h : σ = σ'
  · subst h; rw [if_pos fun _ _ => rfl, if_pos rfl]
  · rw [if_neg h]
    split
    · next hall =>
      exact hP _ _ fun hi => h (funext fun j => by by_cases hj : j = i; · rw [hj, hi]
                                                   · exact hall j hj)
    · rfl

/-- row `σ` of `P_i` has two entries: at `σ` itself and at `σ` with site `i` flipped -/
theorem sum_siteOp (F : Cfg n → ℂ) (P : Bool → Bool → ℂ) (i : Fin n) (σ : Cfg n) :
    ∑ τ, F τ * siteOp P i σ τ = F σ * P (σ i) (σ i) + F (flipSpin i σ) * P (σ i) (!σ i) := by
  rw [Fintype.sum_eq_add σ (flipSpin i σ) (flipSpin_ne i σ)]
  · rw [siteOp, siteOp, if_pos fun _ _ => rfl, if_pos fun j hj => (flipSpin_other σ hj).symm, flipSpin_same]
  · intro τ hτ
    rw [siteOp, if_neg fun hall => ((agree_off_iff i σ τ).1 hall).elim hτ.1 hτ.2, mul_zero]

theorem trOp_siteOp (R : Op n) (P : Bool → Bool → ℂ) (i : Fin n) :
    trOp R (siteOp P i) = ∑ σ, (R σ σ * P (σ i) (σ i) + R (flipSpin i σ) σ * P (σ i) (!σ i)) := by
  unfold trOp
  rw [Finset.sum_comm]
  exact Finset.sum_congr rfl fun σ' _ => sum_siteOp (fun τ => R τ σ') P i σ'

theorem trOp_magnetOp (R : Op n) (P : Bool → Bool → ℂ) :
    trOp R (magnetOp P) = (1 / (n : ℂ)) * ∑ i, trOp R (siteOp P i) := by
  simp only [trOp, magnetOp, Finset.mul_sum]
  exact (Finset.sum_congr rfl fun σ _ => (Finset.sum_congr rfl fun σ' _ =>
    Finset.sum_congr rfl fun i _ => mul_left_comm _ _ _).trans Finset.sum_comm).trans Finset.sum_comm

theorem pauliZ_offdiag : ∀ a b : Bool, a ≠ b → pauliZ a b = 0 := by
  intro a b h; simp [pauliZ, h]

theorem pauliZ_diag (a : Bool) : pauliZ a a = ((spin a : ℝ) : ℂ) := by
  cases a <;> simp [pauliZ]

theorem sigmaZApply_cast (hn : 0 < n) (σ : Cfg n) :
    ((sigmaZApply false σ : ℝ) : ℂ) = (1 / (n : ℂ)) * ∑ i, pauliZ (σ i) (σ i) := by
  rw [sigmaZApply_eq hn]
  push_cast [pauliZ_diag]
  rfl

theorem magnetOp_pauliZ (hn : 0 < n) : magnetOp pauliZ = diagOp fun σ : Cfg n => ((sigmaZApply false σ : ℝ) : ℂ) := by
  funext σ σ'
  simp only [magnetOp, siteOp_diag pauliZ_offdiag, diagOp, sigmaZApply_cast hn]
  by_cases h : σ = σ'
  · simp only [if_pos h]
  · simp only [if_neg h, Finset.sum_const_zero, mul_zero]

/-- the left side is the common shape of `neighbourOpenOp` / `neighbourPeriodicOp`, the pairs of sites selected by `r` -/
theorem zzOp_diag (r : Fin n → Fin n → Prop) [DecidableRel r] :
    (fun σ σ' => (1 / (n : ℂ)) * ∑ i, ∑ k, if r i k then opMul (siteOp pauliZ i) (siteOp pauliZ k) σ σ' else 0)
      = diagOp fun σ => ((zzMean r σ : ℝ) : ℂ) := by
  funext σ σ'
  simp only [siteOp_diag pauliZ_offdiag, opMul_diagOp, pauliZ_diag, diagOp, zzMean]
  by_cases h : σ = σ'
  · simp only [if_pos h]
    push_cast
    simp only [apply_ite Complex.ofReal, Complex.ofReal_mul, Complex.ofReal_zero]
  · simp only [if_neg h, ite_self, Finset.sum_const_zero, mul_zero]

theorem neighbourOpenOp_eq (c : ℕ) :
    neighbourOpenOp c = diagOp fun σ : Cfg n => ((zzMean (fun i k => k.val = i.val + c) σ : ℝ) : ℂ) :=
  zzOp_diag _

theorem neighbourPeriodicOp_eq (c : ℕ) :
    neighbourPeriodicOp c = diagOp fun σ : Cfg n => ((neighbourPeriodicApply c σ : ℝ) : ℂ) := by
  simp only [neighbourPeriodicApply_eq]
  exact zzOp_diag _

/-! ### The two state implementations -/

theorem dmPure_diag (psi : Cfg n → C ℝ) (σ : Cfg n) : dmPure psi σ σ = ((C.normSq (psi σ) : ℝ) : ℂ) := by
  rw [dmPure, Complex.mul_conj, Obs.toC_normSq]

theorem dmPure_trace (psi : Cfg n → C ℝ) : ∑ τ, dmPure psi τ τ = ((∑ τ, C.normSq (psi τ) : ℝ) : ℂ) := by
  simp only [dmPure_diag, Complex.ofReal_sum]

theorem dmMixed_diag (rho : Cfg n → Cfg n → C ℝ) (prob : Cfg n → ℝ) (hdiag : ∀ σ, rho σ σ = (prob σ, 0)) (σ : Cfg n) :
    dmMixed rho σ σ = (prob σ : ℂ) := by
  rw [dmMixed, hdiag]; rfl

theorem dmMixed_trace (rho : Cfg n → Cfg n → C ℝ) (prob : Cfg n → ℝ) (hdiag : ∀ σ, rho σ σ = (prob σ, 0)) :
    ∑ τ, dmMixed rho τ τ = ((∑ τ, prob τ : ℝ) : ℂ) := by
  simp only [dmMixed_diag rho prob hdiag, Complex.ofReal_sum]

/-- **wavefunction states** (positive and complex): `numerator = ψ(σ')`, `denominator = ψ(σ)` represent
`|ψ⟩⟨ψ|` sampled with `|ψ|²/Σ|ψ|²`, provided `ψ` vanishes nowhere. -/
theorem C08_represents_pure (psi : Cfg n → C ℝ) (hψ : ∀ σ, psi σ ≠ (0, 0)) :
    Represents (ImpState.pure psi) (dmPure psi) (bornPure psi) := by
  have hne := fun σ => Obs.toC_ne_zero (hψ σ)
  refine ⟨fun σ => ?_, fun σ => mul_ne_zero (hne σ) ((map_ne_zero _).2 (hne σ)), fun vp v => ?_⟩
  · rw [dmPure_diag, dmPure_trace, bornPure, Complex.ofReal_div]
  · exact (mul_div_mul_right _ _ ((map_ne_zero _).2 (hne v))).symm

/-- **density-matrix states**: `numerator = ρ(σ', σ)`, `denominator = (probability σ, 0)` represent `ρ`
sampled with `probability/Σ probability`, provided the reported probability is the diagonal of `ρ`
(C02_diagonal) and vanishes nowhere. -/
theorem C08_represents_mixed (rho : Cfg n → Cfg n → C ℝ) (prob : Cfg n → ℝ)
    (hdiag : ∀ σ, rho σ σ = (prob σ, 0)) (hpos : ∀ σ, prob σ ≠ 0) :
    Represents (ImpState.mixed rho prob) (dmMixed rho) (bornMixed prob) := by
  refine ⟨fun σ => ?_, fun σ => ?_, fun vp v => ?_⟩
  · rw [dmMixed_diag rho prob hdiag, dmMixed_trace rho prob hdiag, bornMixed, Complex.ofReal_div]
  · rw [dmMixed_diag rho prob hdiag]
    exact Complex.ofReal_ne_zero.2 (hpos σ)
  · simp only [ImpState.mixed, dmMixed]
    rw [hdiag]

/-- `importance_sampling_weight` is the ratio `G σ'σ / G σσ` (pure: `ψ(σ')/ψ(σ)`). -/
theorem C08_importance_weight {S : ImpState ℝ n} {G : Op n} {p : Cfg n → ℝ} (h : Represents S G p)
    (vp v : Cfg n) : Obs.toC (S.weight vp v) = G vp v / G v v := by
  rw [ImpState.weight, Obs.toC_div, h.ratio]

theorem C08_importance_weight_pure (psi : Cfg n → C ℝ) (vp v : Cfg n) :
    Obs.toC ((ImpState.pure psi).weight vp v) = Obs.toC (psi vp) / Obs.toC (psi v) := by
  rw [ImpState.weight, Obs.toC_div]; rfl

theorem trOp_normalised (G O : Op n) : trOp (normalised G) O = trOp G O / ∑ τ, G τ τ := by
  simp only [trOp, normalised, Finset.sum_div, div_mul_eq_mul_div]

/-- for a pure state the trace with the normalised projector is the expectation value -/
theorem C08_pure_trace_eq_expectation (psi : Cfg n → C ℝ) (O : Op n) :
    trOp (normalised (dmPure psi)) O = expectation psi O := by
  rw [trOp_normalised, dmPure_trace, expectation, trOp, Finset.sum_comm]
  refine congrArg (· / _) (Finset.sum_congr rfl fun σ _ => Finset.sum_congr rfl fun σ' _ => ?_)
  simp only [dmPure]
  ring

/-! ### Unbiasedness -/

namespace Represents
variable {S : ImpState ℝ n} {G : Op n} {p : Cfg n → ℝ}

/-- the one fact every estimator rests on: the importance ratio weighted with the sampling probability is a matrix
element of `ρ̂ = G / tr G` -/
theorem ratio_mul (h : Represents S G p) (vp v : Cfg n) :
    (p v : ℂ) * (Obs.toC (S.numer vp v) / Obs.toC (S.denom v)) = normalised G vp v := by
  rw [h.ratio, h.born, mul_comm, div_mul_div_cancel₀ (h.nz v)]
  rfl

theorem weight_mul (h : Represents S G p) (vp v : Cfg n) :
    (p v : ℂ) * Obs.toC (S.weight vp v) = normalised G vp v := by
  rw [ImpState.weight, Obs.toC_div, h.ratio_mul]

theorem local_term (h : Represents S G p) (c : Fin n → ℂ) (σ : Cfg n) :
    (p σ : ℂ) * ((∑ i, Obs.toC (S.numer (flipSpin i σ) σ) * c i) / Obs.toC (S.denom σ))
      = ∑ i, normalised G (flipSpin i σ) σ * c i := by
  rw [Finset.sum_div, Finset.mul_sum]
  exact Finset.sum_congr rfl fun i _ => by rw [mul_div_right_comm, ← mul_assoc, h.ratio_mul]

/-- **diagonal observables** (`SigmaZ`, `NeighbourInteraction`): the exact average of a function of the
sample is the trace of `ρ̂` with the diagonal operator carrying that function. -/
theorem diag_estimator (h : Represents S G p) (d : Cfg n → ℝ) :
    ∑ σ, p σ * d σ = (trOp (normalised G) (diagOp fun σ => (d σ : ℂ))).re := by
  rw [trOp_diagOp, Complex.re_sum]
  exact Finset.sum_congr rfl fun σ _ => by
    rw [show normalised G σ σ = (p σ : ℂ) from (h.born σ).symm, ← Complex.ofReal_mul, Complex.ofReal_re]

/-- **off-diagonal single-site observables** (`SigmaX`, `SigmaY`): the exact average of the per-sample
estimator `Re[(Σ_i numerator(flip_i σ, σ)·c_i(σ)) / denominator(σ)] / n` is `Re tr(ρ̂ · M_P)` for any single-site
matrix `P` with zero diagonal whose off-diagonal entry `P (σ_i, ¬σ_i)` is the coefficient `c_i(σ)`. -/
theorem pauli_estimator (h : Represents S G p) (P : Bool → Bool → ℂ) (hP0 : ∀ a, P a a = 0)
    (c : Cfg n → Fin n → ℂ) (hc : ∀ σ i, c σ i = P (σ i) (!σ i)) :
    ∑ σ, p σ * (((∑ i, Obs.toC (S.numer (flipSpin i σ) σ) * c σ i) / Obs.toC (S.denom σ)).re / (n : ℝ))
      = (trOp (normalised G) (magnetOp P)).re := by
  -- the diagonal of `P` vanishes, so only the flipped entries of `ρ̂` enter the trace:
  -- `tr(ρ̂ M_P) = (1/n) Σ_σ Σ_i ρ̂(flip_i σ, σ) · c σ i`
  simp only [trOp_magnetOp, trOp_siteOp, hP0, mul_zero, zero_add, ← hc]
  rw [Finset.sum_comm]
  -- each inner sum is `p σ` times the estimator's ratio; the rest is the real part of real multiples
  simp only [← h.local_term]
  simp only [one_div, ← Complex.ofReal_natCast, ← Complex.ofReal_inv, Complex.re_ofReal_mul, Complex.re_sum,
    Finset.mul_sum]
  exact Finset.sum_congr rfl fun σ _ => by ring

end Represents

/-- **SigmaX**: `Σ_σ p(σ)·apply(σ) = Re tr(ρ̂ · M_X)`. -/
theorem C08_sigmaX {S : ImpState ℝ n} {G : Op n} {p : Cfg n → ℝ} (h : Represents S G p) :
    ∑ σ, p σ * sigmaXApply S false σ = (trOp (normalised G) (magnetOp pauliX)).re := by
  have := h.pauli_estimator pauliX (by simp [pauliX]) (fun _ _ => 1) (by intro σ i; cases σ i <;> simp [pauliX])
  simpa only [sigmaXApply_eq, mul_one] using this

/-- **SigmaY**: the code multiplies the numerator of the flip at site `i` by `i·to_pm1(σ_i)`, i.e. by
`−i` when `σ_i = 0` and `+i` when `σ_i = 1`; this is the matrix element `Y(σ_i, ¬σ_i)` of
`Y = [[0,−i],[i,0]]`, so `Σ_σ p(σ)·apply(σ) = Re tr(ρ̂ · M_Y)`. -/
theorem C08_sigmaY {S : ImpState ℝ n} {G : Op n} {p : Cfg n → ℝ} (h : Represents S G p) :
    ∑ σ, p σ * sigmaYApply S false σ = (trOp (normalised G) (magnetOp pauliY)).re := by
  -- the sign: bit 0 has coefficient `(0, −1) = −i = Y 0 1`, bit 1 has `(0, 1) = i = Y 1 0`
  have h0 : Obs.toC ((0, spin false) : C ℝ) = -Complex.I := by apply Complex.ext <;> simp
  have h1 : Obs.toC ((0, spin true) : C ℝ) = Complex.I := by apply Complex.ext <;> simp
  have := h.pauli_estimator pauliY (by simp [pauliY]) (fun σ i => Obs.toC ((0, spin (σ i)) : C ℝ))
    (fun σ i => by cases σ i; exacts [h0, h1])
  simpa only [sigmaYApply_eq] using this

/-- **SigmaZ**: `Σ_σ p(σ)·apply(σ) = Re tr(ρ̂ · M_Z)` with `Z = diag(−1,+1)` (at least one site). -/
theorem C08_sigmaZ (hn : 0 < n) {S : ImpState ℝ n} {G : Op n} {p : Cfg n → ℝ} (h : Represents S G p) :
    ∑ σ, p σ * sigmaZApply false σ = (trOp (normalised G) (magnetOp pauliZ)).re := by
  rw [magnetOp_pauliZ hn]
  exact h.diag_estimator _

/-- **NeighbourInteraction, open boundaries**, every distance `c ≥ 1` (for `c ≥ n` both sides are 0:
Python's slices are empty and no pair of sites is `c` apart): the call does not raise and
`Σ_σ p(σ)·apply(σ) = Re tr(ρ̂ · N_c)`. -/
theorem C08_neighbour_open (c : ℕ) (hc : 1 ≤ c) {S : ImpState ℝ n} {G : Op n} {p : Cfg n → ℝ}
    (h : Represents S G p) :
    ∃ val : Cfg n → ℝ, (∀ σ, neighbourOpenApply c σ = .ok (val σ)) ∧
      ∑ σ, p σ * val σ = (trOp (normalised G) (neighbourOpenOp c)).re := by
  refine ⟨_, neighbourOpenApply_eq c hc, ?_⟩
  rw [neighbourOpenOp_eq]
  exact h.diag_estimator _

/-- **NeighbourInteraction, periodic boundaries**, every distance `c` (including multiples of `n`, where
`Z_i Z_i = 1`): `Σ_σ p(σ)·apply(σ) = Re tr(ρ̂ · N_c)`. -/
theorem C08_neighbour_periodic (c : ℕ) {S : ImpState ℝ n} {G : Op n} {p : Cfg n → ℝ}
    (h : Represents S G p) :
    ∑ σ, p σ * neighbourPeriodicApply c σ = (trOp (normalised G) (neighbourPeriodicOp c)).re := by
  rw [neighbourPeriodicOp_eq]
  exact h.diag_estimator _

/-- open boundaries with `c = 0` is an error for chains of at least two sites (size mismatch of the
slices `[:, :0]` and `[:, 0:]`), as in the code. -/
theorem C08_neighbour_open_zero (hn : 2 ≤ n) (σ : Cfg n) :
    (neighbourOpenApply 0 σ : Except PyErr ℝ) = .error .RuntimeError := by
  simp [neighbourOpenApply, hn]

/-! ### One real number per sample -/

/-- **one real number per sample**: the per-sample values are real by construction (the model functions
return a real, the real part of the importance ratio), and `absolute=True` is exactly the pointwise
absolute value of `absolute=False`. -/
theorem C08_real (S : ImpState ℝ n) (σ : Cfg n) :
    sigmaXApply S true σ = |sigmaXApply S false σ| ∧ sigmaYApply S true σ = |sigmaYApply S false σ|
      ∧ (sigmaZApply true σ : ℝ) = |sigmaZApply false σ| := ⟨rfl, rfl, rfl⟩

/-! ### The sample array is not modified; one value per sample -/

/-- **no mutation** (`SigmaX`, `SigmaY`; any scalar type): running `apply` on tensor `sid` of a heap
(`flip_spin` acts in place, but on the `clone()` allocated in each site iteration) leaves every tensor the
caller had — in particular `samples` itself — unchanged, and returns, row by row, the per-sample value
the unbiasedness theorems are about.  (`SigmaZ` and `NeighbourInteraction` only read `samples`:
`to_pm1`/`mean` allocate new tensors, so their model is a pure function of the rows.)
In the model of the mutant that drops `.clone()`, `flipSpinInPlace` would write to `sid` and both parts fail. -/
theorem C08_no_mutation {α : Type} [Add α] [Mul α] [Neg α] [Sub α] [Div α] [Zero α] [One α] [Transc α]
    (S : ImpState α n) (absolute : Bool) (h : THeap n) (sid : ℕ) (hs : sid < h.next) :
    ((∀ k, k < h.next → (sigmaXRun S absolute h sid).1.cells k = h.cells k) ∧
      (sigmaXRun S absolute h sid).2 = (h.cells sid).map (sigmaXApply S absolute)) ∧
    ((∀ k, k < h.next → (sigmaYRun S absolute h sid).1.cells k = h.cells k) ∧
      (sigmaYRun S absolute h sid).2 = (h.cells sid).map (sigmaYApply S absolute)) := by
  have hx := pauliRun_spec S none absolute h sid hs
  have hy := pauliRun_spec S (some (fun σ i => (0, spin (σ i)))) absolute h sid hs
  exact ⟨⟨hx.1.2, hx.2⟩, ⟨hy.1.2, hy.2⟩⟩

/-- **one value per sample**: the heap runs of `SigmaX` / `SigmaY` return a list exactly as long as the batch (the
`zipWith`s of the site loop never truncate).  `SigmaZ` and `NeighbourInteraction` have no batch-level model: the code performs
no in-place operation on `samples` there (`to_pm1` is `x.mul(2.0).sub(1.0)`, out of place; `mean`, slicing and `*` allocate),
so the driver maps the per-sample function over the rows and the length is the batch length by construction; the harness
checks shape, dtype and the bytes of the sample tensor for all five observables on the real code. -/
theorem C08_one_value_per_sample {α : Type} [Add α] [Mul α] [Neg α] [Sub α] [Div α] [Zero α] [One α] [Transc α]
    (S : ImpState α n) (absolute : Bool) (h : THeap n) (sid : ℕ) (hs : sid < h.next) :
    (sigmaXRun S absolute h sid).2.length = (h.cells sid).length
      ∧ (sigmaYRun S absolute h sid).2.length = (h.cells sid).length := by
  have := C08_no_mutation S absolute h sid hs
  simp only [this.1.2, this.2.2, List.length_map, and_self]

/-! ### Explicit forms for the three state types -/

/-- **positive and complex wavefunctions** (`ψ` nowhere zero): all five estimators average to the
expectation value `⟨ψ|O|ψ⟩/⟨ψ|ψ⟩` of their operator. -/
theorem C08_pure_states (psi : Cfg n → C ℝ) (hψ : ∀ σ, psi σ ≠ (0, 0)) (c : ℕ) :
    (∑ σ, bornPure psi σ * sigmaXApply (ImpState.pure psi) false σ = (expectation psi (magnetOp pauliX)).re)
    ∧ (∑ σ, bornPure psi σ * sigmaYApply (ImpState.pure psi) false σ = (expectation psi (magnetOp pauliY)).re)
    ∧ (0 < n → ∑ σ, bornPure psi σ * sigmaZApply false σ = (expectation psi (magnetOp pauliZ)).re)
    ∧ (∑ σ, bornPure psi σ * neighbourPeriodicApply c σ = (expectation psi (neighbourPeriodicOp c)).re)
    ∧ (1 ≤ c → ∃ val : Cfg n → ℝ, (∀ σ, neighbourOpenApply c σ = .ok (val σ)) ∧
        ∑ σ, bornPure psi σ * val σ = (expectation psi (neighbourOpenOp c)).re) := by
  have h := C08_represents_pure psi hψ
  simp only [← C08_pure_trace_eq_expectation]
  exact ⟨C08_sigmaX h, C08_sigmaY h, fun hn => C08_sigmaZ hn h, C08_neighbour_periodic c h,
    fun hc => C08_neighbour_open c hc h⟩

/-- **density matrices** (`ρ σσ = probability σ ≠ 0`): all five estimators average to `Re tr(ρ̂ O)`,
`ρ̂ = ρ / tr ρ`. -/
theorem C08_mixed_states (rho : Cfg n → Cfg n → C ℝ) (prob : Cfg n → ℝ)
    (hdiag : ∀ σ, rho σ σ = (prob σ, 0)) (hpos : ∀ σ, prob σ ≠ 0) (c : ℕ) :
    let S := ImpState.mixed rho prob
    let R := normalised (dmMixed rho)
    (∑ σ, bornMixed prob σ * sigmaXApply S false σ = (trOp R (magnetOp pauliX)).re)
    ∧ (∑ σ, bornMixed prob σ * sigmaYApply S false σ = (trOp R (magnetOp pauliY)).re)
    ∧ (0 < n → ∑ σ, bornMixed prob σ * sigmaZApply false σ = (trOp R (magnetOp pauliZ)).re)
    ∧ (∑ σ, bornMixed prob σ * neighbourPeriodicApply c σ = (trOp R (neighbourPeriodicOp c)).re)
    ∧ (1 ≤ c → ∃ val : Cfg n → ℝ, (∀ σ, neighbourOpenApply c σ = .ok (val σ)) ∧
        ∑ σ, bornMixed prob σ * val σ = (trOp R (neighbourOpenOp c)).re) := by
  have h := C08_represents_mixed rho prob hdiag hpos
  exact ⟨C08_sigmaX h, C08_sigmaY h, fun hn => C08_sigmaZ hn h, C08_neighbour_periodic c h,
    fun hc => C08_neighbour_open c hc h⟩

/-- the RBM wavefunctions vanish nowhere (C01: `|ψ σ|² = exp(−E_λ σ) > 0`), so the hypothesis of
`C08_pure_states` holds for every parameter setting of the positive and the complex state. -/
theorem C08_rbm_psi_ne_zero {hid : ℕ} (am ph : RBM ℝ n hid) (σ : Cfg n) :
    Wave.psiPos am (fun j => bit (σ j)) ≠ (0, 0) ∧ Wave.psiCplx am ph (fun j => bit (σ j)) ≠ (0, 0) := by
  constructor
  · intro h
    have := (C01_positive_real_pos am (fun j => bit (σ j))).2
    rw [h] at this; exact lt_irrefl _ this
  · intro h
    have := C01_normSq_psi_complex am ph (fun j => bit (σ j))
    -- `0 = |ψ σ|² = exp(−E_λ σ) > 0`
    have hpos : 0 < Wave.probability am (fun j => bit (σ j)) 1 := by
      simp only [Wave.probability, transc_exp, div_one]
      exact Real.exp_pos _
    rw [← this, h] at hpos
    norm_num at hpos

/-- **RBM wavefunctions, no hypotheses**: for EVERY parameter setting of the complex
wavefunction `ψ_λμ` all five estimators average to `⟨ψ|O|ψ⟩/⟨ψ|ψ⟩` — `C08_pure_states` with its hypothesis discharged by
`C08_rbm_psi_ne_zero` (C01: `|ψ σ|² = exp(−E_λ σ) > 0`). -/
theorem C08_pure_rbm {hid : ℕ} (am ph : RBM ℝ n hid) (c : ℕ) :
    let psi : Cfg n → C ℝ := fun σ => Wave.psiCplx am ph (fun j => bit (σ j))
    (∑ σ, bornPure psi σ * sigmaXApply (ImpState.pure psi) false σ = (expectation psi (magnetOp pauliX)).re)
    ∧ (∑ σ, bornPure psi σ * sigmaYApply (ImpState.pure psi) false σ = (expectation psi (magnetOp pauliY)).re)
    ∧ (0 < n → ∑ σ, bornPure psi σ * sigmaZApply false σ = (expectation psi (magnetOp pauliZ)).re)
    ∧ (∑ σ, bornPure psi σ * neighbourPeriodicApply c σ = (expectation psi (neighbourPeriodicOp c)).re)
    ∧ (1 ≤ c → ∃ val : Cfg n → ℝ, (∀ σ, neighbourOpenApply c σ = .ok (val σ)) ∧
        ∑ σ, bornPure psi σ * val σ = (expectation psi (neighbourOpenOp c)).re) :=
  C08_pure_states _ (fun σ => (C08_rbm_psi_ne_zero am ph σ).2) c

/-- … and of the positive wavefunction `ψ_λ`. -/
theorem C08_pure_rbm_pos {hid : ℕ} (am : RBM ℝ n hid) (c : ℕ) :
    let psi : Cfg n → C ℝ := fun σ => Wave.psiPos am (fun j => bit (σ j))
    (∑ σ, bornPure psi σ * sigmaXApply (ImpState.pure psi) false σ = (expectation psi (magnetOp pauliX)).re)
    ∧ (∑ σ, bornPure psi σ * sigmaYApply (ImpState.pure psi) false σ = (expectation psi (magnetOp pauliY)).re)
    ∧ (0 < n → ∑ σ, bornPure psi σ * sigmaZApply false σ = (expectation psi (magnetOp pauliZ)).re)
    ∧ (∑ σ, bornPure psi σ * neighbourPeriodicApply c σ = (expectation psi (neighbourPeriodicOp c)).re)
    ∧ (1 ≤ c → ∃ val : Cfg n → ℝ, (∀ σ, neighbourOpenApply c σ = .ok (val σ)) ∧
        ∑ σ, bornPure psi σ * val σ = (expectation psi (neighbourOpenOp c)).re) :=
  C08_pure_states _ (fun σ => (C08_rbm_psi_ne_zero am am σ).1) c

/-- non-vacuity: a complex RBM state with `h ≠ n`, non-zero biases and a non-trivial phase network
satisfies the hypotheses; here SigmaY. -/
example : let am : RBM ℝ 2 3 := ⟨fun i j => (i.val : ℝ) - j.val + 0.5, fun j => if j = 0 then -1.5 else 2,
      fun i => if i = 0 then 0.7 else -0.3⟩
    let ph : RBM ℝ 2 3 := ⟨fun i j => 0.25 * (i.val : ℝ) + j.val, fun j => if j = 0 then 1 else -2,
      fun i => if i = 0 then -0.4 else 0.9⟩
    let psi : Cfg 2 → C ℝ := fun σ => Wave.psiCplx am ph (fun j => bit (σ j))
    ∑ σ, bornPure psi σ * sigmaYApply (ImpState.pure psi) false σ = (expectation psi (magnetOp pauliY)).re :=
  (C08_pure_states _ (fun σ => (C08_rbm_psi_ne_zero _ _ σ).2) 1).2.1

/-! ### The sign anchor: Pauli algebra and the library's own basis rotations

The per-observable theorems above identify each estimator with the operator its docstring names; the Y and Z matrices are
read off the code (`i·to_pm1(σ_i)`, `to_pm1`).  This section ties the three SIGNS to each other through a part of the library
the observables do not share any code with: the default unitary dictionary of `utils/unitaries.py`, whose rows are the `+1`,
`−1` eigen-bras of Pauli X and Y IN THAT ORDER (property C04: `C04_dX_eigen`, `C04_dY_eigen`), i.e. measurement outcome `0` in
a rotated basis means eigenvalue `+1`, whereas the observables' spin convention `to_pm1` reads outcome `0` as `−1`.  The two
documented conventions together imply: `SigmaZ` evaluated on outcomes drawn in the all-X (all-Y) basis averages to MINUS the
average of `SigmaX` (`SigmaY`) on computational-basis samples (`C08_rotated_Z*`), and the spec operators form the
left-handed triple `X·Y = −iZ` (`C08_pauli_triple`).  A sign flip of the coefficient in `SigmaY` alone (or of `SigmaX`, or of
`to_pm1`) falsifies `C08_rotated_Z` without any reference to the `pauliY` / `pauliZ` matrices of this file. -/

def mul2 (P Q : Bool → Bool → ℂ) : Bool → Bool → ℂ := fun a b => ∑ c, P a c * Q c b

theorem siteOp_mul (P Q : Bool → Bool → ℂ) (i : Fin n) (σ σ' : Cfg n) :
    opMul (siteOp P i) (siteOp Q i) σ σ' = siteOp (mul2 P Q) i σ σ' := by
  have hf : (∀ j, j ≠ i → flipSpin i σ j = σ' j) ↔ (∀ j, j ≠ i → σ j = σ' j) :=
    forall₂_congr fun j hj => by rw [flipSpin_other σ hj]
  rw [opMul, Finset.sum_congr rfl fun τ _ => mul_comm _ _, sum_siteOp (fun τ => siteOp Q i τ σ')]
  unfold siteOp mul2
  by_cases hall : ∀ j, j ≠ i → σ j = σ' j
  · rw [if_pos hall, if_pos (hf.2 hall), if_pos hall, flipSpin_same, Fintype.sum_bool]
    cases σ i <;> simp only [Bool.not_false, Bool.not_true] <;> ring
  · rw [if_neg hall, if_neg (mt hf.1 hall), if_neg hall]; simp

/-- **the Pauli triple of the spec operators is left-handed**: `X·Y = −i·Z`, `Y·X = +i·Z` (with the library's
`Z = diag(−1,+1)`), as 2×2 matrices and as operators on site `i` of an `n`-site chain.  (With the textbook
`Z = diag(+1,−1)` it would be `X·Y = +iZ`: the difference is the documented `to_pm1` convention.) -/
theorem C08_pauli_triple :
    (∀ a b, mul2 pauliX pauliY a b = -Complex.I * pauliZ a b)
    ∧ (∀ a b, mul2 pauliY pauliX a b = Complex.I * pauliZ a b)
    ∧ (∀ (i : Fin n) (σ σ' : Cfg n),
        opMul (siteOp pauliX i) (siteOp pauliY i) σ σ' = -Complex.I * siteOp pauliZ i σ σ') := by
  have h1 : ∀ a b, mul2 pauliX pauliY a b = -Complex.I * pauliZ a b := by
    intro a b; rw [mul2, Fintype.sum_bool]; cases a <;> cases b <;> simp [pauliX, pauliY, pauliZ]
  refine ⟨h1, fun a b => ?_, fun i σ σ' => ?_⟩
  · rw [mul2, Fintype.sum_bool]; cases a <;> cases b <;> simp [pauliX, pauliY, pauliZ]
  · rw [siteOp_mul, siteOp, siteOp]
    split
    · exact h1 _ _
    · rw [mul_zero]

/-- the operator `uᴴ · diag(D) · u` on one site -/
def conjDiag (u : Matrix Bool Bool ℂ) (D : Bool → ℂ) : Bool → Bool → ℂ :=
  fun a b => ∑ c, star (u c a) * D c * u c b

theorem rot_kernel_site (u : Matrix Bool Bool ℂ) (hu : u.conjTranspose * u = 1) (D : Bool → ℂ) (i : Fin n)
    (τ τ' : Cfg n) :
    ∑ σ : Cfg n, star (∏ j, u (σ j) (τ j)) * D (σ i) * ∏ j, u (σ j) (τ' j)
      = siteOp (conjDiag u D) i τ τ' := by
  -- the summand is a product over the sites, so the sum over configurations is a product of sums over one bit
  have hf : ∀ j, ∑ b : Bool, star (u b (τ j)) * (if j = i then D b else 1) * u b (τ' j)
      = (if j = i then conjDiag u D (τ j) (τ' j) else 1) * if j ≠ i → τ j = τ' j then 1 else 0 := by
    intro j
    by_cases hj : j = i
    · simp only [hj, if_true, conjDiag, ne_eq, not_true, false_imp_iff, mul_one]
    · simp only [hj, if_false, mul_one, ne_eq, not_false_eq_true, true_imp_iff, one_mul]
      exact congrFun (congrFun hu (τ j)) (τ' j)
  calc _ = ∑ σ : Cfg n, ∏ j, star (u (σ j) (τ j)) * (if j = i then D (σ j) else 1) * u (σ j) (τ' j) := by
        simp only [Finset.prod_mul_distrib, Finset.prod_ite_eq', mem_univ, if_true, star_prod]
    _ = ∏ j, ∑ b : Bool, star (u b (τ j)) * (if j = i then D b else 1) * u b (τ' j) :=
        (Fintype.prod_sum fun j b => star (u b (τ j)) * (if j = i then D b else 1) * u b (τ' j)).symm
    _ = _ := by
        simp only [hf]
        rw [Finset.prod_mul_distrib, Finset.prod_ite_eq' univ i, if_pos (mem_univ i), Finset.prod_boole]
        simp only [mem_univ, true_imp_iff, siteOp, mul_ite, mul_one, mul_zero]

/-- **rotated-basis expectation of a diagonal single-site observable.**  `K = ⊗_j u` a tensor power of a unitary, `R` any
matrix: `Σ_σ (K R Kᴴ)_σσ · D(σ_i) = tr(R · Q_i)` with `Q = uᴴ diag(D) u`. -/
theorem rotated_site (u : Matrix Bool Bool ℂ) (hu : u.conjTranspose * u = 1) (D : Bool → ℂ)
    (K : Matrix (Cfg n) (Cfg n) ℂ) (hK : ∀ σ τ, K σ τ = ∏ j, u (σ j) (τ j)) (R : Op n) (i : Fin n) :
    ∑ σ : Cfg n, (K * Matrix.of R * K.conjTranspose) σ σ * D (σ i) = trOp R (siteOp (conjDiag u D) i) := by
  simp only [trOp, ← rot_kernel_site u hu D i, Matrix.mul_apply, Matrix.conjTranspose_apply, Matrix.of_apply, Finset.sum_mul,
    Finset.mul_sum, hK]
  rw [Finset.sum_comm]
  refine (Finset.sum_congr rfl fun τ' _ => Finset.sum_comm).trans (Finset.sum_comm.trans ?_)
  exact Finset.sum_congr rfl fun τ _ => Finset.sum_congr rfl fun τ' _ => Finset.sum_congr rfl fun σ _ => by ring

/-- … hence `Σ_σ (K R Kᴴ)_σσ · (1/n) Σ_i D(σ_i) = tr(R · M_Q)`. -/
theorem rotated_magnet (u : Matrix Bool Bool ℂ) (hu : u.conjTranspose * u = 1) (D : Bool → ℂ)
    (K : Matrix (Cfg n) (Cfg n) ℂ) (hK : ∀ σ τ, K σ τ = ∏ j, u (σ j) (τ j)) (R : Op n) :
    ∑ σ : Cfg n, (K * Matrix.of R * K.conjTranspose) σ σ * ((1 / (n : ℂ)) * ∑ i, D (σ i))
      = trOp R (magnetOp (conjDiag u D)) := by
  rw [trOp_magnetOp]
  simp only [← rotated_site u hu D K hK R, Finset.mul_sum]
  rw [Finset.sum_comm]
  exact Finset.sum_congr rfl fun i _ => Finset.sum_congr rfl fun σ _ => mul_left_comm _ _ _

/-- the `to_pm1` spin values `0 ↦ −1`, `1 ↦ +1`: the diagonal of `Z` -/
def zDiag (c : Bool) : ℂ := pauliZ c c

/-- if the rows of the unitary `u` are the `+1`, `−1` eigen-bras of `P` in that order (`u P = diag(+1,−1) u`, C04) then, with
the observables' spin convention `Z = diag(−1,+1)`, `uᴴ Z u = −P`. -/
theorem conjDiag_of_eigen (u P : Matrix Bool Bool ℂ) (hu : u.conjTranspose * u = 1) (he : u * P = diagPM * u) :
    ∀ a b, conjDiag u zDiag a b = -P a b := by
  have hP : P = u.conjTranspose * (diagPM * u) := by rw [← he, ← Matrix.mul_assoc, hu, Matrix.one_mul]
  intro a b
  rw [hP]
  simp only [conjDiag, zDiag, Matrix.mul_apply, Matrix.conjTranspose_apply, diagPM, pauliZ, Fintype.sum_bool, if_true,
    Bool.false_eq_true, Bool.true_eq_false, if_false]
  ring

/-- Born probabilities of the outcomes in a rotated basis: the diagonal of `K G Kᴴ / tr G`, `K = ⊗_j U_j` (C04) -/
noncomputable def rotatedBorn (us : Fin n → M2 ℝ) (G : Op n) (σ : Cfg n) : ℝ :=
  ((denseK us * Matrix.of G * (denseK us).conjTranspose) σ σ / ∑ τ, G τ τ).re

theorem magnetOp_neg (P Q : Bool → Bool → ℂ) (h : ∀ a b, Q a b = -P a b) (G : Op n) :
    trOp G (magnetOp Q) = -trOp G (magnetOp P) := by
  simp only [trOp_magnetOp, trOp_siteOp, h, mul_neg, ← neg_add, Finset.sum_neg_distrib]

/-- **SigmaZ on rotated-basis outcomes.**  For a per-site unitary `U` whose rows are the `+1`, `−1` eigen-bras of `P`,
the exact average of `SigmaZ.apply` over the Born distribution of the outcomes in the all-`U` basis is MINUS the
expectation of the magnetisation `M_P`. -/
theorem rotated_Z_expectation (hn : 0 < n) (U : M2 ℝ) (P : Bool → Bool → ℂ)
    (hu : (m2c U).conjTranspose * m2c U = 1) (hQ : ∀ a b, conjDiag (m2c U) zDiag a b = -P a b) (G : Op n) :
    ∑ σ, rotatedBorn (fun _ => U) G σ * sigmaZApply false σ = -(trOp (normalised G) (magnetOp P)).re := by
  have key := rotated_magnet (m2c U) hu zDiag (denseK fun _ : Fin n => U) (fun σ τ => rfl) G
  rw [magnetOp_neg P _ hQ] at key
  rw [trOp_normalised, ← Complex.neg_re, ← neg_div, ← key, Finset.sum_div, Complex.re_sum]
  refine Finset.sum_congr rfl fun σ _ => ?_
  rw [rotatedBorn, ← Complex.re_mul_ofReal, sigmaZApply_cast hn, mul_div_right_comm]
  rfl

/-- the two decodings of the model's real pairs (QV.Lemmas.Observables / QV.Lemmas.Cplx) are the same function -/
theorem obs_toC_eq (z : C ℝ) : Obs.toC z = QV.toC z := rfl

/-- for a wavefunction the rotated Born probabilities are what `rotate_psi_inner_prod` (as coded: enumeration of the expanded
states, C04) gives: `|Σ_i Ut_i ψ(v_i)|² / Σ|ψ|²`, all sites rotated. -/
theorem rotatedBorn_pure (us : Fin n → M2 ℝ) (psi : Cfg n → C ℝ) (σ : Cfg n) :
    rotatedBorn us (dmPure psi) σ
      = C.normSq (Unitaries.rotatePsiInnerProdE n us (fun _ => true) psi σ) / ∑ τ, C.normSq (psi τ) := by
  have h := C04_inner_prod_enum_dense us (fun _ => true) psi σ (by intro j hj; simp at hj)
  rw [rotatedBorn, dmPure_trace, Complex.div_ofReal_re, Obs.toC_normSq]
  congr 1
  have hx : (denseK us * Matrix.of (dmPure psi) * (denseK us).conjTranspose) σ σ
      = (denseK us).mulVec (fun τ => QV.toC (psi τ)) σ * conj ((denseK us).mulVec (fun τ => QV.toC (psi τ)) σ) := by
    simp only [Matrix.mul_apply, Matrix.conjTranspose_apply, Matrix.of_apply, Matrix.mulVec, dotProduct, dmPure,
      map_sum, Finset.sum_mul, Finset.mul_sum, map_mul]
    refine Finset.sum_congr rfl (fun τ _ => Finset.sum_congr rfl (fun τ' _ => ?_))
    simp only [obs_toC_eq, ← starRingEnd_apply]
    ring
  rw [hx, ← h, Complex.mul_conj, Complex.ofReal_re]
  rfl

/-- for a density matrix the rotated Born probabilities are what `rotate_rho_probs` (as coded, C04) gives, divided by the
trace `Σ probability`. -/
theorem rotatedBorn_mixed (us : Fin n → M2 ℝ) (rho : Cfg n → Cfg n → C ℝ) (prob : Cfg n → ℝ)
    (hdiag : ∀ σ, rho σ σ = (prob σ, 0)) (σ : Cfg n) :
    rotatedBorn us (dmMixed rho) σ
      = Unitaries.rotateRhoProbsE n us (fun _ => true) rho σ / ∑ τ, prob τ := by
  have h := C04_rho_probs_enum_dense us (fun _ => true) rho σ (by intro j hj; simp at hj)
  rw [rotatedBorn, dmMixed_trace rho prob hdiag, Complex.div_ofReal_re, h]
  rfl

open Unitaries in
/-- **sign anchor, single site**: for the default dictionary's `U_X`, `U_Y` (C04: unitary, rows = `+1`,`−1` eigen-bras of
`σ_x`, `σ_y` in that order) and the observables' `Z = diag(−1,+1)`:  `U_Xᴴ Z U_X = −X`,  `U_Yᴴ Z U_Y = −Y`. -/
theorem C08_basis_rotation_sign :
    (∀ a b, conjDiag (m2c (dX : M2 ℝ)) zDiag a b = -pauliX a b)
    ∧ (∀ a b, conjDiag (m2c (dY : M2 ℝ)) zDiag a b = -pauliY a b) :=
  ⟨conjDiag_of_eigen _ QV.Props.pauliX C04_dX_unitary C04_dX_eigen,
   conjDiag_of_eigen _ QV.Props.pauliY C04_dY_unitary C04_dY_eigen⟩

open Unitaries in
/-- **SigmaZ on rotated-basis outcomes = −SigmaX / −SigmaY on computational-basis samples**, for every state the
importance-sampling interface represents: with `p_P(σ) = (K_P G K_Pᴴ)_σσ / tr G` the Born distribution of the outcomes when
every site is measured in the `P` basis of the default dictionary,
`Σ_σ p_X(σ)·SigmaZ.apply(σ) = −Σ_σ p(σ)·SigmaX.apply(σ)` and the same for Y.  The statement mentions model functions and
C04's `denseK` only — no Pauli matrix of this file. -/
theorem C08_rotated_Z (hn : 0 < n) {S : ImpState ℝ n} {G : Op n} {p : Cfg n → ℝ} (h : Represents S G p) :
    (∑ σ, rotatedBorn (fun _ => dX) G σ * sigmaZApply false σ = -∑ σ, p σ * sigmaXApply S false σ)
    ∧ (∑ σ, rotatedBorn (fun _ => dY) G σ * sigmaZApply false σ = -∑ σ, p σ * sigmaYApply S false σ) := by
  rw [C08_sigmaX h, C08_sigmaY h]
  exact ⟨rotated_Z_expectation hn dX pauliX C04_dX_unitary C08_basis_rotation_sign.1 G,
    rotated_Z_expectation hn dY pauliY C04_dY_unitary C08_basis_rotation_sign.2 G⟩

open Unitaries in
/-- … for wavefunctions, with `p_P` computed by the model of `rotate_psi_inner_prod` as coded (C04):
`p_P(σ) = |rotatePsiInnerProdE …|² / Σ|ψ|²`. -/
theorem C08_rotated_Z_pure (hn : 0 < n) (psi : Cfg n → C ℝ) (hψ : ∀ σ, psi σ ≠ (0, 0)) :
    (∑ σ, C.normSq (rotatePsiInnerProdE n (fun _ => dX) (fun _ => true) psi σ) / (∑ τ, C.normSq (psi τ))
          * sigmaZApply false σ
        = -∑ σ, bornPure psi σ * sigmaXApply (ImpState.pure psi) false σ)
    ∧ (∑ σ, C.normSq (rotatePsiInnerProdE n (fun _ => dY) (fun _ => true) psi σ) / (∑ τ, C.normSq (psi τ))
          * sigmaZApply false σ
        = -∑ σ, bornPure psi σ * sigmaYApply (ImpState.pure psi) false σ) := by
  have h := C08_rotated_Z hn (C08_represents_pure psi hψ)
  simp only [rotatedBorn_pure] at h
  exact h

open Unitaries in
/-- … for density matrices, with `p_P` computed by the model of `rotate_rho_probs` as coded (C04), divided by the trace. -/
theorem C08_rotated_Z_mixed (hn : 0 < n) (rho : Cfg n → Cfg n → C ℝ) (prob : Cfg n → ℝ)
    (hdiag : ∀ σ, rho σ σ = (prob σ, 0)) (hpos : ∀ σ, prob σ ≠ 0) :
    (∑ σ, rotateRhoProbsE n (fun _ => dX) (fun _ => true) rho σ / (∑ τ, prob τ) * sigmaZApply false σ
        = -∑ σ, bornMixed prob σ * sigmaXApply (ImpState.mixed rho prob) false σ)
    ∧ (∑ σ, rotateRhoProbsE n (fun _ => dY) (fun _ => true) rho σ / (∑ τ, prob τ) * sigmaZApply false σ
        = -∑ σ, bornMixed prob σ * sigmaYApply (ImpState.mixed rho prob) false σ) := by
  have h := C08_rotated_Z hn (C08_represents_mixed rho prob hdiag hpos)
  simp only [rotatedBorn_mixed _ rho prob hdiag] at h
  exact h

/-- non-vacuity of the sign anchor: a complex RBM state on two sites -/
example : let am : RBM ℝ 2 3 := ⟨fun i j => (i.val : ℝ) - j.val + 0.5, fun j => if j = 0 then -1.5 else 2,
      fun i => if i = 0 then 0.7 else -0.3⟩
    let ph : RBM ℝ 2 3 := ⟨fun i j => 0.25 * (i.val : ℝ) + j.val, fun j => if j = 0 then 1 else -2,
      fun i => if i = 0 then -0.4 else 0.9⟩
    let psi : Cfg 2 → C ℝ := fun σ => Wave.psiCplx am ph (fun j => bit (σ j))
    ∑ σ, C.normSq (Unitaries.rotatePsiInnerProdE 2 (fun _ => Unitaries.dY) (fun _ => true) psi σ) / (∑ τ, C.normSq (psi τ))
          * sigmaZApply false σ
      = -∑ σ, bornPure psi σ * sigmaYApply (ImpState.pure psi) false σ :=
  (C08_rotated_Z_pure (by norm_num) _ (fun σ => (C08_rbm_psi_ne_zero _ _ σ).2)).2

/-! ### Hermiticity of the five operators -/

/-- the trace of a Hermitian state with a Hermitian operator is real, so for Hermitian `ρ` the `Re` in
the theorems above loses nothing. -/
theorem C08_trace_real (R O : Op n) (hR : ∀ σ σ', R σ' σ = conj (R σ σ')) (hO : ∀ σ σ', O σ' σ = conj (O σ σ')) :
    (trOp R O).im = 0 := by
  refine Complex.conj_eq_iff_im.1 ?_
  simp only [trOp, map_sum, map_mul, ← hR, ← hO]
  exact Finset.sum_comm

theorem C08_ops_hermitian_site (P : Bool → Bool → ℂ) (hP : ∀ a b, P b a = conj (P a b)) (i : Fin n)
    (σ σ' : Cfg n) : siteOp P i σ' σ = conj (siteOp P i σ σ') := by
  unfold siteOp
  by_cases hall : ∀ j, j ≠ i → σ j = σ' j
  · rw [if_pos hall, if_pos (fun j hj => (hall j hj).symm), hP]
  · rw [if_neg hall, if_neg (fun h' => hall (fun j hj => (h' j hj).symm)), map_zero]

theorem C08_paulis_hermitian :
    (∀ a b, pauliX b a = conj (pauliX a b)) ∧ (∀ a b, pauliY b a = conj (pauliY a b))
      ∧ (∀ a b, pauliZ b a = conj (pauliZ a b)) := by
  refine ⟨?_, ?_, ?_⟩ <;> intro a b <;> cases a <;> cases b <;> simp [pauliX, pauliY, pauliZ]

/-- the five built-in operators are Hermitian -/
theorem C08_ops_hermitian (c : ℕ) :
    (∀ P : Bool → Bool → ℂ, (∀ a b, P b a = conj (P a b)) →
        ∀ σ σ' : Cfg n, magnetOp P σ' σ = conj (magnetOp P σ σ'))
    ∧ (∀ σ σ' : Cfg n, neighbourOpenOp c σ' σ = conj (neighbourOpenOp c σ σ'))
    ∧ (∀ σ σ' : Cfg n, neighbourPeriodicOp c σ' σ = conj (neighbourPeriodicOp c σ σ')) := by
  refine ⟨fun P hP σ σ' => ?_, fun σ σ' => ?_, fun σ σ' => ?_⟩
  · unfold magnetOp
    rw [map_mul, map_sum, map_div₀, map_one, Complex.conj_natCast]
    exact congrArg _ (Finset.sum_congr rfl fun i _ => C08_ops_hermitian_site P hP i σ σ')
  · rw [neighbourOpenOp_eq]
    exact diagOp_hermitian _ σ σ'
  · rw [neighbourPeriodicOp_eq]
    exact diagOp_hermitian _ σ σ'

/-! ### The RBM density matrix: the mixed-state hypotheses hold, it is Hermitian, the traces are real (from C02) -/
section rbmMixed
variable {hid a : ℕ}

/-- the RBM density matrix on basis states, as the driver instantiates `ImpState.mixed` -/
noncomputable abbrev rbmRho (am ph : PRBM ℝ n hid a) : Cfg n → Cfg n → C ℝ :=
  fun σ σ' => Density.rho am ph (fun j => bit (σ j)) (fun j => bit (σ' j))
/-- the reported unnormalised probability on basis states -/
noncomputable abbrev rbmProb (am : PRBM ℝ n hid a) : Cfg n → ℝ := fun σ => Density.probability am (fun j => bit (σ j)) 1

/-- `ρ σσ = (probability σ, 0)` and `probability σ = exp(−E_λ σ) > 0` for EVERY parameter setting (C02_diagonal):
the hypotheses `hdiag`, `hpos` of `C08_represents_mixed` / `C08_mixed_states` hold for the RBM density matrix. -/
theorem C08_rbm_rho_diag (am ph : PRBM ℝ n hid a) (σ : Cfg n) :
    rbmRho am ph σ σ = (rbmProb am σ, 0) ∧ 0 < rbmProb am σ := by
  refine ⟨(C02.C02_diagonal am ph (fun j => bit (σ j))).2, ?_⟩
  simp only [rbmProb, Density.probability, transc_exp, div_one]
  exact Real.exp_pos _

/-- **density-matrix RBM, no hypotheses**: all five estimators average to `Re tr(ρ̂ O)` for every parameter setting. -/
theorem C08_mixed_rbm (am ph : PRBM ℝ n hid a) (c : ℕ) :
    let S := ImpState.mixed (rbmRho am ph) (rbmProb am)
    let R := normalised (dmMixed (rbmRho am ph))
    (∑ σ, bornMixed (rbmProb am) σ * sigmaXApply S false σ = (trOp R (magnetOp pauliX)).re)
    ∧ (∑ σ, bornMixed (rbmProb am) σ * sigmaYApply S false σ = (trOp R (magnetOp pauliY)).re)
    ∧ (0 < n → ∑ σ, bornMixed (rbmProb am) σ * sigmaZApply false σ = (trOp R (magnetOp pauliZ)).re)
    ∧ (∑ σ, bornMixed (rbmProb am) σ * neighbourPeriodicApply c σ = (trOp R (neighbourPeriodicOp c)).re)
    ∧ (1 ≤ c → ∃ val : Cfg n → ℝ, (∀ σ, neighbourOpenApply c σ = .ok (val σ)) ∧
        ∑ σ, bornMixed (rbmProb am) σ * val σ = (trOp R (neighbourOpenOp c)).re) :=
  C08_mixed_states (rbmRho am ph) (rbmProb am) (fun σ => (C08_rbm_rho_diag am ph σ).1)
    (fun σ => (C08_rbm_rho_diag am ph σ).2.ne') c

open Unitaries in
/-- the rotated-basis sign relation for the RBM density matrix, no hypotheses beyond `n > 0` -/
theorem C08_rotated_Z_mixed_rbm (hn : 0 < n) (am ph : PRBM ℝ n hid a) :
    (∑ σ, rotateRhoProbsE n (fun _ => dX) (fun _ => true) (rbmRho am ph) σ / (∑ τ, rbmProb am τ) * sigmaZApply false σ
        = -∑ σ, bornMixed (rbmProb am) σ * sigmaXApply (ImpState.mixed (rbmRho am ph) (rbmProb am)) false σ)
    ∧ (∑ σ, rotateRhoProbsE n (fun _ => dY) (fun _ => true) (rbmRho am ph) σ / (∑ τ, rbmProb am τ) * sigmaZApply false σ
        = -∑ σ, bornMixed (rbmProb am) σ * sigmaYApply (ImpState.mixed (rbmRho am ph) (rbmProb am)) false σ) :=
  C08_rotated_Z_mixed hn _ _ (fun σ => (C08_rbm_rho_diag am ph σ).1) (fun σ => (C08_rbm_rho_diag am ph σ).2.ne')

theorem rbm_trace (am ph : PRBM ℝ n hid a) :
    ∑ τ, dmMixed (rbmRho am ph) τ τ = ((∑ τ, rbmProb am τ : ℝ) : ℂ) :=
  dmMixed_trace _ _ fun τ => (C08_rbm_rho_diag am ph τ).1

theorem rbm_trace_pos (am : PRBM ℝ n hid a) : 0 < ∑ τ, rbmProb am τ :=
  Finset.sum_pos (fun σ _ => (C08_rbm_rho_diag am am σ).2) Finset.univ_nonempty

/-- the normalised RBM density matrix is Hermitian for EVERY parameter setting (C02_hermitian_entry, no guard) -/
theorem C08_rbm_rho_hermitian (am ph : PRBM ℝ n hid a) (σ σ' : Cfg n) :
    normalised (dmMixed (rbmRho am ph)) σ' σ = conj (normalised (dmMixed (rbmRho am ph)) σ σ') := by
  unfold normalised
  rw [rbm_trace, map_div₀, Complex.conj_ofReal]
  congr 1
  exact C02.C02_hermitian_entry am ph (fun j => bit (σ j)) (fun j => bit (σ' j))

/-- hence the traces of all five observables with the RBM density matrix are real: the `Re` in `C08_mixed_rbm` loses nothing -/
theorem C08_mixed_rbm_trace_real (am ph : PRBM ℝ n hid a) (c : ℕ) :
    let R := normalised (dmMixed (rbmRho am ph))
    (trOp R (magnetOp pauliX)).im = 0 ∧ (trOp R (magnetOp pauliY)).im = 0 ∧ (trOp R (magnetOp pauliZ)).im = 0
      ∧ (trOp R (neighbourPeriodicOp c)).im = 0 ∧ (trOp R (neighbourOpenOp c)).im = 0 := by
  intro R
  have hR := C08_rbm_rho_hermitian am ph
  have hO := C08_ops_hermitian (n := n) c
  exact ⟨C08_trace_real R _ hR (hO.1 pauliX C08_paulis_hermitian.1),
    C08_trace_real R _ hR (hO.1 pauliY C08_paulis_hermitian.2.1),
    C08_trace_real R _ hR (hO.1 pauliZ C08_paulis_hermitian.2.2),
    C08_trace_real R _ hR hO.2.2, C08_trace_real R _ hR hO.2.1⟩

end rbmMixed

/-! ### `SigmaY` on real wavefunctions -/

/-- **`SigmaY` on a real wavefunction is identically zero, sample by sample**: if `ψ` has zero imaginary part
everywhere (e.g. `PositiveWaveFunction`), every numerator `ψ(σ^{(i)})·(i·s_i)` is purely imaginary and the denominator `ψ(σ)` is
real, so the real part `SigmaY.apply` keeps is exactly `0` for every sample (also where `ψ σ = 0`: the model's real division by zero
gives `0`; the float code gives `nan` there — not reachable for an RBM state, `C08_rbm_psi_ne_zero`). -/
theorem C08_sigmaY_real_state_zero (psi : Cfg n → C ℝ) (hreal : ∀ σ, (psi σ).2 = 0) (σ : Cfg n) :
    sigmaYApply (ImpState.pure psi) false σ = 0 := by
  have hr : ∀ τ, Obs.toC (psi τ) = ((psi τ).1 : ℂ) := fun τ => Complex.ext rfl (hreal τ)
  have hs : ∀ b, Obs.toC ((0, spin b) : C ℝ) = ((spin b : ℝ) : ℂ) * Complex.I := fun b => by
    apply Complex.ext <;> simp
  rw [sigmaYApply_eq]
  simp only [ImpState.pure, hr, hs, ← mul_assoc, ← Finset.sum_mul, ← Complex.ofReal_mul, ← Complex.ofReal_sum]
  rw [Complex.div_ofReal_re, Complex.re_ofReal_mul, Complex.I_re, mul_zero, zero_div, zero_div]

/-- … hence for the positive RBM wavefunction every `SigmaY` sample value is `0` and `Re ⟨ψ|M_Y|ψ⟩/⟨ψ|ψ⟩ = 0` (from the
estimator theorem `C08_pure_rbm_pos`, clause 2: the exact average of the zero function). -/
theorem C08_sigmaY_pos_zero {hid : ℕ} (am : RBM ℝ n hid) :
    let psi : Cfg n → C ℝ := fun σ => Wave.psiPos am (fun j => bit (σ j))
    (∀ σ, sigmaYApply (ImpState.pure psi) false σ = 0) ∧ (expectation psi (magnetOp pauliY)).re = 0 := by
  intro psi
  have h0 : ∀ σ, sigmaYApply (ImpState.pure psi) false σ = 0 := C08_sigmaY_real_state_zero psi (fun _ => rfl)
  refine ⟨h0, ?_⟩
  rw [← (C08_pure_rbm_pos am 1).2.1]
  exact Finset.sum_eq_zero (fun σ _ => mul_eq_zero_of_right _ (h0 σ))

/-! ### Composition with the sampler (C05) and the streaming statistics (C13): unbiased ON THE SAMPLES THE LIBRARY DRAWS

The theorems above average `apply` over the EXACT distribution `p`.  The library never sees `p`: it draws samples with the
block-Gibbs sampler of property C05 and averages with the streaming statistics of property C13.  This section composes the
three: `p` (= `bornPure ψ` / `bornMixed`, = the distribution the state reports, normalised) is invariant under the `k`-step
kernel of the MODEL sampler (`C05_invariant_k`), hence for a chain started from `p` the expectation — under
`Prog.expect (gibbsSteps k ·)`, the law of the sampler the C05 driver replays — of ANY function of the state after `k` steps is
its `p`-average (`C08_unbiased_stationary*`, clause 1), in particular `tr(ρ̂ O)` for the five observables; and the expectation of the
MEAN that `ObservableBase.statistics` reports (`C13_statistics_one_pass` ∘ the threaded loop `Stats.drawsProg` over `T` draws of
`B` independent chains with the schedule `[burn_in, steps, …]`) is `tr(ρ̂ O)` as well, whatever `burn_in`, `steps`, `num_samples`
are (`C08_unbiased_statistics*`).
NOT proved (and not claimed): convergence from an arbitrary start.  `sample`/`statistics` without `initial_state` start from
fair coins (`C05_sample_start`), which is not `p`; that the `k`-step law then approaches `p` as `k → ∞` (ergodicity: the kernel
is strictly positive, `C05_kernel_pos`) and at which rate is not formalised. -/
section sampler
open Prog Stats
variable {hid a : ℕ}

theorem bornPure_eq (psi : Cfg n → C ℝ) (w : Cfg n → ℝ) (h : ∀ τ, (psi τ).1 ^ 2 + (psi τ).2 ^ 2 = w τ) (σ : Cfg n) :
    bornPure psi σ = w σ / ∑ τ, w τ := by
  simp only [bornPure, C.normSq, ← pow_two, h]

theorem born_mixed_eq (am : PRBM ℝ n hid a) (σ : Cfg n) :
    bornMixed (rbmProb am) σ = C05.prbmPi am 1 σ / ∑ τ, C05.prbmPi am 1 τ := rfl

theorem rbmPi_pos (am : RBM ℝ n hid) (σ : Cfg n) : 0 < C05.rbmPi am 1 σ := by
  simp only [C05.rbmPi, Wave.probability, transc_exp, div_one]; exact Real.exp_pos _

theorem normalise_sum_one (w : Cfg n → ℝ) (hw : ∀ σ, 0 < w σ) : ∑ σ, w σ / ∑ τ, w τ = 1 := by
  rw [← Finset.sum_div]
  exact div_self (Finset.sum_pos (fun σ _ => hw σ) Finset.univ_nonempty).ne'

theorem normalise_stationary (w : Cfg n → ℝ) (prog : Cfg n → Prog ℝ (Cfg n))
    (h : ∀ x, ∑ v, w v * (prog v).law x = w x) (x : Cfg n) :
    ∑ v, (w v / ∑ τ, w τ) * (prog v).law x = w x / ∑ τ, w τ := by
  simp only [div_mul_eq_mul_div]
  rw [← Finset.sum_div, h]

/-- **the exact sampling distribution is stationary for the `k`-step sampler** (C05_invariant_k, in the normalised form the
estimator theorems use), for the three state types; each is a probability distribution. -/
theorem C08_born_stationary (am ph : RBM ℝ n hid) (q : PRBM ℝ n hid a) (k : ℕ) (w : Cfg n) :
    (∑ v, bornPure (fun σ => Wave.psiCplx am ph (fun j => bit (σ j))) v * (am.gibbsSteps k v).law w
        = bornPure (fun σ => Wave.psiCplx am ph (fun j => bit (σ j))) w)
    ∧ (∑ v, bornPure (fun σ => Wave.psiPos am (fun j => bit (σ j))) v * (am.gibbsSteps k v).law w
        = bornPure (fun σ => Wave.psiPos am (fun j => bit (σ j))) w)
    ∧ (∑ v, bornMixed (rbmProb q) v * (q.gibbsSteps k v).law w = bornMixed (rbmProb q) w)
    ∧ (∑ σ, bornPure (fun σ => Wave.psiCplx am ph (fun j => bit (σ j))) σ = 1)
    ∧ (∑ σ, bornPure (fun σ => Wave.psiPos am (fun j => bit (σ j))) σ = 1)
    ∧ (∑ σ, bornMixed (rbmProb q) σ = 1) := by
  have h1 : ∀ x, ∑ v, C05.rbmPi am 1 v * (am.gibbsSteps k v).law x = C05.rbmPi am 1 x := fun x =>
    (C05.C05_invariant_k_law am q 1 k x).1
  have h2 : ∀ x, ∑ v, C05.prbmPi q 1 v * (q.gibbsSteps k v).law x = C05.prbmPi q 1 x := fun x =>
    (C05.C05_invariant_k_law am q 1 k x).2
  -- `|ψ σ|² = probability σ` for both wavefunctions (C01): all three distributions are a positive weight over its total
  have hc := bornPure_eq _ (C05.rbmPi am 1) fun τ => C01_normSq_psi_complex am ph (fun j => bit (τ j))
  have hp := bornPure_eq _ (C05.rbmPi am 1) fun τ => C01_normSq_psi_positive am (fun j => bit (τ j))
  simp only [hc, hp, born_mixed_eq]
  exact ⟨normalise_stationary _ _ h1 w, normalise_stationary _ _ h1 w, normalise_stationary _ _ h2 w,
    normalise_sum_one _ (rbmPi_pos am), normalise_sum_one _ (rbmPi_pos am),
    normalise_sum_one _ fun σ => (C08_rbm_rho_diag q q σ).2⟩

/-! #### (a) one chain after `k` sampler passes -/

/-- **(a) unbiased on a stationary chain, complex wavefunction.**  Start state `v₀ ~ p = |ψ|²/Σ|ψ|²`, then `k` passes of the
amplitude network's block-Gibbs sampler (what `sample`/`gibbs_steps` run): for EVERY `k` the expected value of ANY per-sample
function of the resulting state is its exact `p`-average; for the five observables it is `⟨ψ|O|ψ⟩/⟨ψ|ψ⟩`. -/
theorem C08_unbiased_stationary (am ph : RBM ℝ n hid) (k c : ℕ) :
    let psi : Cfg n → C ℝ := fun σ => Wave.psiCplx am ph (fun j => bit (σ j))
    let E : (Cfg n → ℝ) → ℝ := fun f => ∑ v₀, bornPure psi v₀ * (am.gibbsSteps k v₀).expect f
    (∀ f, E f = ∑ σ, bornPure psi σ * f σ)
    ∧ (E (fun σ => sigmaXApply (ImpState.pure psi) false σ) = (expectation psi (magnetOp pauliX)).re)
    ∧ (E (fun σ => sigmaYApply (ImpState.pure psi) false σ) = (expectation psi (magnetOp pauliY)).re)
    ∧ (0 < n → E (fun σ => sigmaZApply false σ) = (expectation psi (magnetOp pauliZ)).re)
    ∧ (E (fun σ => neighbourPeriodicApply c σ) = (expectation psi (neighbourPeriodicOp c)).re)
    ∧ (1 ≤ c → ∃ val : Cfg n → ℝ, (∀ σ, neighbourOpenApply c σ = .ok (val σ)) ∧
        E val = (expectation psi (neighbourOpenOp c)).re) := by
  intro psi E
  have hE : ∀ f, E f = ∑ σ, bornPure psi σ * f σ := fun f =>
    Prog.expect_stationary (bornPure psi) (am.gibbsSteps k)
      (fun w => (C08_born_stationary am ph (⟨0, 0, 0, 0, 0⟩ :
        PRBM ℝ n hid 0) k w).1) f
  refine ⟨hE, ?_⟩
  simp only [hE]
  exact C08_pure_rbm am ph c

/-- … positive wavefunction. -/
theorem C08_unbiased_stationary_pos (am : RBM ℝ n hid) (k c : ℕ) :
    let psi : Cfg n → C ℝ := fun σ => Wave.psiPos am (fun j => bit (σ j))
    let E : (Cfg n → ℝ) → ℝ := fun f => ∑ v₀, bornPure psi v₀ * (am.gibbsSteps k v₀).expect f
    (∀ f, E f = ∑ σ, bornPure psi σ * f σ)
    ∧ (E (fun σ => sigmaXApply (ImpState.pure psi) false σ) = (expectation psi (magnetOp pauliX)).re)
    ∧ (E (fun σ => sigmaYApply (ImpState.pure psi) false σ) = (expectation psi (magnetOp pauliY)).re)
    ∧ (0 < n → E (fun σ => sigmaZApply false σ) = (expectation psi (magnetOp pauliZ)).re)
    ∧ (E (fun σ => neighbourPeriodicApply c σ) = (expectation psi (neighbourPeriodicOp c)).re)
    ∧ (1 ≤ c → ∃ val : Cfg n → ℝ, (∀ σ, neighbourOpenApply c σ = .ok (val σ)) ∧
        E val = (expectation psi (neighbourOpenOp c)).re) := by
  intro psi E
  have hE : ∀ f, E f = ∑ σ, bornPure psi σ * f σ := fun f =>
    Prog.expect_stationary (bornPure psi) (am.gibbsSteps k)
      (fun w => (C08_born_stationary am am (⟨0, 0, 0, 0, 0⟩ :
        PRBM ℝ n hid 0) k w).2.1) f
  refine ⟨hE, ?_⟩
  simp only [hE]
  exact C08_pure_rbm_pos am c

/-- … density matrix (purification RBM; the sampler is the three-block pass `h, a | v` then `v | h, a` of the amplitude
network): expected value `Re tr(ρ̂ O)`, no hypotheses. -/
theorem C08_unbiased_stationary_mixed (am ph : PRBM ℝ n hid a) (k c : ℕ) :
    let S := ImpState.mixed (rbmRho am ph) (rbmProb am)
    let R := normalised (dmMixed (rbmRho am ph))
    let E : (Cfg n → ℝ) → ℝ := fun f => ∑ v₀, bornMixed (rbmProb am) v₀ * (am.gibbsSteps k v₀).expect f
    (∀ f, E f = ∑ σ, bornMixed (rbmProb am) σ * f σ)
    ∧ (E (fun σ => sigmaXApply S false σ) = (trOp R (magnetOp pauliX)).re)
    ∧ (E (fun σ => sigmaYApply S false σ) = (trOp R (magnetOp pauliY)).re)
    ∧ (0 < n → E (fun σ => sigmaZApply false σ) = (trOp R (magnetOp pauliZ)).re)
    ∧ (E (fun σ => neighbourPeriodicApply c σ) = (trOp R (neighbourPeriodicOp c)).re)
    ∧ (1 ≤ c → ∃ val : Cfg n → ℝ, (∀ σ, neighbourOpenApply c σ = .ok (val σ)) ∧
        E val = (trOp R (neighbourOpenOp c)).re) := by
  intro S R E
  have hE : ∀ f, E f = ∑ σ, bornMixed (rbmProb am) σ * f σ := fun f =>
    Prog.expect_stationary (bornMixed (rbmProb am)) (am.gibbsSteps k)
      (fun w => (C08_born_stationary (⟨0, 0, 0⟩ : RBM ℝ n hid)
        ⟨0, 0, 0⟩ am k w).2.2.1) f
  refine ⟨hE, ?_⟩
  simp only [hE]
  exact C08_mixed_rbm am ph c

/-! #### (b) the mean reported by `statistics` -/

/-- an observable evaluated on a batch of `B` chain states: one value per chain, in row order (for `SigmaX`/`SigmaY` this is what
the heap runs return, `C08_no_mutation`; `SigmaZ`/`NeighbourInteraction` are row-wise by construction) -/
def batchVals {B : ℕ} (f : Cfg n → ℝ) (st : Fin B → Cfg n) : List ℝ := List.ofFn (fun b => f (st b))

theorem mean_batchVals {B : ℕ} (f : Cfg n → ℝ) (st : Fin B → Cfg n) :
    C13.mean (batchVals f st) = (∑ b, f (st b)) / B := by
  rw [C13.mean, batchVals, List.sum_ofFn, List.length_ofFn]

/-- `C13_mean_stationary` for `B` independent chains whose single-chain `k`-step programs leave `p` invariant, every chain
started from `p`: (i) as there, and (ii) the expectation of the reported mean is the `p^{⊗B}`-average of the mean over one
batch (the product measure is invariant under the batched program, `prod_invariant`). -/
theorem batch_mean_stationary (p : Cfg n → ℝ) (stepK : ℕ → Cfg n → Prog ℝ (Cfg n)) (B : ℕ)
    (stepKB : ℕ → (Fin B → Cfg n) → Prog ℝ (Fin B → Cfg n))
    (hlaw : ∀ k vs ws, (stepKB k vs).law ws = ∏ b, (stepK k (vs b)).law (ws b))
    (hinv : ∀ k w, ∑ v, p v * (stepK k v).law w = p w)
    (F : (Fin B → Cfg n) → List ℝ) (hF : ∀ st, (F st).length = B) (hB : 1 ≤ B) (ns nc burnIn steps T : ℕ)
    (hns : 1 ≤ ns) (hT : numTimeSteps ns B = .ok T) (ow : Bool) (dflt : Fin B → Cfg n) :
    (∀ (s₀ : Fin B → Cfg n) (sts : List (Fin B → Cfg n)), sts.length = T →
        ∃ calls, obsStatistics (recEnv B sts dflt) F ⟨ns, nc, burnIn, steps, some s₀, ow⟩
            = .ok (C13.onePass ((sts.map F).flatten), calls)
          ∧ calls.map (·.k) = burnIn :: List.replicate (T - 1) steps)
    ∧ ∑ vs₀ : Fin B → Cfg n, (∏ b, p (vs₀ b)) *
          (drawsProg stepKB burnIn steps T 0 vs₀).expect (fun sts => C13.mean ((sts.map F).flatten))
        = ∑ vs : Fin B → Cfg n, (∏ b, p (vs b)) * C13.mean (F vs) := by
  obtain ⟨T', hT', _, _, h⟩ := C13.C13_mean_stationary stepKB (fun vs => ∏ b, p (vs b))
    (fun k ws => by simp only [hlaw]; exact prod_invariant p (fun v w => (stepK k v).law w) (hinv k) ws)
    F B hB hF ns nc burnIn steps hns ow dflt
  cases Except.ok.inj (hT.symm.trans hT')
  exact h

/-- **(b) generic.**  `B ≥ 1` independent chains whose single-chain `k`-step programs `stepK k` leave the probability
distribution `p` invariant, batched as `stepKB k` (product law), every chain started from `p`: for every `num_samples ≥ 1`,
`burn_in`, `steps`, with `T = ⌈num_samples / B⌉` draws — (i) on every execution `statistics` returns the one-pass statistics of the
`T·B` values, the sampler having been called with `k = [burn_in, steps, …, steps]`, and (ii) the expectation of the reported MEAN
over the joint law of all `T` draws of all `B` chains is the exact `p`-average of the per-sample value. -/
theorem C08_statistics_mean_generic (p : Cfg n → ℝ) (hp : ∑ σ, p σ = 1)
    (stepK : ℕ → Cfg n → Prog ℝ (Cfg n)) (B : ℕ)
    (stepKB : ℕ → (Fin B → Cfg n) → Prog ℝ (Fin B → Cfg n))
    (hlaw : ∀ k vs ws, (stepKB k vs).law ws = ∏ b, (stepK k (vs b)).law (ws b))
    (hinv : ∀ k w, ∑ v, p v * (stepK k v).law w = p w)
    (f : Cfg n → ℝ) (hB : 1 ≤ B) (ns nc burnIn steps T : ℕ) (hns : 1 ≤ ns) (hT : numTimeSteps ns B = .ok T)
    (ow : Bool) (dflt : Fin B → Cfg n) :
    (∀ (s₀ : Fin B → Cfg n) (sts : List (Fin B → Cfg n)), sts.length = T →
        ∃ calls, obsStatistics (recEnv B sts dflt) (batchVals f) ⟨ns, nc, burnIn, steps, some s₀, ow⟩
            = .ok (C13.onePass ((sts.map (batchVals f)).flatten), calls)
          ∧ calls.map (·.k) = burnIn :: List.replicate (T - 1) steps)
    ∧ ∑ vs₀ : Fin B → Cfg n, (∏ b, p (vs₀ b)) *
          (drawsProg stepKB burnIn steps T 0 vs₀).expect (fun sts => C13.mean ((sts.map (batchVals f)).flatten))
        = ∑ σ, p σ * f σ := by
  refine (batch_mean_stationary p stepK B stepKB hlaw hinv (batchVals f) (fun _ => List.length_ofFn) hB ns nc burnIn
    steps T hns hT ow dflt).imp_right fun hexp => hexp.trans ?_
  simp only [mean_batchVals]
  exact weighted_mean_of_common hB _ _ _ fun b => sum_prod_marginal1 p hp b f

/-- the batched sampler of the model is the product of the single-chain samplers (`C05_batch_law`, in terms of laws) -/
theorem gibbsStepsB_law (am : RBM ℝ n hid) {B : ℕ} (k : ℕ) (vs ws : Fin B → Cfg n) :
    (am.gibbsStepsB k vs).law ws = ∏ b, (am.gibbsSteps k (vs b)).law (ws b) := by
  simp only [C05.C05_batch_law, C05.C05_k_step_law]

theorem gibbsStepsB_law_purif (q : PRBM ℝ n hid a) {B : ℕ} (k : ℕ) (vs ws : Fin B → Cfg n) :
    (q.gibbsStepsB k vs).law ws = ∏ b, (q.gibbsSteps k (vs b)).law (ws b) := by
  simp only [C05.C05_batch_law_purif, C05.C05_k_step_law_purif]

/-- **(b) the mean reported by `ObservableBase.statistics` is unbiased, complex wavefunction**: `B ≥ 1` chains started i.i.d.
from `p = |ψ|²/Σ|ψ|²` (the caller's `initial_state`), the loop's sampler calls being the model's batched block-Gibbs program
`gibbsStepsB k` (C05) with `k = burn_in` once and `k = steps` afterwards, `T = ⌈num_samples/B⌉` draws: the expectation of the
reported mean is the exact average for ANY per-sample function, and `⟨ψ|O|ψ⟩/⟨ψ|ψ⟩` for the five observables. -/
theorem C08_unbiased_statistics (am ph : RBM ℝ n hid) (c B : ℕ) (hB : 1 ≤ B) (ns burnIn steps T : ℕ) (hns : 1 ≤ ns)
    (hT : numTimeSteps ns B = .ok T) :
    let psi : Cfg n → C ℝ := fun σ => Wave.psiCplx am ph (fun j => bit (σ j))
    let E : (Cfg n → ℝ) → ℝ := fun f => ∑ vs₀ : Fin B → Cfg n, (∏ b, bornPure psi (vs₀ b)) *
      (drawsProg (fun k => am.gibbsStepsB k) burnIn steps T 0 vs₀).expect
        (fun sts => C13.mean ((sts.map (batchVals f)).flatten))
    (∀ f, E f = ∑ σ, bornPure psi σ * f σ)
    ∧ (E (fun σ => sigmaXApply (ImpState.pure psi) false σ) = (expectation psi (magnetOp pauliX)).re)
    ∧ (E (fun σ => sigmaYApply (ImpState.pure psi) false σ) = (expectation psi (magnetOp pauliY)).re)
    ∧ (0 < n → E (fun σ => sigmaZApply false σ) = (expectation psi (magnetOp pauliZ)).re)
    ∧ (E (fun σ => neighbourPeriodicApply c σ) = (expectation psi (neighbourPeriodicOp c)).re)
    ∧ (1 ≤ c → ∃ val : Cfg n → ℝ, (∀ σ, neighbourOpenApply c σ = .ok (val σ)) ∧
        E val = (expectation psi (neighbourOpenOp c)).re) := by
  intro psi E
  have hs := C08_born_stationary am ph (⟨0, 0, 0, 0, 0⟩ : PRBM ℝ n hid 0)
  have hE : ∀ f, E f = ∑ σ, bornPure psi σ * f σ := fun f =>
    (C08_statistics_mean_generic _ (hs 0 fun _ => false).2.2.2.1 _ B _ (gibbsStepsB_law am) (fun k w => (hs k w).1) f hB
      ns 0 burnIn steps T hns hT false fun _ _ => false).2
  refine ⟨hE, ?_⟩
  simp only [hE]
  exact C08_pure_rbm am ph c

/-- … positive wavefunction `ψ_λ` (`PositiveWaveFunction`), started i.i.d. from `p = ψ_λ²/Σψ_λ²`.  (For `SigmaY` both sides
vanish: `C08_sigmaY_pos_zero`.) -/
theorem C08_unbiased_statistics_pos (am : RBM ℝ n hid) (c B : ℕ) (hB : 1 ≤ B) (ns burnIn steps T : ℕ) (hns : 1 ≤ ns)
    (hT : numTimeSteps ns B = .ok T) :
    let psi : Cfg n → C ℝ := fun σ => Wave.psiPos am (fun j => bit (σ j))
    let E : (Cfg n → ℝ) → ℝ := fun f => ∑ vs₀ : Fin B → Cfg n, (∏ b, bornPure psi (vs₀ b)) *
      (drawsProg (fun k => am.gibbsStepsB k) burnIn steps T 0 vs₀).expect
        (fun sts => C13.mean ((sts.map (batchVals f)).flatten))
    (∀ f, E f = ∑ σ, bornPure psi σ * f σ)
    ∧ (E (fun σ => sigmaXApply (ImpState.pure psi) false σ) = (expectation psi (magnetOp pauliX)).re)
    ∧ (E (fun σ => sigmaYApply (ImpState.pure psi) false σ) = (expectation psi (magnetOp pauliY)).re)
    ∧ (0 < n → E (fun σ => sigmaZApply false σ) = (expectation psi (magnetOp pauliZ)).re)
    ∧ (E (fun σ => neighbourPeriodicApply c σ) = (expectation psi (neighbourPeriodicOp c)).re)
    ∧ (1 ≤ c → ∃ val : Cfg n → ℝ, (∀ σ, neighbourOpenApply c σ = .ok (val σ)) ∧
        E val = (expectation psi (neighbourOpenOp c)).re) := by
  intro psi E
  have hs := C08_born_stationary am am (⟨0, 0, 0, 0, 0⟩ : PRBM ℝ n hid 0)
  have hE : ∀ f, E f = ∑ σ, bornPure psi σ * f σ := fun f =>
    (C08_statistics_mean_generic _ (hs 0 fun _ => false).2.2.2.2.1 _ B _ (gibbsStepsB_law am) (fun k w => (hs k w).2.1) f
      hB ns 0 burnIn steps T hns hT false fun _ _ => false).2
  refine ⟨hE, ?_⟩
  simp only [hE]
  exact C08_pure_rbm_pos am c

/-- … density matrix: the expectation of the mean reported by `statistics` is `Re tr(ρ̂ O)`. -/
theorem C08_unbiased_statistics_mixed (am ph : PRBM ℝ n hid a) (c B : ℕ) (hB : 1 ≤ B) (ns burnIn steps T : ℕ)
    (hns : 1 ≤ ns) (hT : numTimeSteps ns B = .ok T) :
    let S := ImpState.mixed (rbmRho am ph) (rbmProb am)
    let R := normalised (dmMixed (rbmRho am ph))
    let E : (Cfg n → ℝ) → ℝ := fun f => ∑ vs₀ : Fin B → Cfg n, (∏ b, bornMixed (rbmProb am) (vs₀ b)) *
      (drawsProg (fun k => am.gibbsStepsB k) burnIn steps T 0 vs₀).expect
        (fun sts => C13.mean ((sts.map (batchVals f)).flatten))
    (∀ f, E f = ∑ σ, bornMixed (rbmProb am) σ * f σ)
    ∧ (E (fun σ => sigmaXApply S false σ) = (trOp R (magnetOp pauliX)).re)
    ∧ (E (fun σ => sigmaYApply S false σ) = (trOp R (magnetOp pauliY)).re)
    ∧ (0 < n → E (fun σ => sigmaZApply false σ) = (trOp R (magnetOp pauliZ)).re)
    ∧ (E (fun σ => neighbourPeriodicApply c σ) = (trOp R (neighbourPeriodicOp c)).re)
    ∧ (1 ≤ c → ∃ val : Cfg n → ℝ, (∀ σ, neighbourOpenApply c σ = .ok (val σ)) ∧
        E val = (trOp R (neighbourOpenOp c)).re) := by
  intro S R E
  have hs := C08_born_stationary (⟨0, 0, 0⟩ : RBM ℝ n hid) ⟨0, 0, 0⟩ am
  have hE : ∀ f, E f = ∑ σ, bornMixed (rbmProb am) σ * f σ := fun f =>
    (C08_statistics_mean_generic _ (hs 0 fun _ => false).2.2.2.2.2 _ B _ (gibbsStepsB_law_purif am)
      (fun k w => (hs k w).2.2.1) f hB ns 0 burnIn steps T hns hT false fun _ _ => false).2
  refine ⟨hE, ?_⟩
  simp only [hE]
  exact C08_mixed_rbm am ph c

/-- non-vacuity of `C08_unbiased_statistics_pos`: a positive RBM state on two sites (`h = 3`), 3 chains, 7 requested samples
(= 3 draws), burn-in 5, 2 steps between draws, `NeighbourInteraction(periodic_bcs=True, c=1)`. -/
example : let am : RBM ℝ 2 3 := ⟨fun i j => (i.val : ℝ) - j.val + 0.5, fun j => if j = 0 then -1.5 else 2,
      fun i => if i = 0 then 0.7 else -0.3⟩
    let psi : Cfg 2 → C ℝ := fun σ => Wave.psiPos am (fun j => bit (σ j))
    ∑ vs₀ : Fin 3 → Cfg 2, (∏ b, bornPure psi (vs₀ b)) *
      (drawsProg (fun k => am.gibbsStepsB k) 5 2 3 0 vs₀).expect
        (fun sts => C13.mean ((sts.map (batchVals (fun σ => neighbourPeriodicApply 1 σ))).flatten))
      = (expectation psi (neighbourPeriodicOp 1)).re :=
  (C08_unbiased_statistics_pos _ 1 3 (by norm_num) 7 5 2 3 (by norm_num) (by decide)).2.2.2.2.1

/-- non-vacuity: a concrete complex RBM state on two sites (`h = 3 ≠ n`, biases of both signs), 3 chains, 7 requested samples
(= 3 draws), burn-in 5, 2 steps between draws: the expectation of the reported `SigmaY` mean is `⟨Y⟩`. -/
example : let am : RBM ℝ 2 3 := ⟨fun i j => (i.val : ℝ) - j.val + 0.5, fun j => if j = 0 then -1.5 else 2,
      fun i => if i = 0 then 0.7 else -0.3⟩
    let ph : RBM ℝ 2 3 := ⟨fun i j => 0.25 * (i.val : ℝ) + j.val, fun j => if j = 0 then 1 else -2,
      fun i => if i = 0 then -0.4 else 0.9⟩
    let psi : Cfg 2 → C ℝ := fun σ => Wave.psiCplx am ph (fun j => bit (σ j))
    ∑ vs₀ : Fin 3 → Cfg 2, (∏ b, bornPure psi (vs₀ b)) *
      (drawsProg (fun k => am.gibbsStepsB k) 5 2 3 0 vs₀).expect
        (fun sts => C13.mean ((sts.map (batchVals (fun σ => sigmaYApply (ImpState.pure psi) false σ))).flatten))
      = (expectation psi (magnetOp pauliY)).re :=
  (C08_unbiased_statistics _ _ 1 3 (by norm_num) 7 5 2 3 (by norm_num) (by decide)).2.2.1

/-- non-vacuity of (a): the same state, 4 Gibbs passes from a stationary start, `SigmaX`. -/
example : let am : RBM ℝ 2 3 := ⟨fun i j => (i.val : ℝ) - j.val + 0.5, fun j => if j = 0 then -1.5 else 2,
      fun i => if i = 0 then 0.7 else -0.3⟩
    let ph : RBM ℝ 2 3 := ⟨fun i j => 0.25 * (i.val : ℝ) + j.val, fun j => if j = 0 then 1 else -2,
      fun i => if i = 0 then -0.4 else 0.9⟩
    let psi : Cfg 2 → C ℝ := fun σ => Wave.psiCplx am ph (fun j => bit (σ j))
    ∑ v₀, bornPure psi v₀ * (am.gibbsSteps 4 v₀).expect (fun σ => sigmaXApply (ImpState.pure psi) false σ)
      = (expectation psi (magnetOp pauliX)).re :=
  (C08_unbiased_stationary _ _ 4 1).2.1

/-! #### (c) `absolute=True` -/

/-- **(c) `absolute=True` on a stationary chain**: for `SigmaX`, `SigmaY`, `SigmaZ` constructed with `absolute=True` the
per-sample value is `|value with absolute=False|` (`C08_real`, `C08_flag_absolute`), so after `k` sampler passes from a start
drawn from the exact sampling distribution `p` the expected value is `Σ_σ p(σ)·|apply(σ)|` — the corollary of clause (i) of
`C08_unbiased_stationary` / `_pos` / `_mixed` (any `f`) with `f = |apply|`, for the complex wavefunction, the positive
wavefunction and the density matrix.  This is ALL the property states about `absolute=True`.  It is NOT `tr(ρ̂|O|)` in general:
`|M_X| = 1` on one qubit (`X² = 1`), so `tr(ρ̂|X|) = 1` for every state, while for `ψ = (1, 2)` the samples give
`1/5·2 + 4/5·1/2 = 4/5` (the `example` below).  (For the diagonal `SigmaZ` the two coincide; nothing is claimed either way.)
The content beyond `C08_real` is by stationarity only (`Prog.expect_stationary` + `C08_born_stationary`). -/
theorem C08_unbiased_absolute (am ph : RBM ℝ n hid) (qa qp : PRBM ℝ n hid a) (k : ℕ) :
    let psiC : Cfg n → C ℝ := fun σ => Wave.psiCplx am ph (fun j => bit (σ j))
    let psiP : Cfg n → C ℝ := fun σ => Wave.psiPos am (fun j => bit (σ j))
    let SM := ImpState.mixed (rbmRho qa qp) (rbmProb qa)
    let EC : (Cfg n → ℝ) → ℝ := fun f => ∑ v₀, bornPure psiC v₀ * (am.gibbsSteps k v₀).expect f
    let EP : (Cfg n → ℝ) → ℝ := fun f => ∑ v₀, bornPure psiP v₀ * (am.gibbsSteps k v₀).expect f
    let EM : (Cfg n → ℝ) → ℝ := fun f => ∑ v₀, bornMixed (rbmProb qa) v₀ * (qa.gibbsSteps k v₀).expect f
    ((EC (fun σ => sigmaXApply (ImpState.pure psiC) true σ) = ∑ σ, bornPure psiC σ * |sigmaXApply (ImpState.pure psiC) false σ|)
      ∧ (EC (fun σ => sigmaYApply (ImpState.pure psiC) true σ)
          = ∑ σ, bornPure psiC σ * |sigmaYApply (ImpState.pure psiC) false σ|)
      ∧ (EC (fun σ => sigmaZApply true σ) = ∑ σ, bornPure psiC σ * |sigmaZApply false σ|))
    ∧ ((EP (fun σ => sigmaXApply (ImpState.pure psiP) true σ) = ∑ σ, bornPure psiP σ * |sigmaXApply (ImpState.pure psiP) false σ|)
      ∧ (EP (fun σ => sigmaYApply (ImpState.pure psiP) true σ)
          = ∑ σ, bornPure psiP σ * |sigmaYApply (ImpState.pure psiP) false σ|)
      ∧ (EP (fun σ => sigmaZApply true σ) = ∑ σ, bornPure psiP σ * |sigmaZApply false σ|))
    ∧ ((EM (fun σ => sigmaXApply SM true σ) = ∑ σ, bornMixed (rbmProb qa) σ * |sigmaXApply SM false σ|)
      ∧ (EM (fun σ => sigmaYApply SM true σ) = ∑ σ, bornMixed (rbmProb qa) σ * |sigmaYApply SM false σ|)
      ∧ (EM (fun σ => sigmaZApply true σ) = ∑ σ, bornMixed (rbmProb qa) σ * |sigmaZApply false σ|)) := by
  intro psiC psiP SM EC EP EM
  have hC := Prog.expect_stationary _ _ fun w => (C08_born_stationary am ph qa k w).1
  have hP := Prog.expect_stationary _ _ fun w => (C08_born_stationary am am qa k w).2.1
  have hM := Prog.expect_stationary _ _ fun w => (C08_born_stationary am ph qa k w).2.2.1
  exact ⟨⟨hC _, hC _, hC _⟩, ⟨hP _, hP _, hP _⟩, ⟨hM _, hM _, hM _⟩⟩

/-- `absolute=True` does NOT estimate `tr(ρ̂|O|)`: one qubit, `ψ = (ψ(0), ψ(1)) = (1, 2)` (nowhere zero, so `C08_represents_pure`
applies), `SigmaX`: `|X| = 1`, `tr(ρ̂|X|) = 1`, but the exact average of the `absolute=True` values is `4/5`. -/
example : let psi : Cfg 1 → C ℝ := fun σ => if σ 0 then (2, 0) else (1, 0)
    (∀ σ, psi σ ≠ (0, 0))
    ∧ ∑ σ, bornPure psi σ * |sigmaXApply (ImpState.pure psi) false σ| = 4 / 5 := by
  intro psi
  refine ⟨fun σ => by simp only [psi]; split <;> simp, ?_⟩
  have hsum : ∀ g : Cfg 1 → ℝ, ∑ τ, g τ = g (fun _ => true) + g (fun _ => false) := by
    intro g
    rw [← (Equiv.funUnique (Fin 1) Bool).symm.sum_comp, Fintype.sum_bool]
    rfl
  simp only [hsum, bornPure]
  simp [sigmaXApply, ImpState.pure, psi, C.sum, C.div, C.normSq, absIf, flipSpin, Fin.foldl_succ, C.add, C.zero, C.mul,
    C.conj]
  norm_num

/-- non-vacuity of `C08_unbiased_absolute`: the concrete two-site complex state, 4 passes, `SigmaY(absolute=True)`. -/
example : let am : RBM ℝ 2 3 := ⟨fun i j => (i.val : ℝ) - j.val + 0.5, fun j => if j = 0 then -1.5 else 2,
      fun i => if i = 0 then 0.7 else -0.3⟩
    let ph : RBM ℝ 2 3 := ⟨fun i j => 0.25 * (i.val : ℝ) + j.val, fun j => if j = 0 then 1 else -2,
      fun i => if i = 0 then -0.4 else 0.9⟩
    let psi : Cfg 2 → C ℝ := fun σ => Wave.psiCplx am ph (fun j => bit (σ j))
    ∑ v₀, bornPure psi v₀ * (am.gibbsSteps 4 v₀).expect (fun σ => sigmaYApply (ImpState.pure psi) true σ)
      = ∑ σ, bornPure psi σ * |sigmaYApply (ImpState.pure psi) false σ| :=
  (C08_unbiased_absolute _ _ (⟨0, 0, 0, 0, 0⟩ : PRBM ℝ 2 3 0)
    ⟨0, 0, 0, 0, 0⟩ 4).1.2.1

end sampler

/-! ### Constructor flags as the objects the caller passed -/

/-- **`absolute` as an object** (documented as `bool`; `1`, `numpy.bool_`, 0-dim bool arrays / tensors are what callers also pass, and
the attribute may be reassigned): the observable stores the object and `apply` tests its TRUTH VALUE, so for every object the values
are the pointwise absolute values of the signed estimator exactly when the object is truthy, the signed estimator itself otherwise,
and the caller's tensors are untouched either way.  (In the model of a slip that tests `self.absolute is True` the first three clauses
fail for `PyFlag.npBool true`.) -/
theorem C08_flag_absolute (S : ImpState ℝ n) (absolute : PyFlag) (h : THeap n) (sid : ℕ) (hs : sid < h.next) :
    (sigmaXRunF S absolute h sid).2
        = (h.cells sid).map (fun σ => if absolute.truthy then |sigmaXApply S false σ| else sigmaXApply S false σ)
      ∧ (sigmaYRunF S absolute h sid).2
        = (h.cells sid).map (fun σ => if absolute.truthy then |sigmaYApply S false σ| else sigmaYApply S false σ)
      ∧ (∀ σ : Cfg n, (sigmaZApplyF absolute σ : ℝ)
          = if absolute.truthy then |sigmaZApply false σ| else sigmaZApply false σ)
      ∧ (∀ k, k < h.next → (sigmaXRunF S absolute h sid).1.cells k = h.cells k)
      ∧ (∀ k, k < h.next → (sigmaYRunF S absolute h sid).1.cells k = h.cells k) := by
  have hm := C08_no_mutation S absolute.truthy h sid hs
  unfold sigmaXRunF sigmaYRunF sigmaZApplyF
  refine ⟨?_, ?_, ?_, hm.1.1, hm.2.1⟩
  · rw [hm.1.2]; cases absolute.truthy
    · simp
    · simp only [if_true]; exact List.map_congr_left (fun σ _ => (C08_real S σ).1)
  · rw [hm.2.2]; cases absolute.truthy
    · simp
    · simp only [if_true]; exact List.map_congr_left (fun σ _ => (C08_real S σ).2.1)
  · intro σ; cases absolute.truthy
    · simp
    · simp only [if_true]; exact (C08_real S σ).2.2

/-- **`periodic_bcs` as an object**: for every object passed (and every distance `c ≥ 1`) the call does not raise and the estimator is
unbiased for the periodic operator exactly when the object is truthy, for the open-chain operator otherwise. -/
theorem C08_flag_periodic (periodic : PyFlag) (c : ℕ) (hc : 1 ≤ c) {S : ImpState ℝ n} {G : Op n} {p : Cfg n → ℝ}
    (h : Represents S G p) :
    ∃ val : Cfg n → ℝ, (∀ σ, neighbourApplyF periodic c σ = .ok (val σ)) ∧
      ∑ σ, p σ * val σ
        = (trOp (normalised G) (if periodic.truthy then neighbourPeriodicOp c else neighbourOpenOp c)).re := by
  unfold neighbourApplyF
  cases periodic.truthy
  · exact C08_neighbour_open c hc h
  · exact ⟨_, fun σ => rfl, C08_neighbour_periodic c h⟩

/-- whichever kind of object (`form` 0…4) says `b`: the same estimator as with the singleton -/
theorem C08_flag_any_form (S : ImpState ℝ n) (form : ℕ) (b : Bool) (h : THeap n) (sid : ℕ) (c : ℕ) (σ : Cfg n) :
    sigmaXRunF S (PyFlag.ofBool form b) h sid = sigmaXRun S b h sid
      ∧ sigmaYRunF S (PyFlag.ofBool form b) h sid = sigmaYRun S b h sid
      ∧ (sigmaZApplyF (PyFlag.ofBool form b) σ : ℝ) = sigmaZApply b σ
      ∧ (neighbourApplyF (PyFlag.ofBool form b) c σ : Except PyErr ℝ)
          = if b then .ok (neighbourPeriodicApply c σ) else neighbourOpenApply c σ := by
  unfold sigmaXRunF sigmaYRunF sigmaZApplyF neighbourApplyF
  rw [PyFlag.truthy_ofBool]
  exact ⟨rfl, rfl, rfl, rfl⟩

end C08
end QV.Props
