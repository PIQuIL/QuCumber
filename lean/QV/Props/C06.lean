/-
C06 — Each training step applies exactly the contrastive-divergence update.

"For every batch processed during training, the gradient handed to the optimizer for the amplitude network
is the batch's positive-phase gradient minus the mean effective-energy gradient of the states reached by k
Gibbs steps from the negative-phase batch (divided by the negative batch size), the phase network receives
the positive phase only, and each value lands on the parameter it belongs to. With plain SGD the parameters
therefore move by exactly minus the learning rate times that gradient, once per batch, and a learning-rate
scheduler is advanced exactly once per epoch."

Model: QV.Model.CDStep (+ Grads, Prob). The chain end states `vk` are the result of `gibbs_steps(k, neg_batch)`:
`cdGradAm`/`cdStep…` are programs over the block-Gibbs sampler of property C05 STARTED FROM THE NEGATIVE BATCH
(`C06_chain…`: k = 0 returns the negative batch itself; the expected gradient is the positive phase minus the mean
over the negative rows of the `k`-step kernel's expectation of the energy gradient, `rbmP ^ k` being C05's kernel);
`C06_batch_grad` etc. are the statements for given chain end states. Whole runs: `foldRun`/`foldTrace`
(`C06_history`, `C06_run_unfold…`); learning-rate schedule per epoch: `tagEpochs`, `lrAfter` (`C06_scheduler_lr`,
`C06_steplr`). That the scheduler is stepped once per epoch AS AN EVENT is part of the event-protocol model
(C12_scheduler_once_per_epoch); here it shows as the learning rate in force in each epoch, and as the rate left in the
optimizer when `fit` returns (`C06_final_lr`). "Each value lands on the parameter it belongs to": `vectorToGrads` on exactly-sized
vectors (`C06_slices`, `C06_lands_on_parameter`) and `ArgConv.vectorToGradsE` with the refusals and the silent truncation of the
real `vector_to_grads` (`C06_slices_exact`, `C06_slices_tail_ignored`, `C06_fit_vector_length`). That `k`, `lr`, the scheduler are
the values the caller wrote, also in a positional call: `C06_positional_call`.
Not proved: optimizers other than plain SGD (their update rule would be a parameter `step` of `C06_history`).
-/
import QV.Model.CDStep
import QV.Lemmas.GradLin
import QV.Lemmas.CDChain
import QV.Model.CallForm
import QV.Lemmas.CallForm
import QV.Props.C05
import QV.Lemmas.ArgConv
import QV.Lemmas.GradArgs
import Mathlib.Data.List.Basic

namespace QV.Props
open QV Finset Grads CDStep

variable {n h a : ℕ}

/-- **C06.1a** the amplitude gradient handed to the optimizer pairs as
`⟨positive phase, d⟩ − (1/|neg|) Σ_m ⟨∇E_λ(v_k^m), d⟩`: positive phase minus the MEAN energy gradient of the chain end states. -/
theorem C06_batch_grad (posPhase am d : RBM ℝ n h) {M : ℕ} (vk : Fin M → Fin n → ℝ) :
    (batchGradAm posPhase am vk).pair d
      = posPhase.pair d - (∑ m, (am.effEnergyGrad1 (vk m)).pair d) / M := by
  simp only [batchGradAm, RBM.pair_sub, RBM.pair_sdiv, RBM.pair_effEnergyGrad, transc_ofNat]

theorem C06_batch_grad_prbm (posPhase am d : PRBM ℝ n h a) {M : ℕ} (vk : Fin M → Fin n → ℝ) :
    (batchGradAmDM posPhase am vk).pair d
      = posPhase.pair d - (∑ m, (am.effEnergyGrad1 (vk m)).pair d) / M := by
  simp only [batchGradAmDM, PRBM.pair_sub, PRBM.pair_sdiv, PRBM.pair_effEnergyGrad, transc_ofNat]

/-- **C06.1b** the phase network receives the positive phase only (complex and mixed states). -/
theorem C06_phase_gets_positive_phase_only (lr : ℝ) (am ph : RBM ℝ n h) (dict : Char → M2 ℝ) (D : List (Sample n))
    {M : ℕ} (vk : Fin M → Fin n → ℝ) :
    (stepCplx lr am ph dict D vk).1.2 = (positivePhaseCplx am ph dict D).2
    ∧ (stepCplx lr am ph dict D vk).1.1 = batchGradAm (positivePhaseCplx am ph dict D).1 am vk := ⟨rfl, rfl⟩

theorem C06_phase_gets_positive_phase_only_dm (lr eps : ℝ) (am ph : PRBM ℝ n h a) (dict : Char → M2 ℝ)
    (D : List (Sample n)) {M : ℕ} (vk : Fin M → Fin n → ℝ) :
    (stepDM lr eps am ph dict D vk).1.2 = (positivePhaseDM am ph dict eps D).2
    ∧ (stepDM lr eps am ph dict D vk).1.1 = batchGradAmDM (positivePhaseDM am ph dict eps D).1 am vk := ⟨rfl, rfl⟩

/-- **C06.2a** `vector_to_grads` inverts concatenation: slicing a concatenation of blocks by the blocks' lengths
returns the blocks (any number of parameters, any sizes). -/
theorem C06_slices {α : Type} (blocks : List (List α)) :
    vectorToGrads blocks.flatten (blocks.map List.length) = blocks := by
  induction blocks with
  | nil => rfl
  | cons b bs ih =>
    simp only [List.flatten_cons, List.map_cons, vectorToGrads, List.take_left', List.drop_left', ih]

/-- **C06.2b** each value lands on the parameter it belongs to: for a BinaryRBM the three gradient tensors the
optimizer sees are the `W` block (row-major), the `b` block and the `c` block of the model's gradient record. -/
theorem C06_lands_on_parameter (g : RBM ℝ n h) :
    rbmParamGrads g
      = [(List.finRange h).flatMap (fun i => (List.finRange n).map (fun j => g.W i j)),
         (List.finRange n).map g.b, (List.finRange h).map g.c] := by
  refine Eq.trans ?_ (C06_slices _)
  simp only [rbmParamGrads, rbmSizes, RBM.flatten, List.map_cons, List.map_nil, List.length_map, List.length_finRange,
    length_flatMap_rows, List.flatten_cons, List.flatten_nil, List.append_nil, List.append_assoc]

theorem C06_lands_on_parameter_prbm (g : PRBM ℝ n h a) :
    prbmParamGrads g
      = [(List.finRange h).flatMap (fun i => (List.finRange n).map (fun j => g.W i j)),
         (List.finRange a).flatMap (fun k => (List.finRange n).map (fun j => g.U k j)),
         (List.finRange n).map g.b, (List.finRange h).map g.c, (List.finRange a).map g.d] := by
  refine Eq.trans ?_ (C06_slices _)
  simp only [prbmParamGrads, prbmSizes, PRBM.flatten, List.map_cons, List.map_nil, List.length_map, List.length_finRange,
    length_flatMap_rows, List.flatten_cons, List.flatten_nil, List.append_nil, List.append_assoc]

/-- row-major view: entry `(i, j)` of the weight gradient is element `i*n + j` of its block -/
theorem C06_weight_block_entry (g : RBM ℝ n h) (i : Fin h) (j : Fin n) :
    ((List.finRange h).flatMap (fun i => (List.finRange n).map (fun j => g.W i j)))[i.val * n + j.val]?
      = some (g.W i j) :=
  getElem?_flatMap_rows h n g.W i j

/-! ## The refusals and the silent truncation of `vector_to_grads`

`ArgConv.vectorToGradsE` models `gradients_utils.py:21-52` with its branches: `TypeError` for a non-tensor vector (`:31-34`), the
`.view(param.size())` failure for a vector that runs out (`:49`), the refused `.grad` assignment for a vector of another element
type than the (double) parameters, and NO check that the vector is used up. -/

open ArgConv in
/-- **C06.2c** `vector_to_grads` with its refusals: a call is accepted IFF the vector is a tensor with at least as many entries as the
parameters have in total (and of the parameters' element type, unless there is no parameter at all); every accepted call gives every
parameter exactly its slice of the vector — the slices, concatenated in `parameters()` order, are the first `Σ sizes` entries and
parameter `i` receives `sizes[i]` of them (`C06_slices` is the case of an exact-length vector). -/
theorem C06_slices_exact {α : Type} (v : VecArg α) (sizes : List ℕ) :
    ((∃ gs, vectorToGradsE v sizes = .ok gs) ↔
      ∃ dt vec, v = .tensor dt vec ∧ sizes.sum ≤ vec.length ∧ (dt = .float64 ∨ sizes = [])) ∧
    (∀ gs, vectorToGradsE v sizes = .ok gs → ∃ dt vec, v = .tensor dt vec ∧ gs = vectorToGrads vec sizes ∧
      gs.flatten = vec.take sizes.sum ∧ gs.map List.length = sizes) := by
  cases v with
  | other => exact ⟨⟨fun ⟨_, h⟩ => (nomatch h), fun ⟨_, _, h, _⟩ => (nomatch h)⟩, fun _ h => (nomatch h)⟩
  | tensor dt vec =>
    rw [vectorToGradsE_tensor]
    split
    next hc =>
      refine ⟨⟨fun _ => ⟨dt, vec, rfl, hc⟩, fun _ => ⟨_, rfl⟩⟩, fun gs hgs => ?_⟩
      cases hgs
      exact ⟨dt, vec, rfl, rfl, vectorToGrads_flatten vec sizes hc.1⟩
    next hc =>
      refine ⟨⟨fun ⟨_, h⟩ => (nomatch h), fun ⟨_, _, he, h1, h2⟩ => ?_⟩, fun _ h => (nomatch h)⟩
      cases he
      exact absurd ⟨h1, h2⟩ hc

open ArgConv in
/-- **C06.2d** the silent truncation: entries of the vector beyond the total parameter count never reach a parameter — a vector that is
too LONG is accepted and gives exactly what its leading part gives (no error tells the caller that values were dropped). -/
theorem C06_slices_tail_ignored {α : Type} (vec tail : List α) (sizes : List ℕ) (h : sizes.sum ≤ vec.length) :
    vectorToGradsE (.tensor .float64 (vec ++ tail)) sizes = vectorToGradsE (.tensor .float64 vec) sizes ∧
    vectorToGradsE (.tensor .float64 vec) sizes = .ok (vectorToGrads vec sizes) := by
  rw [vectorToGradsE_tensor, vectorToGradsE_tensor, if_pos ⟨by rw [List.length_append]; omega, Or.inl rfl⟩,
    if_pos ⟨h, Or.inl rfl⟩, vectorToGrads_append vec tail sizes h]
  exact ⟨rfl, rfl⟩

open ArgConv in
/-- **C06.2e** `fit` never relies on the truncation: the flat gradient of a network (`compute_batch_gradients` returns one per network:
`effective_energy_gradient` / the positive phase in `parameters_to_vector` layout, `RBM.flatten`; every gradient record of the step
models `stepPos` / `stepCplx` / `stepDM` is such a `g`) has EXACTLY the total parameter count of that network, so the call
`vector_to_grads(all_grads[i], rbm.parameters())` is accepted, uses the vector up (`take` of the whole length) and gives the blocks
of `C06_lands_on_parameter`. -/
theorem C06_fit_vector_length (g : RBM ℝ n h) (gd : PRBM ℝ n h a) :
    g.flatten.length = (rbmSizes n h).sum ∧
    vectorToGradsE (.tensor .float64 g.flatten) (rbmSizes n h) = .ok (rbmParamGrads g) ∧
    (rbmParamGrads g).flatten = g.flatten ∧
    gd.flatten.length = (prbmSizes n h a).sum ∧
    vectorToGradsE (.tensor .float64 gd.flatten) (prbmSizes n h a) = .ok (prbmParamGrads gd) ∧
    (prbmParamGrads gd).flatten = gd.flatten := by
  have l1 : g.flatten.length = (rbmSizes n h).sum := by simp [RBM.flatten, rbmSizes]
  have l2 : gd.flatten.length = (prbmSizes n h a).sum := by simp [PRBM.flatten, prbmSizes]
  have a1 := vectorToGrads_flatten g.flatten (rbmSizes n h) (le_of_eq l1.symm)
  have a2 := vectorToGrads_flatten gd.flatten (prbmSizes n h a) (le_of_eq l2.symm)
  refine ⟨l1, (C06_slices_tail_ignored _ [] _ (le_of_eq l1.symm)).2, ?_, l2, (C06_slices_tail_ignored _ [] _ (le_of_eq l2.symm)).2, ?_⟩
  · rw [rbmParamGrads, a1.1, ← l1, List.take_length]
  · rw [prbmParamGrads, a2.1, ← l2, List.take_length]

-- the hypotheses are satisfiable and the branches distinct: exact, too long (tail dropped), too short (refused after the first
-- parameter was assigned), single-precision vector, non-tensor
example : ArgConv.vectorToGradsE (.tensor .float64 [1, 2, 3, 4, 5]) [2, 3] = .ok [[1, 2], [3, 4, 5]] := rfl
example : ArgConv.vectorToGradsE (.tensor .float64 [1, 2, 3, 4, 5, 6, 7]) [2, 3] = .ok [[1, 2], [3, 4, 5]] := rfl
example : ArgConv.vectorToGradsE (.tensor .float64 [1, 2, 3, 4]) [2, 3] = .error .RuntimeError := rfl
example : ArgConv.vectorToGradsAssigned (.tensor .float64 [1, 2, 3, 4]) [2, 3] = [[1, 2]] := rfl
example : ArgConv.vectorToGradsE (.tensor .float32 [1, 2, 3, 4, 5]) [2, 3] = .error .RuntimeError := rfl
example : ArgConv.vectorToGradsE (ArgConv.VecArg.other (α := ℕ)) [2, 3] = .error .TypeError := rfl

/-! ## The plain-SGD update, one batch and a whole run -/

/-- **C06.3a** plain SGD: every parameter moves by exactly `−lr · gradient`. -/
theorem C06_sgd_step (lr : ℝ) (p g : RBM ℝ n h) :
    (∀ i j, (sgdStep lr p g).W i j = p.W i j - lr * g.W i j)
    ∧ (∀ j, (sgdStep lr p g).b j = p.b j - lr * g.b j) ∧ (∀ i, (sgdStep lr p g).c i = p.c i - lr * g.c i) :=
  ⟨fun _ _ => rfl, fun _ => rfl, fun _ => rfl⟩

/-- **C06.3a (purification)** plain SGD on the purification RBM: every parameter (incl. `U`, `d`) moves by exactly `−lr · gradient`. -/
theorem C06_sgd_step_dm (lr : ℝ) (p g : PRBM ℝ n h a) :
    (∀ i j, (sgdStepDM lr p g).W i j = p.W i j - lr * g.W i j) ∧ (∀ k j, (sgdStepDM lr p g).U k j = p.U k j - lr * g.U k j)
    ∧ (∀ j, (sgdStepDM lr p g).b j = p.b j - lr * g.b j) ∧ (∀ i, (sgdStepDM lr p g).c i = p.c i - lr * g.c i)
    ∧ (∀ k, (sgdStepDM lr p g).d k = p.d k - lr * g.d k) :=
  ⟨fun _ _ => rfl, fun _ _ => rfl, fun _ => rfl, fun _ => rfl, fun _ => rfl⟩

/-- **C06.3b** over a whole run the parameters are the fold of single updates, batch `t`'s gradient being evaluated at
the result of all earlier updates; the number of updates is the number of batches processed. -/
theorem C06_run_unfold (lr : ℝ) (am0 : RBM ℝ n h)
    (bs : List ((Σ B : ℕ, Fin B → Fin n → ℝ) × (Σ M : ℕ, Fin M → Fin n → ℝ)))
    (b : (Σ B : ℕ, Fin B → Fin n → ℝ) × (Σ M : ℕ, Fin M → Fin n → ℝ)) :
    runPos lr am0 (bs ++ [b]) = (stepPos lr (runPos lr am0 bs) b.1.2 b.2.2).2 := by
  simp [runPos, List.foldl_append]

/-! ## The chain starts from the negative batch -/

section chain
variable {α : Type} [Add α] [Mul α] [Neg α] [Sub α] [Div α] [Zero α] [One α] [Transc α]

/-- **C06.1c** `k = 0`: no sampling at all; the chain end states ARE the negative batch and the gradient is the
positive phase minus the mean energy gradient of the negative-batch rows themselves (any carrier). -/
theorem C06_chain_zero (pp am : RBM α n h) (ppd amd : PRBM α n h a) {M : ℕ} (neg : Fin M → Fin n → Bool) :
    cdGradAm pp am 0 neg = Prog.ret (neg, batchGradAm pp am (bmat neg))
    ∧ cdGradAmDM ppd amd 0 neg = Prog.ret (neg, batchGradAmDM ppd amd (bmat neg)) := ⟨rfl, rfl⟩

/-- **C06.1d** replay: an execution of the gradient program on recorded draws is an execution of
`gibbs_steps(k, neg_batch)` (C05's batched sampler started from the negative batch) on the same draws — same
probabilities presented, same leftover — and the gradient is `batchGradAm` at the chain end states it returns
(any carrier: this is the statement the driver's Float replay instantiates). -/
theorem C06_chain_run (pp am : RBM α n h) (ppd amd : PRBM α n h a) (k : ℕ) {M : ℕ} (neg : Fin M → Fin n → Bool)
    (ds : List Bool) :
    (cdGradAm pp am k neg).run ds
        = ((am.gibbsStepsB k neg).run ds).map (fun x => ((x.1, batchGradAm pp am (bmat x.1)), x.2))
    ∧ (cdGradAmDM ppd amd k neg).run ds
        = ((amd.gibbsStepsB k neg).run ds).map (fun x => ((x.1, batchGradAmDM ppd amd (bmat x.1)), x.2)) :=
  ⟨Prog.run_map _ _ _, Prog.run_map _ _ _⟩

/-- **C06.1e** the full step programs are the `stepPos/stepCplx/stepDM` of the statements above evaluated at the end
states of the chain started from the negative batch. -/
theorem C06_chain_step [LT α] [DecidableLT α] (lr eps : α) (am ph : RBM α n h) (amd phd : PRBM α n h a) (dict : Char → M2 α)
    (D : List (Sample n)) (k : ℕ) {B M : ℕ} (pos : Fin B → Fin n → α) (neg : Fin M → Fin n → Bool) :
    cdStepPos lr am k pos neg = (am.gibbsStepsB k neg).map (fun vk => (vk, stepPos lr am pos (bmat vk)))
    ∧ cdStepCplx lr am ph dict D k neg = (am.gibbsStepsB k neg).map (fun vk => (vk, stepCplx lr am ph dict D (bmat vk)))
    ∧ cdStepDM lr eps amd phd dict D k neg
        = (amd.gibbsStepsB k neg).map (fun vk => (vk, stepDM lr eps amd phd dict D (bmat vk))) := by
  refine ⟨?_, ?_, ?_⟩ <;> simp only [cdStepPos, cdStepCplx, cdStepDM, cdGradAm, cdGradAmDM, Prog.map_map] <;> rfl

end chain

/-- **C06.1f (`C06_chain`)** the CD-`k` gradient in terms of the `k`-step chain FROM THE NEGATIVE BATCH: its expectation
(pairing with any direction `d`) is the positive phase minus the mean, over the rows `neg m` of the negative batch, of
the expectation of the energy gradient under row `neg m` of the `k`-th power of C05's Gibbs kernel.
(Composes `C06_batch_grad` with `C05_batch_law` and `C05_k_step_law`.) -/
theorem C06_chain (pp am d : RBM ℝ n h) (k : ℕ) {M : ℕ} (neg : Fin M → Fin n → Bool) :
    (cdGradAm pp am k neg).expect (fun r => r.2.pair d)
      = pp.pair d - (∑ m, ∑ w, (C05.rbmP am ^ k) (neg m) w * (am.effEnergyGrad1 (bvec w)).pair d) / M := by
  rw [cdGradAm, Prog.expect_map]
  simp only [C06_batch_grad]
  exact Prog.expect_sub_sum_div_batch _ (fun m => (C05.rbmP am ^ k) (neg m)) (C05.C05_batch_law am k neg)
    (fun _ => by simp only [← C05.C05_k_step_law, Prog.sum_law]) _ _ fun w => (am.effEnergyGrad1 (bvec w)).pair d

theorem C06_chain_prbm (pp am d : PRBM ℝ n h a) (k : ℕ) {M : ℕ} (neg : Fin M → Fin n → Bool) :
    (cdGradAmDM pp am k neg).expect (fun r => r.2.pair d)
      = pp.pair d - (∑ m, ∑ w, (C05.prbmP am ^ k) (neg m) w * (am.effEnergyGrad1 (bvec w)).pair d) / M := by
  rw [cdGradAmDM, Prog.expect_map]
  simp only [C06_batch_grad_prbm]
  exact Prog.expect_sub_sum_div_batch _ (fun m => (C05.prbmP am ^ k) (neg m)) (C05.C05_batch_law_purif am k neg)
    (fun _ => by simp only [← C05.C05_k_step_law_purif, Prog.sum_law]) _ _ fun w => (am.effEnergyGrad1 (bvec w)).pair d

/-- **C06.1g** the law of the chain end states handed to the gradient: independent chains, chain `m` distributed as row
`neg m` of `P ^ k` (so a chain started anywhere else — the positive batch, a persistent buffer — has another law). -/
theorem C06_chain_law (pp am : RBM ℝ n h) (k : ℕ) {M : ℕ} (neg : Fin M → Fin n → Bool) (g : (Fin M → Fin n → Bool) → ℝ) :
    (cdGradAm pp am k neg).expect (fun r => g r.1) = ∑ ws, (∏ m, (C05.rbmP am ^ k) (neg m) (ws m)) * g ws := by
  rw [cdGradAm, Prog.expect_map, Prog.expect_eq_sum]
  simp only [C05.C05_batch_law]

/-- **C06.1h** why the chain must start where it does: if the rows of the negative batch are distributed as the model's
reported distribution `π` (which the data approach as training converges), the expected negative phase of CD-`k` is, for
EVERY `k`, the exact negative phase `Σ_w π(w) ∇E(w)` of `compute_exact_gradients` (C03): the `k`-step kernel leaves `π`
invariant (C05_invariant_k). -/
theorem C06_chain_stationary (am d : RBM ℝ n h) (amd dd : PRBM ℝ n h a) (Z : ℝ) (k : ℕ) :
    (∑ v, C05.rbmPi am Z v * ∑ w, (C05.rbmP am ^ k) v w * (am.effEnergyGrad1 (bvec w)).pair d
        = ∑ w, C05.rbmPi am Z w * (am.effEnergyGrad1 (bvec w)).pair d)
    ∧ (∑ v, C05.prbmPi amd Z v * ∑ w, (C05.prbmP amd ^ k) v w * (amd.effEnergyGrad1 (bvec w)).pair dd
        = ∑ w, C05.prbmPi amd Z w * (amd.effEnergyGrad1 (bvec w)).pair dd) :=
  ⟨sum_mul_mulVec_of_invariant _ _ (C05.C05_invariant_k am Z k) _,
    sum_mul_mulVec_of_invariant _ _ (C05.C05_invariant_k_purif amd Z k) _⟩

/-! ## Histories and the learning-rate schedule -/

/-- **C06.3c (history)** for any update rule: the recording of the parameters after every batch has exactly one entry per
batch; entry `t` is ONE update, with batch `t`, applied to the fold of all earlier batches; that equals the fold over the
first `t + 1` batches (so the parameters before batch `t + 1` are the parameters after batch `t`); the last entry is the
result of the run. Instantiated below for the three state types. -/
theorem C06_history {P β : Type} (step : P → β → P) (p0 : P) (bs : List β) :
    (foldTrace step p0 bs).length = bs.length
    ∧ (∀ t (ht : t < bs.length),
        (foldTrace step p0 bs)[t]? = some (step (foldRun step p0 (bs.take t)) bs[t])
        ∧ (foldTrace step p0 bs)[t]? = some (foldRun step p0 (bs.take (t + 1))))
    ∧ ((foldTrace step p0 bs).getLast?).getD p0 = foldRun step p0 bs :=
  ⟨foldTrace_length step p0 bs,
   fun t ht => ⟨foldTrace_getElem? step p0 bs t ht, foldTrace_getElem?_eq_run step p0 bs t ht⟩,
   foldTrace_getLast step p0 bs⟩

/-- the driver materialises the (function-valued) parameter records into arrays after every update; any such
normalisation that is extensionally the identity leaves the trace unchanged, so what the driver computes IS `foldTrace` -/
theorem C06_trace_norm {P β : Type} (step : P → β → P) (norm : P → P) (hnorm : ∀ p, norm p = p) (p0 : P) (bs : List β) :
    foldTrace (fun p b => norm (step p b)) p0 bs = foldTrace step p0 bs := by
  have : (fun p b => norm (step p b)) = step := by funext p b; exact hnorm _
  rw [this]

/-- the run of the positive state (`runPos`, `C06_run_unfold`) is this fold with the constant learning rate -/
theorem C06_runPos_fold (lr : ℝ) (am0 : RBM ℝ n h) (bs : List (PosBatch ℝ n)) :
    runPos lr am0 bs = foldRun updPos am0 (bs.map fun b => (lr, b)) := by
  simp only [runPos, foldRun, List.foldl_map, updPos]

/-- **C06.3d** whole runs of the complex and the mixed state: batch `t`'s gradients (amplitude AND phase network) are
evaluated at the result of all earlier updates of BOTH networks; one update per batch. -/
theorem C06_run_unfold_cplx (lr : ℝ) (dict : Char → M2 ℝ) (am0 ph0 : RBM ℝ n h) (bs : List (SmpBatch ℝ n))
    (b : SmpBatch ℝ n) :
    runCplx lr dict am0 ph0 (bs ++ [b])
        = (stepCplx lr (runCplx lr dict am0 ph0 bs).1 (runCplx lr dict am0 ph0 bs).2 dict b.1 b.2.2).2
    ∧ (foldTrace (updCplx dict) (am0, ph0) ((bs ++ [b]).map fun x => (lr, x))).length = bs.length + 1 := by
  refine ⟨?_, by simp [foldTrace_length]⟩
  simp only [runCplx, List.map_append, List.map_cons, List.map_nil, foldRun_append]
  rfl

theorem C06_run_unfold_dm (lr eps : ℝ) (dict : Char → M2 ℝ) (am0 ph0 : PRBM ℝ n h a) (bs : List (SmpBatch ℝ n))
    (b : SmpBatch ℝ n) :
    runDM lr eps dict am0 ph0 (bs ++ [b])
        = (stepDM lr eps (runDM lr eps dict am0 ph0 bs).1 (runDM lr eps dict am0 ph0 bs).2 dict b.1 b.2.2).2
    ∧ (foldTrace (updDM dict eps) (am0, ph0) ((bs ++ [b]).map fun x => (lr, x))).length = bs.length + 1 := by
  refine ⟨?_, by simp [foldTrace_length]⟩
  simp only [runDM, List.map_append, List.map_cons, List.map_nil, foldRun_append]
  rfl

/-- **C06.4a** the learning rate in force: every batch of epoch `i` (0-based within one `fit` call) is processed with the
rate obtained after exactly `i` scheduler steps — the scheduler is advanced once per epoch, after the epoch's batches —
and the run has one update per batch of every epoch. -/
theorem C06_scheduler_lr {β : Type} (next : ℕ → ℝ → ℝ) (lr0 : ℝ) (epochs : List (List β)) :
    tagEpochs next lr0 0 epochs
        = (List.range epochs.length).flatMap (fun i => (epochs.getD i []).map fun b => (lrAfter next lr0 i, b))
    ∧ (tagEpochs next lr0 0 epochs).length = (epochs.map List.length).sum := by
  refine ⟨?_, tagEpochs_length next lr0 0 epochs⟩
  have := tagEpochs_eq next lr0 0 epochs
  simpa [lrAfter] using this

/-- **C06.4b** `StepLR(step_size = s, gamma)`: after `e` epochs the rate is `lr · gamma ^ ⌊e / s⌋` (`s = 1`: `lr · gamma ^ e`);
without a scheduler it stays `lr`. -/
theorem C06_steplr (gamma lr0 : ℝ) (s e : ℕ) :
    lrAfter (stepLRNext gamma s) lr0 e = lr0 * gamma ^ (e / s)
    ∧ lrAfter (stepLRNext gamma 1) lr0 e = lr0 * gamma ^ e
    ∧ lrAfter noSched lr0 e = lr0 := by
  refine ⟨lrAfter_stepLR gamma lr0 s e, ?_, ?_⟩
  · simpa using lrAfter_stepLR gamma lr0 1 e
  · induction e with
    | zero => rfl
    | succ e ih => simpa [lrAfter, noSched] using ih

/-- **C06.4c** whole `fit` calls: one recorded update per batch of every epoch, for the three state types. -/
theorem C06_fit_trace_length (next : ℕ → ℝ → ℝ) (lr0 eps : ℝ) (dict : Char → M2 ℝ) (am0 ph0 : RBM ℝ n h)
    (amd phd : PRBM ℝ n h a) (ep : List (List (PosBatch ℝ n))) (es : List (List (SmpBatch ℝ n))) :
    (fitTracePos next lr0 am0 ep).length = (ep.map List.length).sum
    ∧ (fitTraceCplx next lr0 dict am0 ph0 es).length = (es.map List.length).sum
    ∧ (fitTraceDM next lr0 eps dict amd phd es).length = (es.map List.length).sum := by
  simp only [fitTracePos, fitTraceCplx, fitTraceDM, foldTrace_length, tagEpochs_length, and_self]

/-! ## The scheduler in runs that are cut short; call forms -/

/-- **C06.4d** the learning rate LEFT in the optimizer (and the scheduler's step count) when `fit` returns: for ANY list of entered
epochs — full ones, ones cut short by a stop request after `m ≥ 0` batches — the rate is the one after exactly `epochs.length`
scheduler steps and the scheduler has been stepped `epochs.length` times: once per entered epoch, independently of how many batches
the epoch processed. Under `StepLR(s, gamma)`: `lr · gamma ^ ⌊E / s⌋`. (An implementation that skips `scheduler.step()` in the epoch in
which a stop was requested leaves `lrAfter … (E − 1)` instead.) -/
theorem C06_final_lr {β : Type} (next : ℕ → ℝ → ℝ) (gamma lr0 : ℝ) (s : ℕ) (epochs : List (List β)) :
    lrEnd next lr0 0 epochs = lrAfter next lr0 epochs.length
    ∧ schedSteps epochs = epochs.length
    ∧ lrEnd (stepLRNext gamma s) lr0 0 epochs = lr0 * gamma ^ (epochs.length / s)
    ∧ lrEnd noSched lr0 0 epochs = lr0 := by
  have h := fun nx => lrEnd_eq (β := β) nx lr0 0 epochs
  simp only [lrAfter, Nat.zero_add] at h
  exact ⟨h next, schedSteps_eq epochs, by rw [h, (C06_steplr gamma lr0 s epochs.length).1],
    by rw [h, (C06_steplr gamma lr0 s epochs.length).2.2]⟩

/-- the final rate is consistent with the per-batch tagging: a further epoch appended to the run would be processed with exactly the
rate `lrEnd` reports (so `lrEnd` IS the rate "in force after the run") -/
theorem C06_final_lr_next_epoch {β : Type} (next : ℕ → ℝ → ℝ) (lr0 : ℝ) (epochs : List (List β)) (bs : List β) :
    tagEpochs next lr0 0 (epochs ++ [bs]) = tagEpochs next lr0 0 epochs ++ bs.map fun b => (lrEnd next lr0 0 epochs, b) := by
  have key : ∀ (lr : ℝ) (e : ℕ), tagEpochs next lr e (epochs ++ [bs])
      = tagEpochs next lr e epochs ++ bs.map fun b => (lrEnd next lr e epochs, b) := by
    induction epochs with
    | nil => intro lr e; simp [tagEpochs, lrEnd]
    | cons x rest ih => intro lr e; simp only [List.cons_append, tagEpochs, lrEnd, ih, List.append_assoc]
  exact key lr0 0

/-- **C06.5 (call forms)** `k`, `lr`, `optimizer`, `optimizer_args`, `scheduler`, `scheduler_args` (and every other documented parameter)
given POSITIONALLY in the documented order mean what the keyword call means: the values this property speaks about (number of Gibbs
steps, learning rate, scheduler) are those the caller wrote at the documented positions. Same statement as `C07_positional_call`. -/
theorem C06_positional_call (hasBases : Bool) (ps₁ ps₂ : List String) (hsig : CallForm.fitParams hasBases = ps₁ ++ ps₂)
    (vs₁ : List CallForm.Arg) (hlen : vs₁.length = ps₁.length) (kw : List (String × CallForm.Arg))
    (hkw : ∀ p ∈ ps₁, CallForm.kwLookup kw p = none) :
    CallForm.fitBind hasBases vs₁ kw = CallForm.fitBind hasBases [] (ps₁.zip vs₁ ++ kw)
    ∧ ∀ r, CallForm.fitBind hasBases vs₁ kw = .ok r →
        (∀ p v, (p, v) ∈ ps₁.zip vs₁ → CallForm.bound r p = some v)
        ∧ (∀ p ∈ ps₂, CallForm.bound r p = CallForm.kwOrDefault CallForm.fitDefault kw p)
        ∧ (hasBases = false → CallForm.bound r "input_bases" = some CallForm.Arg.none) :=
  CallForm.fitBind_positional hasBases ps₁ ps₂ hsig vs₁ hlen kw hkw

/-- non-vacuity: a concrete step with `|neg| ≠ |pos|` -/
example : let am : RBM ℝ 2 1 := ⟨fun _ _ => 0.5, fun _ => -0.25, fun _ => 1⟩
    ∀ d, (batchGradAm (positivePhasePos am (fun (_ : Fin 3) _ => 1)) am (fun (_ : Fin 2) _ => 0)).pair d
      = (positivePhasePos am (fun (_ : Fin 3) _ => 1)).pair d
        - (∑ m : Fin 2, (am.effEnergyGrad1 (fun _ => 0)).pair d) / (2 : ℕ) := by
  intro am d; exact C06_batch_grad _ _ _ _

/-- non-vacuity of the schedule: 3 epochs of 2, 0 and 1 batches under `StepLR(1, 1/2)` from `lr = 8` -/
example : tagEpochs (stepLRNext (1 / 2 : ℚ) 1) 8 0 [["a", "b"], [], ["c"]] = [(8, "a"), (8, "b"), (2, "c")] := by
  norm_num [tagEpochs, stepLRNext]

/-- non-vacuity of the trace: integer "parameters", update = add the batch -/
example : foldTrace (fun (p : ℤ) (b : ℤ) => p + b) 10 [1, 2, 3] = [11, 13, 16] := rfl

/-- non-vacuity of the final rate: 3 entered epochs, the last cut short after one batch, `StepLR(1, 1/2)` from `lr = 8`: the optimizer is
left with `8 · (1/2)^3 = 1` (an implementation skipping the step of the cut-short epoch would leave 2) -/
example : lrEnd (β := String) (stepLRNext (1 / 2 : ℚ) 1) 8 0 [["a", "b"], ["c", "d"], ["e"]] = 1 := by
  norm_num [lrEnd, stepLRNext]

/-- `fit(data, 3, 4, 2, 1, lr)` on a complex state: `k = 1`, `lr` the sixth argument, `input_bases` the seventh -/
example : (CallForm.fitBind true [.ref 7, .int 3, .int 4, .int 2, .int 1, .ref 8, .ref 9] []).toOption.map
      (fun r => (CallForm.bound r "k", CallForm.bound r "lr", CallForm.bound r "input_bases", CallForm.bound r "optimizer"))
    = some (some (.int 1), some (.ref 8), some (.ref 9), some (.ref CallForm.refDefaultOptimizer)) := by decide +kernel


end QV.Props
