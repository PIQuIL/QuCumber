/-
C05 — Gibbs sampling targets exactly the distribution the model reports.

"The k-step block-Gibbs transition that sampling performs leaves the model's reported
basis-state distribution invariant (it satisfies detailed balance with it), for plain and
purification RBMs alike: each step draws every hidden (and auxiliary) unit from its exact
conditional given the current visible state and then every visible unit from its exact
conditional given those draws. Samples are 0/1 arrays of the requested shape whose k-step law
from any start state is the k-th power of that kernel, the caller's start state is left
untouched unless overwriting was requested, and then it is updated in place."

All theorems: ∀ n h a, ∀ real parameters, ∀ states `Fin n → Bool`, ∀ k, ∀ batch sizes.
Model definitions: `QV.Model.Prob` (`Prog`, `law`, `run`, `flipVec`, `flipMat`, `RBM.gibbsStep(s)(B)`,
`PRBM.gibbsStep(s)(B)`, `sampleFrom`, `gibbsCall(F)`; for sections 9-10 the one-step samplers `sampleCall`, `gibbsStepBuf` and
the recorded call pattern `callShapes`) on top of `QV.Model.Rbm` (`probH`, `probV`, `probA`,
`effEnergy`, `effEnergyAux`) and `QV.Model.States` (`probability`); the SAME terms are replayed by the
driver (`run`, over Float) on executions recorded from the real `gibbs_steps` / `sample`. Section 8 is about the conditionals as
decorated by `auto_unsqueeze_args` (`QV.Model.CallShape`: `probHGivenV`, …, `probVGivenHA`; specification `CallFormsAgree` of
`QV.Lemmas.CallShape`). Trusted, not proved: that `torch.bernoulli` draws entry `i` as Bernoulli(`p i`), independently.

Specification side (this file): the joint Boltzmann weights `rbmJoint`, `prbmJoint`, the reported
distribution `rbmPi`/`prbmPi` (= the model of `NeuralStateBase.probability`), and the transition
matrices `rbmP`/`prbmP` as Mathlib matrices (so "k-th power" is `Matrix` `^ k`, invariance is `ᵥ*`).
-/
import Mathlib.Data.Matrix.Mul
import Mathlib.Algebra.BigOperators.Field
import QV.Model.Prob
import QV.Model.States
import QV.Lemmas.Prob
import QV.Lemmas.Gibbs
import QV.Lemmas.PyFlag
import QV.Lemmas.CallShape
import QV.Lemmas.DrawCount

namespace QV.Props
namespace C05
open QV Finset Prog Matrix

variable {n h a : ℕ}

/-! ## Specification -/

/-- joint Boltzmann weight `exp(-E(v,h))` of a `BinaryRBM`, `E(v,h) = -(b·v + c·h + hᵀ W v)` -/
noncomputable def rbmJoint (r : RBM ℝ n h) (v : Fin n → Bool) (hid : Fin h → Bool) : ℝ :=
  Real.exp (∑ j, bit (v j) * r.b j + ∑ i, bit (hid i) * r.c i
    + ∑ i, ∑ j, bit (hid i) * r.W i j * bit (v j))

/-- joint Boltzmann weight of a `PurificationRBM`,
`E(v,h,a) = -(b·v + c·h + d·a + hᵀ W v + aᵀ U v)` -/
noncomputable def prbmJoint (r : PRBM ℝ n h a) (v : Fin n → Bool) (hid : Fin h → Bool)
    (aux : Fin a → Bool) : ℝ :=
  Real.exp (∑ j, bit (v j) * r.b j + ∑ i, bit (hid i) * r.c i + ∑ k, bit (aux k) * r.d k
    + ∑ i, ∑ j, bit (hid i) * r.W i j * bit (v j) + ∑ k, ∑ j, bit (aux k) * r.U k j * bit (v j))

/-- the distribution a wavefunction state REPORTS for basis state `v`: `probability(v, Z)` -/
noncomputable def rbmPi (r : RBM ℝ n h) (Z : ℝ) (v : Fin n → Bool) : ℝ := Wave.probability r (bvec v) Z

/-- the distribution a density-matrix state reports: `probability(v, Z)` -/
noncomputable def prbmPi (r : PRBM ℝ n h a) (Z : ℝ) (v : Fin n → Bool) : ℝ :=
  Density.probability r (bvec v) Z

/-- one-pass transition matrix of the sampler: `P v v' = law (gibbsStep v) v'` -/
noncomputable def rbmP (r : RBM ℝ n h) : Matrix (Fin n → Bool) (Fin n → Bool) ℝ := kernelOf r.gibbsStep
noncomputable def prbmP (r : PRBM ℝ n h a) : Matrix (Fin n → Bool) (Fin n → Bool) ℝ :=
  kernelOf r.gibbsStep

/-- mass of a vector of independent Bernoullis with success probabilities `p` at outcome `t` -/
noncomputable def bernVec {m : ℕ} (p : Fin m → ℝ) (t : Fin m → Bool) : ℝ := ∏ i, bern (p i) (t i)

/-! ## 1. conditionals -/

/-- **C05.1a** `clamp_(0,1)` is the identity on a sigmoid; every conditional the sampler presents is
`σ(pre-activation)`, strictly between 0 and 1. -/
theorem C05_clamp_id (x : ℝ) :
    clamp01 (sigmoid x : ℝ) = sigmoid x ∧ 0 < (sigmoid x : ℝ) ∧ (sigmoid x : ℝ) < 1 :=
  ⟨clamp01_sigmoid x, sigmoid_pos x, sigmoid_lt_one x⟩

theorem C05_clamp_id_conditionals (r : RBM ℝ n h) (q : PRBM ℝ n h a) (v : Fin n → ℝ) (hid : Fin h → ℝ)
    (aux : Fin a → ℝ) :
    (∀ i, r.probH v i = sigmoid (∑ j, v j * r.W i j + r.c i))
    ∧ (∀ j, r.probV hid j = sigmoid (∑ i, hid i * r.W i j + r.b j))
    ∧ (∀ i, q.probH v i = sigmoid (∑ j, v j * q.W i j + q.c i))
    ∧ (∀ k, q.probA v k = sigmoid (∑ j, v j * q.U k j + q.d k))
    ∧ (∀ j, q.probV hid aux j = sigmoid (∑ i, hid i * q.W i j + q.b j + ∑ k, aux k * q.U k j)) := by
  simp only [RBM.probH, RBM.probV, RBM.preact, PRBM.probH, PRBM.probA, PRBM.probV, PRBM.preactH, PRBM.preactA,
    clamp01_sigmoid, sumFin_eq, implies_true, and_self]

theorem sum_bernVec {m : ℕ} (p : Fin m → ℝ) : ∑ t, bernVec p t = 1 := by
  simp only [bernVec, ← law_flipVec, sum_law]

theorem bernVec_sigmoid_pos {m : ℕ} (x : Fin m → ℝ) (t : Fin m → Bool) :
    0 < bernVec (fun i => clamp01 (sigmoid (x i))) t :=
  Finset.prod_pos fun i _ => by rw [bern_sigmoid_factor]; positivity

/-- **C05.1b** `prob_h_given_v` is the exact conditional of the joint weight:
`J(v,h) = π(v) · Π_i Bern(probH v i)(h_i)` with `π(v) = probability(v, 1)`. -/
theorem C05_cond_h (r : RBM ℝ n h) (v : Fin n → Bool) (hid : Fin h → Bool) :
    rbmJoint r v hid = rbmPi r 1 v * bernVec (r.probH (bvec v)) hid := by
  simp only [rbmPi, Wave.probability, transc_exp, div_one, bernVec, RBM.probH]
  rw [RBM.exp_neg_effEnergy, mul_assoc, ← exp_bits_eq_mul_prod_bern, ← Real.exp_add, rbmJoint]
  simp only [RBM.preact, sumFin_eq, bvec, mul_add, Finset.sum_add_distrib, sum_mul_sum_rows]
  congr 1
  ring

/-- the joint weight with the visible units' share of the exponent collected per unit -/
private theorem rbm_vsum (r : RBM ℝ n h) (v : Fin n → Bool) (hid : Fin h → Bool) :
    rbmJoint r v hid = Real.exp (∑ i, bit (hid i) * r.c i)
      * Real.exp (∑ j, bit (v j) * (∑ i, bit (hid i) * r.W i j + r.b j)) := by
  rw [rbmJoint, ← Real.exp_add]
  simp only [mul_add, Finset.sum_add_distrib, sum_mul_sum_cols]
  congr 1
  ring

/-- **C05.1c** `prob_v_given_h` is the exact conditional of the joint weight:
`J(v,h) = (Σ_v' J(v',h)) · Π_j Bern(probV h j)(v_j)`. -/
theorem C05_cond_v (r : RBM ℝ n h) (v : Fin n → Bool) (hid : Fin h → Bool) :
    rbmJoint r v hid = (∑ v', rbmJoint r v' hid) * bernVec (r.probV (bvec hid)) v := by
  simp only [rbm_vsum, ← Finset.mul_sum, sum_exp_bits, bernVec, RBM.probV, sumFin_eq, bvec]
  rw [mul_assoc, ← exp_bits_eq_mul_prod_bern]

/-- **C05.1d** the reported probability is the hidden marginal of the joint weight. -/
theorem C05_joint_marginal (r : RBM ℝ n h) (v : Fin n → Bool) :
    ∑ hid, rbmJoint r v hid = rbmPi r 1 v := by
  simp only [C05_cond_h, ← Finset.mul_sum, sum_bernVec, mul_one]

/-- **C05.1b (purification)** `prob_h_given_v` and `prob_a_given_v` are the exact (conditionally
independent) conditionals: `J(v,h,a) = π(v) · Π_i Bern(probH v i)(h_i) · Π_k Bern(probA v k)(a_k)`. -/
theorem C05_cond_ha (r : PRBM ℝ n h a) (v : Fin n → Bool) (hid : Fin h → Bool) (aux : Fin a → Bool) :
    prbmJoint r v hid aux
      = prbmPi r 1 v * (bernVec (r.probH (bvec v)) hid * bernVec (r.probA (bvec v)) aux) := by
  simp only [prbmPi, Density.probability, transc_exp, div_one, bernVec, PRBM.probH, PRBM.probA]
  rw [PRBM.exp_neg_effEnergy, mul_mul_mul_comm, mul_assoc (Real.exp _), ← exp_bits_eq_mul_prod_bern,
    ← exp_bits_eq_mul_prod_bern, ← Real.exp_add, ← Real.exp_add, prbmJoint]
  simp only [PRBM.preactH, PRBM.preactA, sumFin_eq, bvec, mul_add, Finset.sum_add_distrib, sum_mul_sum_rows]
  congr 1
  ring

private theorem prbm_vsum (r : PRBM ℝ n h a) (v : Fin n → Bool) (hid : Fin h → Bool) (aux : Fin a → Bool) :
    prbmJoint r v hid aux = Real.exp (∑ i, bit (hid i) * r.c i + ∑ k, bit (aux k) * r.d k)
      * Real.exp (∑ j, bit (v j) * (∑ i, bit (hid i) * r.W i j + r.b j + ∑ k, bit (aux k) * r.U k j)) := by
  rw [prbmJoint, ← Real.exp_add]
  simp only [mul_add, Finset.sum_add_distrib, sum_mul_sum_cols]
  congr 1
  ring

/-- **C05.1c (purification)** `prob_v_given_ha` is the exact conditional:
`J(v,h,a) = (Σ_v' J(v',h,a)) · Π_j Bern(probV h a j)(v_j)`. -/
theorem C05_cond_v_purif (r : PRBM ℝ n h a) (v : Fin n → Bool) (hid : Fin h → Bool)
    (aux : Fin a → Bool) :
    prbmJoint r v hid aux
      = (∑ v', prbmJoint r v' hid aux) * bernVec (r.probV (bvec hid) (bvec aux)) v := by
  simp only [prbm_vsum, ← Finset.mul_sum, sum_exp_bits, bernVec, PRBM.probV, sumFin_eq, bvec]
  rw [mul_assoc, ← exp_bits_eq_mul_prod_bern]

/-- **C05.1d (purification)** the reported probability is the (hidden, auxiliary)-marginal of the
joint weight, and the public two-argument `effective_energy(v, a)` is its hidden marginal. -/
theorem C05_joint_marginal_purif (r : PRBM ℝ n h a) (v : Fin n → Bool) :
    (∑ hid, ∑ aux, prbmJoint r v hid aux = prbmPi r 1 v)
    ∧ ∀ aux : Fin a → Bool,
        ∑ hid, prbmJoint r v hid aux = Real.exp (-(r.effEnergyAux (bvec v) (bvec aux))) := by
  constructor
  · simp only [C05_cond_ha, ← Finset.mul_sum, sum_bernVec, mul_one]
  · intro aux
    -- summing the hidden units out of `π(v) · p(h|v) · p(a|v)` leaves `π(v) · p(a|v)`, which is the weight with `h` traced out
    simp only [C05_cond_ha, ← Finset.mul_sum, ← Finset.sum_mul, sum_bernVec, one_mul]
    simp only [prbmPi, Density.probability, transc_exp, div_one, bernVec, PRBM.probA]
    rw [PRBM.exp_neg_effEnergyAux, PRBM.exp_neg_effEnergy, mul_assoc, ← exp_bits_eq_mul_prod_bern]
    simp only [PRBM.preactA, sumFin_eq, bvec, mul_add, Finset.sum_add_distrib, sum_mul_sum_rows]
    rw [add_comm]

/-! ## 2. the kernel -/

/-- **C05.2** the one-pass transition probability is `Σ_h p(h|v) p(v'|h)`; entries are ≥ 0 and
every row sums to 1. -/
theorem C05_kernel (r : RBM ℝ n h) (v v' : Fin n → Bool) :
    rbmP r v v' = ∑ hid : Fin h → Bool,
        bernVec (r.probH (bvec v)) hid * bernVec (r.probV (bvec hid)) v'
    ∧ 0 ≤ rbmP r v v' ∧ ∑ w, rbmP r v w = 1 := by
  have hk : rbmP r v v' = ∑ hid : Fin h → Bool,
      bernVec (r.probH (bvec v)) hid * bernVec (r.probV (bvec hid)) v' := by
    simp only [rbmP, kernelOf, Matrix.of_apply, RBM.gibbsStep, law_bind, law_flipVec, bernVec]
  refine ⟨hk, ?_, ?_⟩
  · rw [hk]
    exact Finset.sum_nonneg fun hid _ => (mul_pos (bernVec_sigmoid_pos _ _) (bernVec_sigmoid_pos _ _)).le
  · simp only [rbmP, kernelOf, Matrix.of_apply, sum_law]

/-- **C05.2 (purification)** `P(v,v') = Σ_{h,a} p(h|v) p(a|v) p(v'|h,a)`; entries ≥ 0, rows sum to 1. -/
theorem C05_kernel_purif (r : PRBM ℝ n h a) (v v' : Fin n → Bool) :
    prbmP r v v' = ∑ hid : Fin h → Bool, ∑ aux : Fin a → Bool,
        bernVec (r.probH (bvec v)) hid * bernVec (r.probA (bvec v)) aux
          * bernVec (r.probV (bvec hid) (bvec aux)) v'
    ∧ 0 ≤ prbmP r v v' ∧ ∑ w, prbmP r v w = 1 := by
  have hk : prbmP r v v' = ∑ hid : Fin h → Bool, ∑ aux : Fin a → Bool,
        bernVec (r.probH (bvec v)) hid * bernVec (r.probA (bvec v)) aux
          * bernVec (r.probV (bvec hid) (bvec aux)) v' := by
    simp only [prbmP, kernelOf, Matrix.of_apply, PRBM.gibbsStep, law_bind, law_flipVec, bernVec,
      Finset.mul_sum, mul_assoc]
  refine ⟨hk, ?_, ?_⟩
  · rw [hk]
    exact Finset.sum_nonneg fun hid _ => Finset.sum_nonneg fun aux _ =>
      (mul_pos (mul_pos (bernVec_sigmoid_pos _ _) (bernVec_sigmoid_pos _ _)) (bernVec_sigmoid_pos _ _)).le
  · simp only [prbmP, kernelOf, Matrix.of_apply, sum_law]

/-- **C05.2'** every transition has strictly positive probability and the reported weights are strictly
positive (so detailed balance is never the trivial `0 = 0`, and the chain is irreducible and aperiodic). -/
theorem C05_kernel_pos (r : RBM ℝ n h) (q : PRBM ℝ n h a) (v v' : Fin n → Bool) :
    0 < rbmP r v v' ∧ 0 < prbmP q v v' ∧ 0 < rbmPi r 1 v ∧ 0 < prbmPi q 1 v := by
  refine ⟨?_, ?_, ?_, ?_⟩
  · rw [(C05_kernel r v v').1]
    exact Finset.sum_pos (fun hid _ => mul_pos (bernVec_sigmoid_pos _ _) (bernVec_sigmoid_pos _ _))
      Finset.univ_nonempty
  · rw [(C05_kernel_purif q v v').1]
    exact Finset.sum_pos (fun hid _ => Finset.sum_pos (fun aux _ =>
      mul_pos (mul_pos (bernVec_sigmoid_pos _ _) (bernVec_sigmoid_pos _ _)) (bernVec_sigmoid_pos _ _))
      Finset.univ_nonempty) Finset.univ_nonempty
  · simp only [rbmPi, Wave.probability, transc_exp, div_one]; exact Real.exp_pos _
  · simp only [prbmPi, Density.probability, transc_exp, div_one]; exact Real.exp_pos _

/-! ## 3. detailed balance and invariance -/

private theorem rbmPi_div (r : RBM ℝ n h) (Z : ℝ) (v : Fin n → Bool) : rbmPi r Z v = rbmPi r 1 v / Z := by
  simp [rbmPi, Wave.probability]

private theorem prbmPi_div (r : PRBM ℝ n h a) (Z : ℝ) (v : Fin n → Bool) : prbmPi r Z v = prbmPi r 1 v / Z := by
  simp [prbmPi, Density.probability]

/-- **C05.3a** detailed balance of the sampler's kernel with the reported distribution
(any normalisation `Z`, in particular `Z = 1` and `Z = normalization`). -/
theorem C05_detailed_balance (r : RBM ℝ n h) (Z : ℝ) (v v' : Fin n → Bool) :
    rbmPi r Z v * rbmP r v v' = rbmPi r Z v' * rbmP r v' v := by
  have key := kernel_detailed_balance (rbmJoint r) (rbmPi r 1) (fun hid => ∑ w, rbmJoint r w hid)
    (fun v hid => bernVec (r.probH (bvec v)) hid) (fun hid v => bernVec (r.probV (bvec hid)) v)
    (C05_cond_h r) (C05_cond_v r) v v'
  rw [(C05_kernel r v v').1, (C05_kernel r v' v).1, rbmPi_div r Z v, rbmPi_div r Z v', div_mul_eq_mul_div,
    div_mul_eq_mul_div, key]

theorem C05_detailed_balance_purif (r : PRBM ℝ n h a) (Z : ℝ) (v v' : Fin n → Bool) :
    prbmPi r Z v * prbmP r v v' = prbmPi r Z v' * prbmP r v' v := by
  have key := kernel_detailed_balance (Hd := (Fin h → Bool) × (Fin a → Bool))
    (fun v x => prbmJoint r v x.1 x.2) (prbmPi r 1) (fun x => ∑ w, prbmJoint r w x.1 x.2)
    (fun v x => bernVec (r.probH (bvec v)) x.1 * bernVec (r.probA (bvec v)) x.2)
    (fun x v => bernVec (r.probV (bvec x.1) (bvec x.2)) v)
    (fun v x => C05_cond_ha r v x.1 x.2) (fun v x => C05_cond_v_purif r v x.1 x.2) v v'
  simp only [Fintype.sum_prod_type] at key
  rw [(C05_kernel_purif r v v').1, (C05_kernel_purif r v' v).1, prbmPi_div r Z v, prbmPi_div r Z v',
    div_mul_eq_mul_div, div_mul_eq_mul_div, key]

/-- **C05.3b** the reported distribution is invariant under one pass: `π P = π`. -/
theorem C05_invariant (r : RBM ℝ n h) (Z : ℝ) : rbmPi r Z ᵥ* rbmP r = rbmPi r Z :=
  vecMul_eq_of_detailed_balance _ _ (C05_detailed_balance r Z) fun v => (C05_kernel r v v).2.2

theorem C05_invariant_purif (r : PRBM ℝ n h a) (Z : ℝ) : prbmPi r Z ᵥ* prbmP r = prbmPi r Z :=
  vecMul_eq_of_detailed_balance _ _ (C05_detailed_balance_purif r Z) fun v => (C05_kernel_purif r v v).2.2

/-! ## 4. k passes -/

/-- **C05.4a** the law of `gibbs_steps(k, v₀)` is row `v₀` of the `k`-th matrix power of the kernel
(`k = 0`: the start state itself). -/
theorem C05_k_step_law (r : RBM ℝ n h) (k : ℕ) (v₀ w : Fin n → Bool) :
    (r.gibbsSteps k v₀).law w = (rbmP r ^ k) v₀ w := law_iter _ k v₀ w

theorem C05_k_step_law_purif (r : PRBM ℝ n h a) (k : ℕ) (v₀ w : Fin n → Bool) :
    (r.gibbsSteps k v₀).law w = (prbmP r ^ k) v₀ w := law_iter _ k v₀ w

theorem C05_zero_steps (r : RBM ℝ n h) (q : PRBM ℝ n h a) (v₀ : Fin n → Bool) :
    r.gibbsSteps 0 v₀ = Prog.ret v₀ ∧ q.gibbsSteps 0 v₀ = Prog.ret v₀
    ∧ ∀ w, (r.gibbsSteps 0 v₀).law w = if v₀ = w then 1 else 0 := ⟨rfl, rfl, fun _ => rfl⟩

/-- **C05.4b** the reported distribution is invariant under `k` passes, and the `k`-pass kernel
satisfies detailed balance with it. -/
theorem C05_invariant_k (r : RBM ℝ n h) (Z : ℝ) (k : ℕ) : rbmPi r Z ᵥ* rbmP r ^ k = rbmPi r Z :=
  vecMul_pow_of_invariant _ _ (C05_invariant r Z) k

theorem C05_invariant_k_purif (r : PRBM ℝ n h a) (Z : ℝ) (k : ℕ) :
    prbmPi r Z ᵥ* prbmP r ^ k = prbmPi r Z :=
  vecMul_pow_of_invariant _ _ (C05_invariant_purif r Z) k

/-- in sampler terms: starting from the reported distribution, `k` passes return it:
`Σ_v π(v) · law (gibbsSteps k v) w = π(w)` -/
theorem C05_invariant_k_law (r : RBM ℝ n h) (q : PRBM ℝ n h a) (Z : ℝ) (k : ℕ) (w : Fin n → Bool) :
    ∑ v, rbmPi r Z v * (r.gibbsSteps k v).law w = rbmPi r Z w
    ∧ ∑ v, prbmPi q Z v * (q.gibbsSteps k v).law w = prbmPi q Z w := by
  simp only [C05_k_step_law, C05_k_step_law_purif]
  exact ⟨congrFun (C05_invariant_k r Z k) w, congrFun (C05_invariant_k_purif q Z k) w⟩

theorem C05_detailed_balance_k (r : RBM ℝ n h) (q : PRBM ℝ n h a) (Z : ℝ) (k : ℕ) (v w : Fin n → Bool) :
    rbmPi r Z v * (r.gibbsSteps k v).law w = rbmPi r Z w * (r.gibbsSteps k w).law v
    ∧ prbmPi q Z v * (q.gibbsSteps k v).law w = prbmPi q Z w * (q.gibbsSteps k w).law v := by
  simp only [C05_k_step_law, C05_k_step_law_purif]
  exact ⟨detailed_balance_pow _ _ (C05_detailed_balance r Z) k v w,
    detailed_balance_pow _ _ (C05_detailed_balance_purif q Z) k v w⟩

/-- **C05.4c** chains continued across calls: `k₁` passes followed by `k₂` passes from the result is
THE SAME PROGRAM as `k₁ + k₂` passes (hence same law, same replay). -/
theorem C05_continue (r : RBM ℝ n h) (q : PRBM ℝ n h a) (k₁ k₂ : ℕ) (v : Fin n → Bool) :
    (r.gibbsSteps k₁ v).bind (r.gibbsSteps k₂) = r.gibbsSteps (k₁ + k₂) v
    ∧ (q.gibbsSteps k₁ v).bind (q.gibbsSteps k₂) = q.gibbsSteps (k₁ + k₂) v :=
  ⟨iter_add _ k₁ k₂ v, iter_add _ k₁ k₂ v⟩

theorem C05_continue_law (r : RBM ℝ n h) (k₁ k₂ : ℕ) (v w : Fin n → Bool) :
    ((r.gibbsSteps k₁ v).bind (r.gibbsSteps k₂)).law w = (rbmP r ^ (k₁ + k₂)) v w
    ∧ ((r.gibbsSteps k₁ v).bind (r.gibbsSteps k₂)).law w
        = ∑ u, (rbmP r ^ k₁) v u * (rbmP r ^ k₂) u w := by
  constructor
  · have e := iter_add r.gibbsStep k₁ k₂ v
    show ((iter r.gibbsStep k₁ v).bind (iter r.gibbsStep k₂)).law w = _
    rw [e]
    exact C05_k_step_law r (k₁ + k₂) v w
  · simp only [law_bind, C05_k_step_law]

/-- the same for batches of chains (`B` rows) -/
theorem C05_continue_batch (r : RBM ℝ n h) (q : PRBM ℝ n h a) {B : ℕ} (k₁ k₂ : ℕ)
    (vs : Fin B → Fin n → Bool) :
    (r.gibbsStepsB k₁ vs).bind (r.gibbsStepsB k₂) = r.gibbsStepsB (k₁ + k₂) vs
    ∧ (q.gibbsStepsB k₁ vs).bind (q.gibbsStepsB k₂) = q.gibbsStepsB (k₁ + k₂) vs :=
  ⟨iter_add _ k₁ k₂ vs, iter_add _ k₁ k₂ vs⟩

/-! ## 5. batches, start state, values and shapes -/

/-- **C05.5a** a batch of `B` chains (one `torch.bernoulli` call per conditional for the whole batch)
consists of independent chains, each following the `k`-th power of the kernel. -/
theorem C05_batch_law (r : RBM ℝ n h) {B : ℕ} (k : ℕ) (vs ws : Fin B → Fin n → Bool) :
    (r.gibbsStepsB k vs).law ws = ∏ b, (rbmP r ^ k) (vs b) (ws b) := by
  simp only [← C05_k_step_law]
  -- one `law_bind_batch` per `bind` of `gibbsStepB`; the lambda written out is the single-chain continuation (`f b` there) that
  -- the batched continuation factors into
  exact law_iter_batch r.gibbsStep r.gibbsStepB (fun vs => law_bind_batch _ _ _
    (fun _ hid => flipVec n (r.probV (bvec hid))) (law_flipMat_rows _ _ _) fun _ => law_flipMat_rows _ _ _) k vs ws

theorem C05_batch_law_purif (r : PRBM ℝ n h a) {B : ℕ} (k : ℕ) (vs ws : Fin B → Fin n → Bool) :
    (r.gibbsStepsB k vs).law ws = ∏ b, (prbmP r ^ k) (vs b) (ws b) := by
  simp only [← C05_k_step_law_purif]
  exact law_iter_batch r.gibbsStep r.gibbsStepB (fun vs => law_bind_batch _ _ _
    (fun b hid => (flipVec a (r.probA (bvec (vs b)))).bind fun aux => flipVec n (r.probV (bvec hid) (bvec aux)))
    (law_flipMat_rows _ _ _) fun hs => law_bind_batch _ _ _
      (fun b aux => flipVec n (r.probV (bvec (hs b)) (bvec aux))) (law_flipMat_rows _ _ _)
      fun _ => law_flipMat_rows _ _ _) k vs ws

/-- **C05.5b** `sample` with an initial state runs the chains from it; without one it first draws a
uniformly distributed `B × n` start (fair coins), then runs the chains. -/
theorem C05_sample_start {B : ℕ} (steps : (Fin B → Fin n → Bool) → Prog ℝ (Fin B → Fin n → Bool))
    (vs ws : Fin B → Fin n → Bool) :
    sampleFrom steps (some vs) = steps vs
    ∧ (sampleFrom steps none).law ws = ∑ us, (1 / 2 : ℝ) ^ (B * n) * (steps us).law ws := by
  refine ⟨rfl, ?_⟩
  simp only [sampleFrom, law_bind, law_flipMat]
  refine Finset.sum_congr rfl fun us _ => ?_
  congr 1
  have hb : ∀ t : Bool, bern (half : ℝ) t = 1 / 2 := by
    intro t; cases t <;> norm_num [bern, half]
  simp only [hb, Finset.prod_const, Finset.card_univ, Fintype.card_fin]
  rw [← pow_mul, Nat.mul_comm]

/-- **C05.5c** values and shape: an outcome of the sampler is (by its type) a `B × n` array of bits;
rendered as the `torch.double` tensor the code returns (`bvec`), every entry is exactly 0 or 1, every
row has length `n`, there are `B` rows. Nothing here mentions the sampler: the statement holds for ANY `ws` of the type, and that
`gibbs_steps` / `run` return such a `ws` is their type. The evidence for this clause is the comparison with the implementation. -/
theorem C05_values_shape {B : ℕ} (ws : Fin B → Fin n → Bool) :
    (∀ b j, (bvec (ws b) j : ℝ) = 0 ∨ (bvec (ws b) j : ℝ) = 1)
    ∧ (List.ofFn fun b => List.ofFn (bvec (α := ℝ) (ws b))).length = B
    ∧ ∀ row ∈ (List.ofFn fun b => List.ofFn (bvec (α := ℝ) (ws b))), row.length = n := by
  refine ⟨fun b j => ?_, by simp, ?_⟩
  · cases hw : ws b j <;> simp [bvec, bit, hw]
  · intro row hrow
    simp only [List.mem_ofFn] at hrow
    obtain ⟨b, rfl⟩ := hrow
    simp

/-! ## 6. buffers -/

/-- **C05.6** `overwrite = False`: the caller's tensor is unchanged (same object, same contents) and the
result is a different object holding the final state. `overwrite = True` (tensor of the network's
dtype/device): the result IS the caller's object and it holds the final state. Guarded exception,
as coded (`.to(self.weights)` copies): a tensor of another dtype/device is never overwritten.
Stated for every outcome `x` of the call with non-zero probability — in fact for every path. -/
theorem C05_overwrite {σ : Type} (steps : σ → Prog ℝ σ) (fresh : ℕ) (init : Buf σ)
    (hfresh : init.id < fresh) (overwrite : Bool) :
    ∀ x ∈ (gibbsCall steps fresh overwrite init).paths,
      (∃ y ∈ (steps init.data).paths, x.1.result.data = y.1 ∧ x.2 = y.2)
      ∧ (overwrite = false → x.1.caller = init ∧ x.1.result.id ≠ init.id)
      ∧ (overwrite = true → init.native = true →
            x.1.result.id = init.id ∧ x.1.caller = x.1.result)
      ∧ (overwrite = true → init.native = false → x.1.caller = init ∧ x.1.result.id ≠ init.id) := by
  intro x hx
  obtain ⟨id0, nat0, d0⟩ := init
  have h1 : id0 ≠ fresh := Nat.ne_of_lt hfresh
  have h2 : id0 ≠ fresh + 1 := Nat.ne_of_lt (Nat.lt_succ_of_lt hfresh)
  simp only [gibbsCall, paths_map, List.mem_map] at hx
  obtain ⟨y, hy, rfl⟩ := hx
  -- in each of the four flag cases the tensor worked on holds `d0`; what remains is the bookkeeping of identities
  cases overwrite <;> cases nat0 <;> exact ⟨⟨y, hy, rfl, rfl⟩, by simp [h1, h2, Ne.symm h1, Ne.symm h2]⟩

/-- **C05.6b** the buffer contract for the OBJECT passed as `overwrite` (documented as `bool`; the int `1`, a `numpy.bool_`, a
0-dim bool array or tensor are what callers also pass): `sample` hands the object on and `gibbs_steps` tests its TRUTH VALUE
(`initial_state if overwrite else initial_state.clone()`), so every clause of `C05_overwrite` holds with `bool(overwrite)` in the
place of the flag — overwriting was "requested" exactly when the object is truthy.  (In the model of a slip that tests
`overwrite is True`, i.e. `gibbsCall … overwrite.isTrueSingleton …`, the third clause fails for `PyFlag.npBool true`.) -/
theorem C05_overwrite_flag {σ : Type} (steps : σ → Prog ℝ σ) (fresh : ℕ) (init : Buf σ)
    (hfresh : init.id < fresh) (overwrite : PyFlag) :
    ∀ x ∈ (gibbsCallF steps fresh overwrite init).paths,
      (∃ y ∈ (steps init.data).paths, x.1.result.data = y.1 ∧ x.2 = y.2)
      ∧ (overwrite.truthy = false → x.1.caller = init ∧ x.1.result.id ≠ init.id)
      ∧ (overwrite.truthy = true → init.native = true →
            x.1.result.id = init.id ∧ x.1.caller = x.1.result)
      ∧ (overwrite.truthy = true → init.native = false → x.1.caller = init ∧ x.1.result.id ≠ init.id) :=
  C05_overwrite steps fresh init hfresh overwrite.truthy

/-- **C05.6c** whichever kind of object (`bool`, `int` 0/1, `numpy.bool_`, 0-dim bool array, 0-dim bool tensor: `form` 0…4) the
caller uses to say `b`, the call is the call with the singleton. -/
theorem C05_overwrite_any_form {σ : Type} (steps : σ → Prog ℝ σ) (fresh : ℕ) (init : Buf σ) (form : ℕ) (b : Bool) :
    gibbsCallF steps fresh (PyFlag.ofBool form b) init = gibbsCall steps fresh b init := by
  unfold gibbsCallF
  rw [PyFlag.truthy_ofBool]

/-! ## 7. replay soundness -/

/-- **C05.7** link between the two interpretations of the same program term:
(a) the law of an outcome is the sum, over the complete executions returning it, of the product of
the Bernoulli masses `Bern(p_i)(d_i)` of the probabilities presented and the draws made;
(b) every successful replay `run prog draws = some (x, ps, rest)` follows exactly one such execution
(`draws = used ++ rest`, `(x, ps, used) ∈ paths`), and (c) every execution replays to itself.
So a recorded run of the real sampler that `run` reproduces (same probabilities presented, same
result) is a summand of the law the theorems above are about. -/
theorem C05_run_law {β : Type} [DecidableEq β] (prog : Prog ℝ β) :
    (∀ x, prog.law x
        = ((prog.paths.filter (fun y => y.1 = x)).map (fun y => weight y.2.1 y.2.2)).sum)
    ∧ (∀ ds x ps rest, prog.run ds = some (x, ps, rest) →
        ∃ used, ds = used ++ rest ∧ (x, ps, used) ∈ prog.paths ∧ ps.length = used.length)
    ∧ (∀ y ∈ prog.paths, ∀ rest, prog.run (y.2.2 ++ rest) = some (y.1, y.2.1, rest)) := by
  refine ⟨law_eq_sum_paths prog, ?_, run_of_mem_paths prog⟩
  intro ds x ps rest hrun
  obtain ⟨used, hds, hmem⟩ := mem_paths_of_run prog ds x ps rest hrun
  exact ⟨used, hds, hmem, paths_probs_length prog _ hmem⟩

/-! ## non-vacuity -/

/-- a concrete architecture with `h ≠ n`, non-zero biases of both signs: detailed balance and `k`-pass
invariance are instances (the theorems have no hypotheses), with strictly positive flows. -/
example : let r : RBM ℝ 2 3 := ⟨fun i j => (i.val : ℝ) - j.val + 0.5, fun j => if j = 0 then -1.5 else 2,
      fun i => if i = 0 then 0.7 else -0.3⟩
    ∀ v v', rbmPi r 1 v * rbmP r v v' = rbmPi r 1 v' * rbmP r v' v ∧ 0 < rbmPi r 1 v * rbmP r v v' := by
  intro r v v'
  refine ⟨C05_detailed_balance r 1 v v', mul_pos ?_ ?_⟩
  · exact (C05_kernel_pos r (⟨fun _ _ => 0, fun _ _ => 0, fun _ => 0, fun _ => 0, fun _ => 0⟩ : PRBM ℝ 2 3 0) v v').2.2.1
  · exact (C05_kernel_pos r (⟨fun _ _ => 0, fun _ _ => 0, fun _ => 0, fun _ => 0, fun _ => 0⟩ : PRBM ℝ 2 3 0) v v').1

/-- `run` on a concrete program: two flips presented with probability 5 (any carrier), recorded draws
`[true, false, true]`: result `(true, false)`, probabilities `[5, 5]`, one draw left over. -/
example : (Prog.flipVec 2 (fun _ => (5 : ℕ))).run [true, false, true]
    = some (fun i => Fin.cases true (fun j => Fin.cases false (fun k => k.elim0) j) i, [5, 5], [true]) := rfl

/-- a too-short recording is rejected -/
example : (Prog.flipVec 2 (fun _ => (5 : ℕ))).run [true] = none := rfl

/-- the hypotheses of `C05_overwrite` are satisfiable: caller tensor with id 1, fresh ids from 2 -/
example : (1 : ℕ) < 2 := by decide


/-! ## 8. the 1-D / batched / mixed call forms of the public conditionals (`auto_unsqueeze_args`) -/

/-- **C05.8a** every public conditional-probability method, as the caller reaches it through `@auto_unsqueeze_args()`
(qucumber/utils/__init__.py:20-43), satisfies the call-form specification `CallFormsAgree` with the exact conditional of
`C05_cond_h` / `C05_cond_v` / `C05_cond_ha` as its per-state value: the 1-D form returns the `(h,)` / `(n,)` / `(a,)` probability
vector of that state, a tensor with leading axes (batch incl. `B = 1`, rank-3 chains) a result of exactly that leading shape whose
row `idx` is the conditional of row `idx`; likewise the traced `PurificationRBM.effective_energy(v)`. -/
theorem C05_call_forms (r : RBM ℝ n h) (q : PRBM ℝ n h a) :
    CallFormsAgree r.probHGivenV r.probH
      ∧ CallFormsAgree r.probVGivenH r.probV
      ∧ CallFormsAgree q.probHGivenV q.probH
      ∧ CallFormsAgree q.probAGivenV q.probA
      ∧ CallFormsAgree (fun v => q.effectiveEnergy v none) q.effEnergy :=
  ⟨callFormsAgree_map _, callFormsAgree_map _, callFormsAgree_map _, callFormsAgree_map _, callFormsAgree_map _⟩

/-- **C05.8a'** the vector form on a state is row `i` of the batched form on any `(B, ·)` batch
whose row `i` is that state, with result shapes `()` (one probability vector) and `(B,)` (one per row). -/
theorem C05_vector_form_is_row (r : RBM ℝ n h) (q : PRBM ℝ n h a) (v : Fin n → ℝ) (hid : Fin h → ℝ) (B : ℕ)
    (vs : ℕ → Fin n → ℝ) (hs : ℕ → Fin h → ℝ) (i : ℕ) (hi : i < B) (hv : vs i = v) (hh : hs i = hid) :
    (∃ o oB, r.probHGivenV (.scalar v) = .ok o ∧ r.probHGivenV (.ofRows B vs) = .ok oB ∧ o.shape = [] ∧ oB.shape = [B]
        ∧ o.get [] = r.probH v ∧ oB.get [i] = o.get [])
      ∧ (∃ o oB, r.probVGivenH (.scalar hid) = .ok o ∧ r.probVGivenH (.ofRows B hs) = .ok oB ∧ o.shape = [] ∧ oB.shape = [B]
        ∧ o.get [] = r.probV hid ∧ oB.get [i] = o.get [])
      ∧ (∃ o oB, q.probHGivenV (.scalar v) = .ok o ∧ q.probHGivenV (.ofRows B vs) = .ok oB ∧ o.shape = [] ∧ oB.shape = [B]
        ∧ o.get [] = q.probH v ∧ oB.get [i] = o.get [])
      ∧ (∃ o oB, q.probAGivenV (.scalar v) = .ok o ∧ q.probAGivenV (.ofRows B vs) = .ok oB ∧ o.shape = [] ∧ oB.shape = [B]
        ∧ o.get [] = q.probA v ∧ oB.get [i] = o.get []) := by
  obtain ⟨h1, h2, h3, h4, _⟩ := C05_call_forms r q
  have key : ∀ {m : ℕ} {β : Type} {f : FT (Fin m → ℝ) → Except PyErr (FT β)} {core : (Fin m → ℝ) → β} (w : Fin m → ℝ)
      (ws : ℕ → Fin m → ℝ), ws i = w → CallFormsAgree f core →
      ∃ o oB, f (.scalar w) = .ok o ∧ f (.ofRows B ws) = .ok oB ∧ o.shape = [] ∧ oB.shape = [B] ∧ o.get [] = core w
        ∧ oB.get [i] = o.get [] := fun w ws hw hf => by
    obtain ⟨o, oB, a1, a2, a3, a4, a5, _, a7⟩ := hf.vector_is_row w B ws
    exact ⟨o, oB, a1, a2, a3, a4, a5, a7 i hi hw⟩
  exact ⟨key v vs hv h1, key hid hs hh h2, key v vs hv h3, key v vs hv h4⟩

/-- **C05.8b** `prob_v_given_ha(h, a)` under `@auto_unsqueeze_args(1, 2)` (purification_rbm.py:237-259), every rank combination of
vectors and batches, as the code has it:
* both 1-D: the `(n,)` vector `probV h a`;  both `(B, ·)`: row `i` is `probV h_i a_i`;
* `h` a batch of `B ≠ 1` rows, `a` 1-D: accepted, `a` is used for every row (`(B, n)`);
* `h` a batch of exactly one row, `a` 1-D: accepted, but the result LOSES its batch axis (one flag for both positions: the result is
  squeezed because `a` was 1-D) — the value is still `probV h_0 a`;
* `h` 1-D, `a` a batch of `B ≠ 1` rows: REFUSED (the second `add_` is in place on the `(1, n)` buffer made from `h`);
  with exactly one row: accepted, 0 leading axes, `probV h a_0`.
In every accepted form each returned row is the exact visible conditional of `C05_cond_v_purif` for the rows it pairs. -/
theorem C05_call_forms_ha (q : PRBM ℝ n h a) (hid : Fin h → ℝ) (aux : Fin a → ℝ) (B : ℕ) (hs : ℕ → Fin h → ℝ)
    (as : ℕ → Fin a → ℝ) :
    (∃ o, q.probVGivenHA (.scalar hid) (.scalar aux) = .ok o ∧ o.shape = [] ∧ o.get [] = q.probV hid aux)
      ∧ (∃ o, q.probVGivenHA (.ofRows B hs) (.ofRows B as) = .ok o ∧ o.shape = [B] ∧ ∀ i, i < B → o.get [i] = q.probV (hs i) (as i))
      ∧ (B ≠ 1 → ∃ o, q.probVGivenHA (.ofRows B hs) (.scalar aux) = .ok o ∧ o.shape = [B]
          ∧ ∀ i, i < B → o.get [i] = q.probV (hs i) aux)
      ∧ (∃ o, q.probVGivenHA (.ofRows 1 hs) (.scalar aux) = .ok o ∧ o.shape = [] ∧ o.get [] = q.probV (hs 0) aux)
      ∧ (B ≠ 1 → q.probVGivenHA (.scalar hid) (.ofRows B as) = .error .RuntimeError)
      ∧ (∃ o, q.probVGivenHA (.scalar hid) (.ofRows 1 as) = .ok o ∧ o.shape = [] ∧ o.get [] = q.probV hid (as 0)) :=
  ⟨q.probVGivenHA_vec_vec hid aux, q.probVGivenHA_batch_batch B hs as, fun hB => q.probVGivenHA_batch_vec B hB hs aux,
    q.probVGivenHA_batch1_vec hs aux, fun hB => q.probVGivenHA_vec_batch B hB hid as, q.probVGivenHA_vec_batch1 hid as⟩

/-- non-vacuity: a 2×3×2 purification RBM, a 1-D hidden state against a 1-D auxiliary state, and the same hidden state as row 1 of
a 3-row batch against the 1-D auxiliary state: the mixed form's row 1 is the vector form's result. -/
example :
    let q : PRBM ℝ 2 3 2 := ⟨fun i j => (i.val : ℝ) - j.val + 0.5, fun k j => (k.val : ℝ) + j.val - 2.5,
      fun j => if j = 0 then -1.5 else 2, fun i => if i = 0 then 0.7 else -0.3, fun k => if k = 0 then 1.2 else -0.4⟩
    let hd : Fin 3 → ℝ := fun i => if i = 1 then 1 else 0
    let ax : Fin 2 → ℝ := fun _ => 1
    ∃ o oB, q.probVGivenHA (.scalar hd) (.scalar ax) = .ok o
      ∧ q.probVGivenHA (.ofRows 3 (fun i => if i = 1 then hd else fun _ => 1)) (.scalar ax) = .ok oB ∧ oB.get [1] = o.get [] := by
  intro q hd ax
  obtain ⟨o, ho, _, hg⟩ := (C05_call_forms_ha q hd ax 3 (fun i => if i = 1 then hd else fun _ => 1) (fun _ => ax)).1
  obtain ⟨oB, hoB, _, hgB⟩ := (C05_call_forms_ha q hd ax 3 (fun i => if i = 1 then hd else fun _ => 1) (fun _ => ax)).2.2.1
    (by norm_num)
  exact ⟨o, oB, ho, hoB, by rw [hg, hgB 1 (by norm_num)]; simp⟩

/-! ## 9. the public one-step samplers and their `out=` buffer -/

/-- SPECIFICATION of what a caller sees after a one-step sampler drew `t`: with `out=` given the returned tensor IS the `out`
object and holds the 0/1 draw; without, a new tensor (not the one that held the probabilities) holds it. -/
def stepOutcome {m : ℕ} (fresh : ℕ) (out : Option (Buf (Fin m → ℝ))) (t : Fin m → Bool) : StepResult (Fin m → ℝ) :=
  match out with
  | some o => ⟨⟨o.id, o.native, bvec t⟩, some ⟨o.id, o.native, bvec t⟩⟩
  | none => ⟨⟨fresh + 1, true, bvec t⟩, none⟩

/-- a one-step sampler whose probabilities are the conditional `J t = c · bernVec probs t` of a weight `J` averages the
caller-visible outcome with weight `J` -/
theorem sampleCall_expect {m : ℕ} (probs : Fin m → ℝ) (fresh : ℕ) (out : Option (Buf (Fin m → ℝ)))
    (g : StepResult (Fin m → ℝ) → ℝ) (c : ℝ) (J : (Fin m → Bool) → ℝ) (hJ : ∀ t, J t = c * bernVec probs t) :
    c * (sampleCall probs fresh out).expect g = ∑ t, J t * g (stepOutcome fresh out t) := by
  cases out <;>
    simp only [sampleCall, expect_map, expect_flipVec, bernVec, stepOutcome, hJ, Finset.mul_sum, mul_assoc]

/-- **C05_sample_out_identity.** `sample_…(x, out=out)` for every execution: the returned tensor holds a 0/1 vector `t` that is
a draw of exactly the probabilities `probs` presented to `torch.bernoulli` (same probabilities, same draws as the bare
`flipVec`); when `out` was given the returned tensor IS that object (same identity, dtype class) and the caller's `out` holds
the DRAW afterwards (not the probabilities that were written into it first); when no `out` was given nothing of the caller's
is touched and the result is a new tensor. -/
theorem C05_sample_out_identity {m : ℕ} (probs : Fin m → ℝ) (fresh : ℕ) (out : Option (Buf (Fin m → ℝ))) :
    ∀ x ∈ (sampleCall probs fresh out).paths,
      (∃ t, (t, x.2.1, x.2.2) ∈ (flipVec m probs).paths ∧ x.1.result.data = bvec t
          ∧ ∀ j, x.1.result.data j = 0 ∨ x.1.result.data j = 1)
      ∧ (∀ o, out = some o → x.1.result.id = o.id ∧ x.1.result.native = o.native ∧ x.1.out = some x.1.result)
      ∧ (out = none → x.1.out = none ∧ x.1.result.id = fresh + 1) := by
  intro x hx
  have h01 : ∀ (t : Fin m → Bool) j, (bvec t : Fin m → ℝ) j = 0 ∨ (bvec t : Fin m → ℝ) j = 1 := by
    intro t j; cases ht : t j <;> simp [bvec, bit, ht]
  simp only [sampleCall, paths_map, List.mem_map] at hx
  obtain ⟨y, hy, rfl⟩ := hx
  cases out with
  | none => exact ⟨⟨y.1, hy, rfl, h01 y.1⟩, (fun o ho => by cases ho), fun _ => ⟨rfl, rfl⟩⟩
  | some o => exact ⟨⟨y.1, hy, rfl, h01 y.1⟩, (fun o' ho => by cases ho; exact ⟨rfl, rfl, rfl⟩), fun h => by cases h⟩

/-- **C05_sample_step_law.** The law of each public one-step sampler, with or without `out=`, started from 0/1 states, is the
product-Bernoulli law of the EXACT conditional of the joint Boltzmann weight, and the caller-visible outcome of the draw `t` is
`stepOutcome` (for every test function `g` of the outcome):
`π(v) · E[g] = Σ_h J(v,h) g(h)` for `sample_h_given_v`, `(Σ_v' J(v',h)) · E[g] = Σ_v J(v,h) g(v)` for `sample_v_given_h`, and for
the purification RBM `π(v) · E[g] = Σ_h (Σ_a J(v,h,a)) g(h)`, `π(v) · E[g] = Σ_a (Σ_h J(v,h,a)) g(a)`,
`(Σ_v' J(v',h,a)) · E[g] = Σ_v J(v,h,a) g(v)`. -/
theorem C05_sample_step_law (r : RBM ℝ n h) (q : PRBM ℝ n h a) (v : Fin n → Bool) (hid : Fin h → Bool)
    (aux : Fin a → Bool) (fresh : ℕ) :
    (∀ out g, rbmPi r 1 v * (r.sampleH (bvec v) fresh out).expect g
        = ∑ t, rbmJoint r v t * g (stepOutcome fresh out t))
    ∧ (∀ out g, (∑ v', rbmJoint r v' hid) * (r.sampleV (bvec hid) fresh out).expect g
        = ∑ t, rbmJoint r t hid * g (stepOutcome fresh out t))
    ∧ (∀ out g, prbmPi q 1 v * (q.sampleH (bvec v) fresh out).expect g
        = ∑ t, (∑ aux', prbmJoint q v t aux') * g (stepOutcome fresh out t))
    ∧ (∀ out g, prbmPi q 1 v * (q.sampleA (bvec v) fresh out).expect g
        = ∑ t, (∑ hid', prbmJoint q v hid' t) * g (stepOutcome fresh out t))
    ∧ (∀ out g, (∑ v', prbmJoint q v' hid aux) * (q.sampleV (bvec hid) (bvec aux) fresh out).expect g
        = ∑ t, prbmJoint q t hid aux * g (stepOutcome fresh out t)) := by
  refine ⟨?_, ?_, ?_, ?_, ?_⟩ <;> intro out g
  · exact sampleCall_expect _ _ _ _ _ _ (C05_cond_h r v)
  · exact sampleCall_expect _ _ _ _ _ _ fun t => C05_cond_v r t hid
  · exact sampleCall_expect _ _ _ _ _ _ fun t => by
      simp only [C05_cond_ha, ← Finset.mul_sum, sum_bernVec, mul_one]
  · exact sampleCall_expect _ _ _ _ _ _ fun t => by
      simp only [C05_cond_ha, ← Finset.mul_sum, ← Finset.sum_mul, sum_bernVec, one_mul]
  · exact sampleCall_expect _ _ _ _ _ _ fun t => C05_cond_v_purif q t hid aux

/-- **C05_gibbs_step_buffers.** The loop body of `gibbs_steps` written with the public samplers on buffer OBJECTS (`out=h`,
[`out=a`,] `out=v`, return values discarded, each call reading the CONTENTS its predecessors left in the buffers) is the
verified kernel `gibbsStep`: the buffer objects keep their identities and the visible buffer ends up holding the 0/1 encoding of
the kernel's next state. (A sampler that leaves the probabilities in `out` breaks this: the next call would be fed probabilities.) -/
theorem C05_gibbs_step_buffers (r : RBM ℝ n h) (q : PRBM ℝ n h a) (fresh : ℕ) (hb : Buf (Fin h → ℝ))
    (ab : Buf (Fin a → ℝ)) (vid : ℕ) (vnat : Bool) (v : Fin n → Bool) :
    (r.gibbsStepBuf fresh hb ⟨vid, vnat, bvec v⟩).map (fun s => (s.1.id, s.2.id, s.2.data))
        = (r.gibbsStep v).map (fun w => (hb.id, vid, bvec w))
    ∧ (q.gibbsStepBuf fresh hb ab ⟨vid, vnat, bvec v⟩).map (fun s => (s.1.id, s.2.1.id, s.2.2.id, s.2.2.data))
        = (q.gibbsStep v).map (fun w => (hb.id, ab.id, vid, bvec w)) := by
  constructor
  · simp only [RBM.gibbsStepBuf, RBM.sampleH, RBM.sampleV, sampleCall, RBM.gibbsStep, Prog.map, bind_assoc, Prog.bind,
      Option.getD_some]
  · simp only [PRBM.gibbsStepBuf, PRBM.sampleH, PRBM.sampleA, PRBM.sampleV, sampleCall, PRBM.gibbsStep, Prog.map, bind_assoc,
      Prog.bind, Option.getD_some]

/-- the hypotheses of `C05_sample_out_identity` / `C05_sample_step_law` are satisfiable non-trivially: a 2-unit sampler with an
`out` buffer that initially holds garbage; the execution drawing (1, 0) returns object 7 holding `[1, 0]`. -/
example : (⟨⟨7, true, bvec (fun i : Fin 2 => i = 0)⟩, some ⟨7, true, bvec (fun i : Fin 2 => i = 0)⟩⟩, [(0.3 : ℝ), 0.9], [true, false])
    ∈ ((sampleCall (fun i : Fin 2 => if i = 0 then (0.3 : ℝ) else 0.9) 100 (some ⟨7, true, fun _ => 42⟩)).paths.map
        (fun x => (x.1, x.2.1, x.2.2))) := by
  simp only [sampleCall, paths_map, Prog.flipVec, Prog.paths, Prog.bind, List.map_cons, List.map_nil, List.cons_append, List.nil_append, List.mem_cons]
  right; left
  refine Prod.ext ?_ rfl
  have e : (fun i : Fin 2 => decide (i = 0)) = (fun i => Fin.cases true (fun i => Fin.cases false (fun i => i.elim0) i) i) := by
    funext i; fin_cases i <;> rfl
  simp only [e]

/-! ## 10. the `torch.bernoulli` call pattern of `gibbs_steps` -/

/-- **C05_call_shapes_list.** The recorded call pattern the harness compares with (`RBM.callShapes` / `PRBM.callShapes`, the
shapes of the tensors handed to `torch.bernoulli` by `gibbs_steps(k, ·)` on `B` chains, in call order) is `k` repetitions of
`[(B,h), (B,n)]` resp. `[(B,h), (B,a), (B,n)]` — hidden [, auxiliary], visible per pass — so it has `2k` resp. `3k` calls, and
its total element count is `k·B·(h+n)` resp. `k·B·(h+a+n)`. (The list form is by construction of the model; the counts are
what `C05_call_shapes` ties to the sampler program.) -/
theorem C05_call_shapes_list (r : RBM ℝ n h) (q : PRBM ℝ n h a) (k B : ℕ) :
    r.callShapes k B = (List.replicate k [(B, h), (B, n)]).flatten
    ∧ q.callShapes k B = (List.replicate k [(B, h), (B, a), (B, n)]).flatten
    ∧ (r.callShapes k B).length = 2 * k ∧ (q.callShapes k B).length = 3 * k
    ∧ ((r.callShapes k B).map fun s => s.1 * s.2).sum = k * (B * (h + n))
    ∧ ((q.callShapes k B).map fun s => s.1 * s.2).sum = k * (B * (h + a + n)) := by
  have e1 : r.callShapes k B = _ := flatMap_range_const k [(B, h), (B, n)]
  have e2 : q.callShapes k B = _ := flatMap_range_const k [(B, h), (B, a), (B, n)]
  refine ⟨e1, e2, ?_, ?_, ?_, ?_⟩
  · rw [e1, List.length_flatten, List.map_replicate, List.sum_replicate, smul_eq_mul, Nat.mul_comm]; rfl
  · rw [e2, List.length_flatten, List.map_replicate, List.sum_replicate, smul_eq_mul, Nat.mul_comm]; rfl
  · rw [e1, sum_map_flatten_replicate]
    simp only [List.map_cons, List.map_nil, List.sum_cons, List.sum_nil, Nat.add_zero, Nat.mul_add]
  · rw [e2, sum_map_flatten_replicate]
    simp only [List.map_cons, List.map_nil, List.sum_cons, List.sum_nil, Nat.add_zero, Nat.mul_add, Nat.add_assoc]

/-- every execution of `k` passes over `B` chains makes `k·B·(h+n)` draws (`PurificationRBM`: `k·B·(h+a+n)`): one per hidden
[, auxiliary] and visible unit of every chain and pass; a single chain makes `k·(h+n)` -/
theorem draws_gibbsStepsB (r : RBM ℝ n h) (k : ℕ) {B : ℕ} (vs : Fin B → Fin n → Bool) :
    Draws (r.gibbsStepsB k vs) (k * (B * (h + n))) :=
  draws_iter (fun us => by rw [Nat.mul_add]; exact draws_bind (draws_flipMat _ _ _) fun _ => draws_flipMat _ _ _) k vs

theorem draws_gibbsStepsB_purif (q : PRBM ℝ n h a) (k : ℕ) {B : ℕ} (vs : Fin B → Fin n → Bool) :
    Draws (q.gibbsStepsB k vs) (k * (B * (h + a + n))) :=
  draws_iter (fun us => by
    rw [Nat.mul_add, Nat.mul_add, Nat.add_assoc]
    exact draws_bind (draws_flipMat _ _ _) fun _ => draws_bind (draws_flipMat _ _ _) fun _ => draws_flipMat _ _ _) k vs

theorem draws_gibbsSteps (r : RBM ℝ n h) (k : ℕ) (v : Fin n → Bool) : Draws (r.gibbsSteps k v) (k * (h + n)) :=
  draws_iter (fun _ => draws_bind (draws_flipVec _ _) fun _ => draws_flipVec _ _) k v

theorem draws_gibbsSteps_purif (q : PRBM ℝ n h a) (k : ℕ) (v : Fin n → Bool) :
    Draws (q.gibbsSteps k v) (k * (h + a + n)) :=
  draws_iter (fun _ => by
    rw [Nat.add_assoc]
    exact draws_bind (draws_flipVec _ _) fun _ => draws_bind (draws_flipVec _ _) fun _ => draws_flipVec _ _) k v

/-- **C05_call_shapes.** The call pattern IS the draw pattern of the model's own sampler program: on EVERY complete execution
path of the batched `gibbsStepsB k` started from ANY batch of `B` rows (and of `sampleFrom` with / without a start state, which
adds the one `B × n` fair-coin call), the number of Bernoulli draws consumed — and of probabilities presented to the sampler —
equals the total element count of `callShapes k B`: `k·B·(h+n)` for a `BinaryRBM`, `k·B·(h+a+n)` for a `PurificationRBM`;
for the single-chain `gibbsSteps k` it is the `B = 1` count. So every pass draws every hidden (auxiliary) and visible unit of
every chain exactly once, no execution draws more or fewer, and a recording is replayed (`run`) successfully only if exactly
that many draws were consumed. -/
theorem C05_call_shapes (r : RBM ℝ n h) (q : PRBM ℝ n h a) (k : ℕ) {B : ℕ} (vs : Fin B → Fin n → Bool)
    (v : Fin n → Bool) :
    Draws (r.gibbsStepsB k vs) ((r.callShapes k B).map fun s => s.1 * s.2).sum
    ∧ Draws (q.gibbsStepsB k vs) ((q.callShapes k B).map fun s => s.1 * s.2).sum
    ∧ Draws (r.gibbsSteps k v) ((r.callShapes k 1).map fun s => s.1 * s.2).sum
    ∧ Draws (q.gibbsSteps k v) ((q.callShapes k 1).map fun s => s.1 * s.2).sum
    ∧ Draws (sampleFrom (r.gibbsStepsB k) (some vs)) (k * (B * (h + n)))
    ∧ Draws (sampleFrom (r.gibbsStepsB (B := B) k) none) (B * n + k * (B * (h + n)))
    ∧ Draws (sampleFrom (q.gibbsStepsB (B := B) k) none) (B * n + k * (B * (h + a + n)))
    ∧ (∀ ds w ps rest, (r.gibbsStepsB k vs).run ds = some (w, ps, rest) →
        ps.length = k * (B * (h + n)) ∧ ds.length = k * (B * (h + n)) + rest.length)
    ∧ (∀ ds w ps rest, (q.gibbsStepsB k vs).run ds = some (w, ps, rest) →
        ps.length = k * (B * (h + a + n)) ∧ ds.length = k * (B * (h + a + n)) + rest.length) := by
  obtain ⟨-, -, -, -, s1, s2⟩ := C05_call_shapes_list r q k B
  obtain ⟨-, -, -, -, s1', s2'⟩ := C05_call_shapes_list r q k 1
  rw [s1, s2, s1', s2', Nat.one_mul, Nat.one_mul]
  exact ⟨draws_gibbsStepsB r k vs, draws_gibbsStepsB_purif q k vs, draws_gibbsSteps r k v, draws_gibbsSteps_purif q k v,
    draws_gibbsStepsB r k vs, draws_bind (draws_flipMat _ _ _) (draws_gibbsStepsB r k),
    draws_bind (draws_flipMat _ _ _) (draws_gibbsStepsB_purif q k),
    fun _ _ _ _ hr => draws_run (draws_gibbsStepsB r k vs) hr,
    fun _ _ _ _ hr => draws_run (draws_gibbsStepsB_purif q k vs) hr⟩

/-- the statement of `C05_call_shapes` is about non-empty sets of executions with a non-trivial count: a 1-visible / 1-hidden
`BinaryRBM`, one chain, one pass has the execution "hidden draw 1, visible draw 0" among its `2 = 1·1·(1+1)`-draw paths, and
`callShapes 1 1 = [(1,1), (1,1)]`. -/
example : ([true, false] ∈ ((⟨fun _ _ => 0, fun _ => 0, fun _ => 0⟩ : RBM ℝ 1 1).gibbsStepsB (B := 1) 1 (fun _ _ => false)).paths.map
      (fun x => x.2.2))
    ∧ (⟨fun _ _ => 0, fun _ => 0, fun _ => 0⟩ : RBM ℝ 1 1).callShapes 1 1 = [(1, 1), (1, 1)] := by
  refine ⟨?_, rfl⟩
  have hr : (((⟨fun _ _ => 0, fun _ => 0, fun _ => 0⟩ : RBM ℝ 1 1).gibbsStepsB (B := 1) 1 (fun _ _ => false)).run
      [true, false]).map (fun y => y.2.2) = some [] := rfl
  obtain ⟨⟨w, ps, rest⟩, hr, rfl⟩ := Option.map_eq_some_iff.1 hr
  exact List.mem_map.2 ⟨_, mem_paths_of_run_nil _ hr, rfl⟩

/-- **C05_call_contents.** WHAT the calls of `C05_call_shapes` present and return, on EVERY complete execution path of one batched
pass (`flatM` = the tensor flattened row-major, the recorder's order): the first `torch.bernoulli` call is handed the `B × h`
hidden conditionals of the CURRENT visible batch, [the second the `B × a` auxiliary conditionals of the same batch,] the last the
`B × n` visible conditionals given exactly the bits DRAWN by the preceding call(s), and the state the pass returns is exactly the
matrix of the bits drawn by the last call — nothing is drawn twice, dropped or reordered. And the executions of `k+1` passes are
the executions of one pass followed by the executions of `k` passes from the state that pass returned (for `k = 0`: no draw at
all), so this describes every call of `gibbs_steps(k)`. -/
theorem C05_call_contents (r : RBM ℝ n h) (q : PRBM ℝ n h a) {B : ℕ} (vs : Fin B → Fin n → Bool) (k : ℕ) :
    (∀ x ∈ (r.gibbsStepB vs).paths, ∃ hs : Fin B → Fin h → Bool,
        x.2.1 = flatM (fun b => r.probH (bvec (vs b))) ++ flatM (fun b => r.probV (bvec (hs b)))
        ∧ x.2.2 = flatM hs ++ flatM x.1)
    ∧ (∀ x ∈ (q.gibbsStepB vs).paths, ∃ (hs : Fin B → Fin h → Bool) (as : Fin B → Fin a → Bool),
        x.2.1 = flatM (fun b => q.probH (bvec (vs b))) ++ (flatM (fun b => q.probA (bvec (vs b)))
                  ++ flatM (fun b => q.probV (bvec (hs b)) (bvec (as b))))
        ∧ x.2.2 = flatM hs ++ (flatM as ++ flatM x.1))
    ∧ (r.gibbsStepsB 0 vs).paths = [(vs, [], [])] ∧ (q.gibbsStepsB 0 vs).paths = [(vs, [], [])]
    ∧ (r.gibbsStepsB (k + 1) vs).paths = (r.gibbsStepB vs).paths.flatMap (fun x =>
        (r.gibbsStepsB k x.1).paths.map fun y => (y.1, x.2.1 ++ y.2.1, x.2.2 ++ y.2.2))
    ∧ (q.gibbsStepsB (k + 1) vs).paths = (q.gibbsStepB vs).paths.flatMap (fun x =>
        (q.gibbsStepsB k x.1).paths.map fun y => (y.1, x.2.1 ++ y.2.1, x.2.2 ++ y.2.2)) := by
  refine ⟨?_, ?_, rfl, rfl, paths_bind _ _, paths_bind _ _⟩
  · intro x hx
    simp only [RBM.gibbsStepB, paths_bind, List.mem_flatMap, List.mem_map] at hx
    obtain ⟨y, hy, z, hz, rfl⟩ := hx
    refine ⟨y.1, ?_, ?_⟩
    · simp only [(paths_flipMat _ _ _ y hy).1, (paths_flipMat _ _ _ z hz).1]
    · simp only [(paths_flipMat _ _ _ y hy).2, (paths_flipMat _ _ _ z hz).2]
  · intro x hx
    simp only [PRBM.gibbsStepB, paths_bind, List.mem_flatMap, List.mem_map] at hx
    obtain ⟨y, hy, _, ⟨w, hw, z, hz, rfl⟩, rfl⟩ := hx
    refine ⟨y.1, w.1, ?_, ?_⟩
    · simp only [(paths_flipMat _ _ _ y hy).1, (paths_flipMat _ _ _ w hw).1, (paths_flipMat _ _ _ z hz).1]
    · simp only [(paths_flipMat _ _ _ y hy).2, (paths_flipMat _ _ _ w hw).2, (paths_flipMat _ _ _ z hz).2]

/-- `C05_call_contents` on a concrete execution: 2 chains of a 1-visible / 1-hidden `BinaryRBM` with zero parameters (all
conditionals `σ(0)`), hidden draws `(1,0)`, visible draws `(0,1)`: the pass returns the batch `[[0],[1]]`. -/
example : ∃ x ∈ ((⟨fun _ _ => 0, fun _ => 0, fun _ => 0⟩ : RBM ℝ 1 1).gibbsStepB (B := 2) (fun _ _ => false)).paths,
    x.2.2 = [true, false, false, true] ∧ flatM x.1 = [false, true] := by
  have hr : (((⟨fun _ _ => 0, fun _ => 0, fun _ => 0⟩ : RBM ℝ 1 1).gibbsStepB (B := 2) (fun _ _ => false)).run
      [true, false, false, true]).map (fun y => (flatM y.1, y.2.2)) = some ([false, true], []) := rfl
  obtain ⟨⟨w, ps, rest⟩, hr, he⟩ := Option.map_eq_some_iff.1 hr
  obtain ⟨hw, rfl⟩ := Prod.mk.inj he
  exact ⟨_, mem_paths_of_run_nil _ hr, rfl, hw⟩

/-- **C05_replay_length.** The replay the harness performs (`run` on the recorded draws) succeeds EXACTLY on recordings that hold at
least the `callShapes` element count: `gibbsStepsB k` from any batch of `B` rows replays a recording `ds` iff
`k·B·(h+n) ≤ ds.length` (`PurificationRBM`: `k·B·(h+a+n)`; `sample` without a start state: plus the `B·n` fair coins), and then the
leftover is the recording minus exactly that many draws (`C05_call_shapes`). A sampler that makes one call fewer or one more per
pass therefore cannot be replayed onto the recorded pattern with nothing left over. -/
theorem C05_replay_length (r : RBM ℝ n h) (q : PRBM ℝ n h a) (k : ℕ) {B : ℕ} (vs : Fin B → Fin n → Bool) (ds : List Bool) :
    (((r.gibbsStepsB k vs).run ds).isSome ↔ k * (B * (h + n)) ≤ ds.length)
    ∧ (((q.gibbsStepsB k vs).run ds).isSome ↔ k * (B * (h + a + n)) ≤ ds.length)
    ∧ (((sampleFrom (r.gibbsStepsB (B := B) k) none).run ds).isSome ↔ B * n + k * (B * (h + n)) ≤ ds.length)
    ∧ (((sampleFrom (q.gibbsStepsB (B := B) k) none).run ds).isSome ↔ B * n + k * (B * (h + a + n)) ≤ ds.length) :=
  ⟨draws_run_isSome (draws_gibbsStepsB r k vs) ds, draws_run_isSome (draws_gibbsStepsB_purif q k vs) ds,
    draws_run_isSome (draws_bind (draws_flipMat _ _ _) (draws_gibbsStepsB r k)) ds,
    draws_run_isSome (draws_bind (draws_flipMat _ _ _) (draws_gibbsStepsB_purif q k)) ds⟩

/-- `C05_replay_length` on a concrete recording: one chain, one pass of a 1-visible / 1-hidden `BinaryRBM` needs 2 draws; the
recording `[1]` is refused, `[1,0,1]` is replayed with `[1]` left over and returns the visible state `0`. -/
example : ((⟨fun _ _ => 0, fun _ => 0, fun _ => 0⟩ : RBM ℝ 1 1).gibbsStepsB (B := 1) 1 (fun _ _ => false)).run [true] = none
    ∧ (((⟨fun _ _ => 0, fun _ => 0, fun _ => 0⟩ : RBM ℝ 1 1).gibbsStepsB (B := 1) 1 (fun _ _ => false)).run
        [true, false, true]).map (fun x => (x.1 0 0, x.2.2)) = some (false, [true]) := by
  exact ⟨rfl, rfl⟩

end C05
end QV.Props
