/-
C02 — The reconstructed density matrix is always a physical state.

"For every parameter setting of a mixed-state model, the matrix of density-matrix elements over
the full basis is Hermitian and positive semidefinite, its diagonal equals the unnormalised
probabilities the model reports and samples from, and its trace equals the reported
normalisation. It equals, entry for entry, the partial trace over the auxiliary units of the
purified two-network RBM state that defines it, whichever call form (full matrix, paired vector
of elements, single element) is used."

All theorems: ∀ n h a, ∀ real parameters of both networks, ∀ visible vectors (real-valued, not only
0/1 ones) unless a matrix over the basis is formed.  Model definitions: `QV.Model.Rbm` (PRBM),
`QV.Model.States` (namespace Density), `QV.Model.Density` (call forms) — executed against the real
`DensityMatrix` by the C02 correspondence check.

THE GUARD `NZ`.  `DensityMatrix.pi` computes `log √(1 + 2eˣcos y + e²ˣ) = log |1 + e^{x+iy}|` per
auxiliary unit.  When `1 + e^{x+iy} = 0` (only possible for `x = 0` and `y` an odd multiple of `π`) the
float code gives `log 0 = -∞`, hence `rho = exp(-∞)·… = 0`, the correct limit, whereas over `ℝ`
Mathlib's `Real.log 0 = 0` would make the model value `exp(Γ⁺)·…  ≠ 0`.  This is a totalisation
artefact of `ℝ`, not of the code, so the partial-trace / positive-semidefinite theorems carry the
hypothesis `NZ` (no auxiliary unit has `1 + e^{x+iy} = 0`); the diagonal, the trace, Hermiticity, the
call forms and the irrelevance of the phase auxiliary bias need no guard.  Sufficient conditions for `NZ`:
on the phase network (`C02_NZ_of_abs_lt_pi`, `C02_NZ_of_phase_weights_small`) or on the amplitude network
alone (`C02_NZ_of_x_ne_zero`, `C02_NZ_of_amp_off_hyperplanes`: off finitely many hyperplanes); the excluded
point itself is exercised on the real code by the harness (auxiliary probe `nz-probe`).
-/
import Mathlib.LinearAlgebra.Matrix.PosDef
import Mathlib.Analysis.Complex.Order
import Mathlib.Algebra.BigOperators.Field
import Mathlib.Analysis.SpecialFunctions.Trigonometric.Complex
import QV.Model.Density
import QV.Lemmas.Basic
import QV.Lemmas.Hilbert
import QV.Lemmas.Density
import QV.Lemmas.PyFlag
import QV.Lemmas.CallShape
import QV.Props.C05

namespace QV.Props
namespace C02
open QV Finset Complex Density
open scoped ComplexOrder ComplexConjugate

variable {n h a : ℕ}

/-! ### Specification (not part of the code) -/

/-- SPEC. Logarithm of one network's joint Boltzmann weight with the hidden units summed out:
`b·σ + Σ_i sp(c_i + W_i·σ) + Σ_k aux_k (U_k·σ + d_k)`, `sp x = log(1+eˣ)`. -/
noncomputable def logWeight (r : PRBM ℝ n h a) (σ : Fin n → ℝ) (aux : Fin a → Bool) : ℝ :=
  ∑ j, r.b j * σ j + ∑ i, Real.log (1 + Real.exp (r.c i + ∑ j, r.W i j * σ j))
    + ∑ k, if aux k then (∑ j, r.U k j * σ j) + r.d k else 0

/-- SPEC. Amplitude of the purified two-network RBM state on (visible, auxiliary) with the hidden
units summed out: `φ(σ,aux) = exp(½ logWeight_λ + (i/2) logWeight_μ)`. -/
noncomputable def purAmp (am ph : PRBM ℝ n h a) (σ : Fin n → ℝ) (aux : Fin a → Bool) : ℂ :=
  Complex.exp ((1 / 2 : ℂ) * ((logWeight am σ aux : ℝ) : ℂ) + (I / 2) * ((logWeight ph σ aux : ℝ) : ℂ))

/-- the guard: no auxiliary unit has `1 + e^{x_k + i y_k} = 0` -/
def NZ (am ph : PRBM ℝ n h a) (v vp : Fin n → ℝ) : Prop :=
  ∀ k, (1 : ℂ) + Complex.exp (((piArgRe am v vp k : ℝ) : ℂ) + ((piArgIm ph v vp k : ℝ) : ℂ) * I) ≠ 0

/-- the model's `rho v v'` (a real pair, as `cplx.make_complex` stores it) read as a complex number -/
noncomputable def rhoC (am ph : PRBM ℝ n h a) (v vp : Fin n → ℝ) : ℂ :=
  ⟨(rho am ph v vp).1, (rho am ph v vp).2⟩

/-- 0/1 encoding of a basis state -/
def bits (σ : Fin n → Bool) : Fin n → ℝ := fun j => bit (σ j)

/-- the model's `rho(space, space)` over the generated Hilbert space, as a complex matrix -/
noncomputable def rhoFullC (am ph : PRBM ℝ n h a) : Matrix (Fin (2 ^ n)) (Fin (2 ^ n)) ℂ :=
  fun k l => ⟨(rhoFull am ph k l).1, (rhoFull am ph k l).2⟩

/-- the same matrix indexed by bit-vectors -/
noncomputable def rhoMat (am ph : PRBM ℝ n h a) : Matrix (Fin n → Bool) (Fin n → Bool) ℂ :=
  fun σ τ => rhoC am ph (bits σ) (bits τ)

/-- SPEC. the purified state as a (visible × auxiliary) matrix -/
noncomputable def purMat (am ph : PRBM ℝ n h a) : Matrix (Fin n → Bool) (Fin a → Bool) ℂ :=
  fun σ aux => purAmp am ph (bits σ) aux

/-! ### Helper identities linking the specification to the model's building blocks -/

theorem logWeight_eq (r : PRBM ℝ n h a) (σ : Fin n → ℝ) (aux : Fin a → Bool) :
    logWeight r σ aux = r.visTerm σ + ∑ k, if aux k then r.preactA σ k else 0 := by
  have e1 : ∀ j, r.b j * σ j = σ j * r.b j := fun j => mul_comm _ _
  have e2 : ∀ i, r.c i + ∑ j, r.W i j * σ j = (∑ j, σ j * r.W i j) + r.c i := by
    intro i; rw [add_comm]; congr 1; exact Finset.sum_congr rfl (fun j _ => mul_comm _ _)
  have e3 : ∀ k, ∑ j, r.U k j * σ j = ∑ j, σ j * r.U k j :=
    fun k => Finset.sum_congr rfl (fun j _ => mul_comm _ _)
  unfold logWeight
  simp_rw [e1, e2, e3, PRBM.visTerm_eq, PRBM.preactH_eq, PRBM.preactA_eq]

theorem gammaPlus_add_aux (am : PRBM ℝ n h a) (v vp : Fin n → ℝ) (aux : Fin a → Bool) :
    am.gamma 1 v vp + ∑ k, (if aux k then piArgRe am v vp k else 0)
      = (logWeight am v aux + logWeight am vp aux) / 2 := by
  rw [logWeight_eq, logWeight_eq, PRBM.gamma_eq]
  have : ∑ k, (if aux k then piArgRe am v vp k else 0)
      = (∑ k, (if aux k then am.preactA v k else 0) + ∑ k, (if aux k then am.preactA vp k else 0)) / 2 := by
    rw [← Finset.sum_add_distrib, Finset.sum_div]
    refine Finset.sum_congr rfl (fun k _ => ?_)
    simp only [piArgRe, two_eq]
    split_ifs <;> ring
  rw [this]; ring

theorem gammaMinus_add_aux (ph : PRBM ℝ n h a) (v vp : Fin n → ℝ) (aux : Fin a → Bool) :
    ph.gamma (-1) v vp + ∑ k, (if aux k then piArgIm ph v vp k else 0)
      = (logWeight ph v aux - logWeight ph vp aux) / 2 := by
  rw [logWeight_eq, logWeight_eq, PRBM.gamma_eq]
  have : ∑ k, (if aux k then piArgIm ph v vp k else 0)
      = (∑ k, (if aux k then ph.preactA v k else 0) - ∑ k, (if aux k then ph.preactA vp k else 0)) / 2 := by
    rw [← Finset.sum_sub_distrib, Finset.sum_div]
    refine Finset.sum_congr rfl (fun k _ => ?_)
    simp only [piArgIm, two_eq, PRBM.preactA_eq, sumFin_eq]
    split_ifs <;> ring
  rw [this]; ring

theorem purAmp_mul_conj (am ph : PRBM ℝ n h a) (v vp : Fin n → ℝ) (aux : Fin a → Bool) :
    purAmp am ph v aux * conj (purAmp am ph vp aux)
      = Complex.exp ((((logWeight am v aux + logWeight am vp aux) / 2 : ℝ) : ℂ)
          + (((logWeight ph v aux - logWeight ph vp aux) / 2 : ℝ) : ℂ) * I) := by
  unfold purAmp
  rw [← Complex.exp_conj, ← Complex.exp_add]
  congr 1
  simp only [map_add, map_mul, map_div₀, Complex.conj_ofReal, Complex.conj_I, map_one, map_ofNat]
  push_cast
  ring

theorem NZ_self (am ph : PRBM ℝ n h a) (v : Fin n → ℝ) : NZ am ph v v := by
  intro k
  rw [piArgIm_self, one_add_cexp]
  intro h0
  have := congrArg Complex.re h0
  simp only [Real.cos_zero, mul_one, Complex.zero_re] at this
  linarith [Real.exp_pos (piArgRe am v v k)]

/-! ### C02.1 — the analytic auxiliary trace, one unit -/

/-- **C02.1** per auxiliary unit, `exp(Re Π + i Im Π) = 1 + e^{x+iy}` for the code's
`log √(1 + 2eˣcos y + e²ˣ)` and `atan2(eˣ sin y, 1 + eˣ cos y)`, whenever the right side is non-zero. -/
theorem C02_pi_unit (x y : ℝ) (hz : (1 : ℂ) + Complex.exp ((x : ℂ) + (y : ℂ) * I) ≠ 0) :
    Complex.exp (((piRe1 x y : ℝ) : ℂ) + ((piIm1 x y : ℝ) : ℂ) * I)
      = 1 + Complex.exp ((x : ℂ) + (y : ℂ) * I) :=
  pi_unit x y hz

/-- the guard can only fail at `x = 0`, `cos y = -1` (i.e. `y` an odd multiple of `π`) -/
theorem C02_guard_fails_only_at (x y : ℝ)
    (h0 : (1 : ℂ) + Complex.exp ((x : ℂ) + (y : ℂ) * I) = 0) : x = 0 ∧ Real.cos y = -1 := by
  rw [one_add_cexp] at h0
  have hre : 1 + Real.exp x * Real.cos y = 0 := congrArg Complex.re h0
  have hs : Real.sin y = 0 := (mul_eq_zero.mp (congrArg Complex.im h0)).resolve_left (Real.exp_pos x).ne'
  rcases Real.sin_eq_zero_iff_cos_eq.mp hs with h1 | h1 <;> rw [h1] at hre
  · linarith [Real.exp_pos x]
  · exact ⟨(Real.exp_eq_one_iff x).mp (by linarith), h1⟩

/-- sufficient condition: `|y_k| < π` for every auxiliary unit -/
theorem C02_NZ_of_abs_lt_pi (am ph : PRBM ℝ n h a) (v vp : Fin n → ℝ)
    (hy : ∀ k, |piArgIm ph v vp k| < Real.pi) : NZ am ph v vp := by
  intro k h0
  -- `cos` is strictly decreasing on `[0, π]`, so `-1 = cos π < cos |y|`
  have hlt := Real.cos_lt_cos_of_nonneg_of_le_pi (abs_nonneg _) le_rfl (hy k)
  rw [Real.cos_pi, Real.cos_abs] at hlt
  exact hlt.ne' (C02_guard_fails_only_at _ _ h0).2

/-- sufficient condition on the parameters alone: if every row of the phase network's auxiliary
weights has `Σ_j |U_μ k j| < 2π`, the guard holds for every pair of basis states. -/
theorem C02_NZ_of_phase_weights_small (am ph : PRBM ℝ n h a)
    (hU : ∀ k, ∑ j, |ph.U k j| < 2 * Real.pi) (σ τ : Fin n → Bool) :
    NZ am ph (bits σ) (bits τ) := by
  refine C02_NZ_of_abs_lt_pi am ph _ _ fun k => ?_
  rw [piArgIm_eq, abs_div, abs_two, div_lt_iff₀ two_pos, mul_comm]
  refine lt_of_le_of_lt ((Finset.abs_sum_le_sum_abs _ _).trans (Finset.sum_le_sum fun j _ => ?_)) (hU k)
  rw [abs_mul]
  refine mul_le_of_le_one_left (abs_nonneg _) ?_
  unfold bits bit
  cases σ j <;> cases τ j <;> norm_num

/-- sufficient condition on the AMPLITUDE network only: the guard can fail only at
`x_k = 0`, so it holds whenever no auxiliary unit has `x_k = ((U_λ v + d_λ) + (U_λ v' + d_λ))_k / 2 = 0` —
whatever the phase network is (in particular for phase weights of magnitude 30, where
`C02_NZ_of_phase_weights_small` does not apply). -/
theorem C02_NZ_of_x_ne_zero (am ph : PRBM ℝ n h a) (v vp : Fin n → ℝ)
    (hx : ∀ k, piArgRe am v vp k ≠ 0) : NZ am ph v vp :=
  fun k h0 => hx k (C02_guard_fails_only_at _ _ h0).1

/-- the same condition written on the parameters: for a pair of basis states `x_k = 0` is the hyperplane
`Σ_j U_λ[k,j] (σ_j + τ_j) + 2 d_λ[k] = 0` in the amplitude network's auxiliary weights and bias. Off these
finitely many hyperplanes (`a · 3ⁿ` of them: `σ + τ ∈ {0,1,2}ⁿ`) the guard holds for every pair of basis
states and EVERY phase network. -/
theorem C02_NZ_of_amp_off_hyperplanes (am ph : PRBM ℝ n h a)
    (hU : ∀ (k : Fin a) (σ τ : Fin n → Bool),
      ∑ j, am.U k j * (bits σ j + bits τ j) + 2 * am.d k ≠ 0) (σ τ : Fin n → Bool) :
    NZ am ph (bits σ) (bits τ) := by
  refine C02_NZ_of_x_ne_zero am ph _ _ fun k hk => hU k σ τ ?_
  rw [piArgRe_eq] at hk
  linarith

/-! ### C02.2 — entry for entry the partial trace over the auxiliary units -/

/-- **C02.2** `rho v v' = Σ_{aux ∈ 𝔹ᴬ} φ(v,aux) · conj φ(v',aux)` for all real visible vectors. -/
theorem C02_rho_eq_partial_trace (am ph : PRBM ℝ n h a) (v vp : Fin n → ℝ) (hz : NZ am ph v vp) :
    rhoC am ph v vp = ∑ aux : Fin a → Bool, purAmp am ph v aux * conj (purAmp am ph vp aux) := by
  unfold rhoC
  -- `e^{Γ} ∏_k (1 + e^{z_k}) = Σ_aux e^{Γ + Σ_k aux_k z_k}`; what remains is to compare the exponents for each `aux`
  rw [rho_complex_eq am ph v vp hz, ← sum_aux_exp]
  refine Finset.sum_congr rfl (fun aux _ => ?_)
  have hsum : ∑ k, (if aux k then ((piArgRe am v vp k : ℝ) : ℂ) + ((piArgIm ph v vp k : ℝ) : ℂ) * I else 0)
      = ((∑ k, (if aux k then piArgRe am v vp k else 0) : ℝ) : ℂ)
        + ((∑ k, (if aux k then piArgIm ph v vp k else 0) : ℝ) : ℂ) * I := by
    rw [Complex.ofReal_sum, Complex.ofReal_sum, Finset.sum_mul, ← Finset.sum_add_distrib]
    refine Finset.sum_congr rfl (fun k _ => ?_)
    split_ifs <;> simp
  rw [purAmp_mul_conj, ← gammaPlus_add_aux, ← gammaMinus_add_aux, hsum]
  congr 1
  push_cast
  ring

/-- **C02.2b** the partial trace does not depend on the phase network's auxiliary bias `d_μ`. -/
theorem C02_phase_aux_bias_irrelevant (am ph : PRBM ℝ n h a) (d' : Fin a → ℝ) (v vp : Fin n → ℝ) :
    ∑ aux : Fin a → Bool, purAmp am ph v aux * conj (purAmp am ph vp aux)
      = ∑ aux : Fin a → Bool, purAmp am { ph with d := d' } v aux * conj (purAmp am { ph with d := d' } vp aux) := by
  refine Finset.sum_congr rfl (fun aux _ => ?_)
  rw [purAmp_mul_conj, purAmp_mul_conj]
  have key : ∀ r : PRBM ℝ n h a, logWeight r v aux - logWeight r vp aux
      = (∑ j, r.b j * v j + ∑ i, Real.log (1 + Real.exp (r.c i + ∑ j, r.W i j * v j)))
        - (∑ j, r.b j * vp j + ∑ i, Real.log (1 + Real.exp (r.c i + ∑ j, r.W i j * vp j)))
        + ∑ k, if aux k then (∑ j, r.U k j * v j) - (∑ j, r.U k j * vp j) else 0 := by
    intro r
    unfold logWeight
    rw [add_sub_add_comm, ← Finset.sum_sub_distrib]
    congr 1
    refine Finset.sum_congr rfl (fun k _ => ?_)
    split_ifs <;> ring
  rw [key ph, key { ph with d := d' }]

/-- … and the MODEL's `rho` ignores `d_μ` exactly as the code does (`F.linear(v, rbm_ph.weights_U)` has
no bias argument; `gamma` never touches the auxiliary layer). -/
theorem C02_rho_indep_phase_aux_bias (am ph : PRBM ℝ n h a) (d' : Fin a → ℝ) (v vp : Fin n → ℝ) :
    rho am { ph with d := d' } v vp = rho am ph v vp := rfl

/-! ### C02.4 — the diagonal -/

/-- **C02.4** (no guard) `rho σ σ = (exp(−E_λ σ), 0) = (probability σ 1, 0)` with `E_λ` the
auxiliary-traced effective energy of the amplitude network. -/
theorem C02_diagonal (am ph : PRBM ℝ n h a) (v : Fin n → ℝ) :
    rho am ph v v = (Real.exp (-(am.effEnergy v)), 0)
      ∧ rho am ph v v = (probability am v 1, 0) := by
  have hphs : ph.gamma (-1) v v = 0 := by rw [PRBM.gamma_eq]; ring
  have hamp : am.gamma 1 v v = am.visTerm v := by rw [PRBM.gamma_eq]; ring
  have h1 : rho am ph v v = (Real.exp (-(am.effEnergy v)), 0) := by
    simp only [rho, Density.pi, piArgIm_self, piArgRe_self, piRe1_zero, piIm1_zero, hphs, hamp,
      sumFin_eq, Finset.sum_const_zero, add_zero, transc_exp, transc_cos, transc_sin,
      Real.cos_zero, Real.sin_zero, mul_one, mul_zero, PRBM.neg_effEnergy_eq]
  refine ⟨h1, ?_⟩
  rw [h1]; simp [probability]

/-- **C02.6d** `rho(v, expand=False)` with `vp=None` (= `make_complex(probability(v))`) is the diagonal
element of `rho`. -/
theorem C02_rhoDiag_eq_rho_diag (am ph : PRBM ℝ n h a) (v : Fin n → ℝ) :
    rhoDiag am v = rho am ph v v := by
  rw [(C02_diagonal am ph v).2]; rfl

/-- the diagonal is itself the partial trace (the guard holds automatically there):
`probability σ 1 = Σ_aux |φ(σ,aux)|²`. -/
theorem C02_probability_eq_partial_trace (am ph : PRBM ℝ n h a) (v : Fin n → ℝ) :
    ((probability am v 1 : ℝ) : ℂ)
      = ∑ aux : Fin a → Bool, purAmp am ph v aux * conj (purAmp am ph v aux) := by
  rw [← C02_rho_eq_partial_trace am ph v v (NZ_self am ph v)]
  unfold rhoC
  rw [(C02_diagonal am ph v).2]
  apply Complex.ext <;> simp

/-- `|φ(σ,aux)|² = exp(−E_λ(σ,aux))`, the un-traced effective energy `effective_energy(v, a)` of the
amplitude network: the unnormalised probability is the auxiliary marginal
`probability σ 1 = Σ_aux exp(−E_λ(σ,aux))` of the distribution the Gibbs sampler targets. -/
theorem C02_probability_eq_aux_marginal (am : PRBM ℝ n h a) (v : Fin n → ℝ) :
    probability am v 1 = ∑ aux : Fin a → Bool, Real.exp (-(am.effEnergyAux v (fun k => bit (aux k)))) := by
  have hE : ∀ aux : Fin a → Bool,
      -(am.effEnergyAux v (fun k => bit (aux k))) = logWeight am v aux := by
    intro aux
    rw [logWeight_eq]
    simp only [PRBM.effEnergyAux, neg_neg, dot_eq, sumFin_eq, PRBM.preactA_eq]
    rw [add_assoc, ← Finset.sum_add_distrib]
    congr 1
    refine Finset.sum_congr rfl (fun k _ => ?_)
    simp only [bit]
    split_ifs
    · rw [← Finset.sum_mul]; ring
    · simp
  have hexp : ∀ k, Real.exp (Real.log (1 + Real.exp (am.preactA v k))) = 1 + Real.exp (am.preactA v k) :=
    fun k => Real.exp_log (by positivity)
  -- `∏_k (1 + e^{x_k})` expands over all auxiliary configurations
  simp only [probability, transc_exp, div_one, PRBM.neg_effEnergy_eq, hE, logWeight_eq]
  rw [Real.exp_add, Real.exp_sum _ fun k => Real.log (1 + Real.exp (am.preactA v k))]
  simp_rw [hexp, prod_one_add_eq_sum_bool, Finset.mul_sum]
  simp only [Real.exp_add, Real.exp_sum, apply_ite Real.exp, Real.exp_zero]

/-! ### C02.3 — Hermitian, positive semidefinite -/

/-- Hermiticity entry by entry, for all real visible vectors and WITHOUT the guard:
`rho v' v = conj (rho v v')`. -/
theorem C02_hermitian_entry (am ph : PRBM ℝ n h a) (v vp : Fin n → ℝ) :
    rhoC am ph vp v = conj (rhoC am ph v vp) := by
  have hx : ∀ k, piArgRe am vp v k = piArgRe am v vp k := by
    intro k; simp only [piArgRe]; ring
  have hy : ∀ k, piArgIm ph vp v k = -(piArgIm ph v vp k) := by
    intro k; simp only [piArgIm, two_eq]; ring
  have hgp : am.gamma 1 vp v = am.gamma 1 v vp := by rw [PRBM.gamma_eq, PRBM.gamma_eq]; ring
  have hgm : ph.gamma (-1) vp v = -(ph.gamma (-1) v vp) := by
    rw [PRBM.gamma_eq, PRBM.gamma_eq]; ring
  unfold rhoC
  rw [rho_complex_prod, rho_complex_prod, map_mul, map_prod, ← Complex.exp_conj]
  simp only [hx, hy, hgp, hgm, pi_unit_conj]
  congr 2
  simp

/-- under the guard the density matrix factors through the purified state: `R = B · Bᴴ` -/
theorem rhoMat_eq_mul_conjTranspose (am ph : PRBM ℝ n h a)
    (hz : ∀ σ τ : Fin n → Bool, NZ am ph (bits σ) (bits τ)) :
    rhoMat am ph = purMat am ph * (purMat am ph).conjTranspose := by
  ext σ τ
  rw [Matrix.mul_apply]
  simp only [rhoMat, purMat, Matrix.conjTranspose_apply]
  exact C02_rho_eq_partial_trace am ph _ _ (hz σ τ)

/-- **C02.3a** the matrix `rho(space, space)` over the generated Hilbert space is Hermitian
(for all parameters, no guard). -/
theorem C02_hermitian (am ph : PRBM ℝ n h a) : (rhoFullC am ph).IsHermitian := by
  ext k l
  rw [Matrix.conjTranspose_apply]
  change conj (rhoC am ph (spaceRow n l.val) (spaceRow n k.val))
    = rhoC am ph (spaceRow n k.val) (spaceRow n l.val)
  exact (C02_hermitian_entry am ph _ _).symm

/-- **C02.3b** the matrix `rho(space, space)` over the generated Hilbert space is positive
semidefinite whenever the guard holds for all pairs of basis states. -/
theorem C02_posSemidef (am ph : PRBM ℝ n h a)
    (hz : ∀ σ τ : Fin n → Bool, NZ am ph (bits σ) (bits τ)) :
    (rhoFullC am ph).PosSemidef := by
  rw [show rhoFullC am ph = (rhoMat am ph).submatrix (rowEquiv n) (rowEquiv n) from rfl,
    rhoMat_eq_mul_conjTranspose am ph hz]
  exact (Matrix.posSemidef_self_mul_conjTranspose _).submatrix _

/-- **C02.3c** in particular for every parameter setting with `Σ_j |U_μ k j| < 2π` per auxiliary unit. -/
theorem C02_posSemidef_of_phase_weights_small (am ph : PRBM ℝ n h a)
    (hU : ∀ k, ∑ j, |ph.U k j| < 2 * Real.pi) : (rhoFullC am ph).PosSemidef :=
  C02_posSemidef am ph (C02_NZ_of_phase_weights_small am ph hU)

/-- **C02.3d** positive semidefinite under a condition on the amplitude network's auxiliary
pre-activations only: no pair of basis states with `x_k = 0`. No restriction on the phase network. -/
theorem C02_posSemidef_of_x_ne_zero (am ph : PRBM ℝ n h a)
    (hx : ∀ (k : Fin a) (σ τ : Fin n → Bool), piArgRe am (bits σ) (bits τ) k ≠ 0) :
    (rhoFullC am ph).PosSemidef :=
  C02_posSemidef am ph (fun σ τ => C02_NZ_of_x_ne_zero am ph _ _ (fun k => hx k σ τ))

/-- **C02.3e** … and on the parameters: off the hyperplanes `Σ_j U_λ[k,j] (σ_j + τ_j) + 2 d_λ[k] = 0`. -/
theorem C02_posSemidef_of_amp_off_hyperplanes (am ph : PRBM ℝ n h a)
    (hU : ∀ (k : Fin a) (σ τ : Fin n → Bool),
      ∑ j, am.U k j * (bits σ j + bits τ j) + 2 * am.d k ≠ 0) :
    (rhoFullC am ph).PosSemidef :=
  C02_posSemidef am ph (C02_NZ_of_amp_off_hyperplanes am ph hU)

/-- **C02.2c** the partial-trace identity for every pair of basis states under the same parameter condition. -/
theorem C02_rho_eq_partial_trace_of_amp_off_hyperplanes (am ph : PRBM ℝ n h a)
    (hU : ∀ (k : Fin a) (σ τ : Fin n → Bool),
      ∑ j, am.U k j * (bits σ j + bits τ j) + 2 * am.d k ≠ 0) (σ τ : Fin n → Bool) :
    rhoC am ph (bits σ) (bits τ)
      = ∑ aux : Fin a → Bool, purAmp am ph (bits σ) aux * conj (purAmp am ph (bits τ) aux) :=
  C02_rho_eq_partial_trace am ph _ _ (C02_NZ_of_amp_off_hyperplanes am ph hU σ τ)

/-! ### C02.5 — the trace -/

/-- **C02.5** (no guard) the real parts of the diagonal of `rho(space, space)` sum to the reported
normalisation `rbm_am.partition(space)` (model's stable log-sum-exp), the imaginary parts vanish. -/
theorem C02_trace (am ph : PRBM ℝ n h a) :
    ∑ k : Fin (2 ^ n), (rhoFull am ph k k).1
        = normalization am (fun k : Fin (2 ^ n) => (spaceRow n k.val : Fin n → ℝ))
      ∧ ∀ k : Fin (2 ^ n), (rhoFull am ph k k).2 = 0 := by
  constructor
  · simp only [normalization, PRBM.partition, transc_exp]
    rw [exp_logSumExp _ _ (Nat.pos_of_ne_zero (by positivity))]
    refine Finset.sum_congr rfl (fun k _ => ?_)
    simp only [rhoFull, rhoMatrix]
    rw [(C02_diagonal am ph _).1]
  · intro k
    simp only [rhoFull, rhoMatrix]
    rw [(C02_diagonal am ph _).1]

/-- the trace of the complex matrix is the (real) normalisation -/
theorem C02_trace_matrix (am ph : PRBM ℝ n h a) :
    (rhoFullC am ph).trace
      = ((normalization am (fun k : Fin (2 ^ n) => (spaceRow n k.val : Fin n → ℝ)) : ℝ) : ℂ) := by
  rw [← (C02_trace am ph).1, Matrix.trace]
  push_cast
  refine Finset.sum_congr rfl (fun k _ => ?_)
  simp only [Matrix.diag_apply, rhoFullC]
  apply Complex.ext
  · simp
  · simp [(C02_trace am ph).2 k]

/-- the normalisation is the sum over ALL bit-vectors of the unnormalised probabilities -/
theorem C02_normalization (am : PRBM ℝ n h a) :
    normalization am (fun k : Fin (2 ^ n) => (spaceRow n k.val : Fin n → ℝ))
      = ∑ σ : Fin n → Bool, probability am (bits σ) 1 := by
  simp only [normalization, PRBM.partition, transc_exp]
  rw [exp_logSumExp _ _ (Nat.pos_of_ne_zero (by positivity))]
  rw [← sum_rows n (fun σ => probability am (bits σ) 1)]
  refine Finset.sum_congr rfl (fun k _ => ?_)
  simp only [probability, transc_exp, div_one]
  rfl

theorem C02_normalization_pos (am : PRBM ℝ n h a) :
    0 < normalization am (fun k : Fin (2 ^ n) => (spaceRow n k.val : Fin n → ℝ)) := by
  simp only [normalization, PRBM.partition, transc_exp]
  exact Real.exp_pos _

/-- with `Z = normalization` the diagonal of `rho/Z` sums to one (unit trace) -/
theorem C02_unit_trace (am : PRBM ℝ n h a) :
    ∑ σ : Fin n → Bool, probability am (bits σ)
        (normalization am (fun k : Fin (2 ^ n) => (spaceRow n k.val : Fin n → ℝ))) = 1 := by
  have hZ := C02_normalization_pos am
  have h1 : ∀ σ : Fin n → Bool, probability am (bits σ)
        (normalization am (fun k : Fin (2 ^ n) => (spaceRow n k.val : Fin n → ℝ)))
      = probability am (bits σ) 1
        / (normalization am (fun k : Fin (2 ^ n) => (spaceRow n k.val : Fin n → ℝ))) := by
    intro σ; simp [probability]
  simp_rw [h1]
  rw [← Finset.sum_div, ← C02_normalization, div_self hZ.ne']

/-! ### C02.4s — the diagonal is the distribution the state SAMPLES FROM -/

/-- **C02.4s** "its diagonal equals the unnormalised probabilities the model reports AND SAMPLES FROM":
for every number of passes `k` and every `Z` (in particular `Z` = the trace), the diagonal of `rho`
divided by `Z` is stationary for the law of the sampler `PurificationRBM.gibbs_steps` — the program
`PRBM.gibbsSteps` that the harness replays against the real `DensityMatrix.sample` on scripted draws:
`Σ_v (rho v v).1 / Z · law (gibbsSteps k v) w = (rho w w).1 / Z`, and the `k`-pass law is reversible
with respect to it. -/
theorem C02_diagonal_sampled (am ph : PRBM ℝ n h a) (Z : ℝ) (k : ℕ) (v w : Fin n → Bool) :
    ∑ u : Fin n → Bool, (rho am ph (bits u) (bits u)).1 / Z * (am.gibbsSteps k u).law w
        = (rho am ph (bits w) (bits w)).1 / Z
    ∧ (rho am ph (bits v) (bits v)).1 / Z * (am.gibbsSteps k v).law w
        = (rho am ph (bits w) (bits w)).1 / Z * (am.gibbsSteps k w).law v := by
  have hd : ∀ u : Fin n → Bool, (rho am ph (bits u) (bits u)).1 / Z = C05.prbmPi am Z u := by
    intro u
    rw [(C02_diagonal am ph (bits u)).2]
    have hb : (bits u : Fin n → ℝ) = bvec u := rfl
    simp [C05.prbmPi, probability, hb]
  simp only [hd]
  refine ⟨?_, ?_⟩
  · simpa [Matrix.vecMul, dotProduct, C05.C05_k_step_law_purif] using
      congrFun (C05.C05_invariant_k_purif am Z k) w
  · simp only [C05.C05_k_step_law_purif]
    exact detailed_balance_pow _ _ (C05.C05_detailed_balance_purif am Z) k v w

/-! ### C02.6 — call forms -/

/-- **C02.6** the three call forms (and the `vp=None` short-cut) return the same elements:
`expand=True` entry `[i,j]` is `rho v_i v'_j`, `expand=False` entry `[i]` is `rho v_i v'_i` (the diagonal of
the `expand=True` matrix), the 1-D form (which runs `gamma`'s separate 1-D branch) is `rho v v'`, and
`rho(v, expand=False)` alone is `rho v_i v_i`.  Stated for the entrywise definitions `rhoMatrix`, `rhoPaired`,
`rhoVec`, `rhoDiagBatch`, of which the first two are pointwise by definition; that the code's rank tests,
`unsqueeze_`s and broadcasting produce these entries is C02.7a–f below. -/
theorem C02_call_forms (am ph : PRBM ℝ n h a) {B B' : ℕ} (vs vs' : Fin B → Fin n → ℝ)
    (ws : Fin B' → Fin n → ℝ) :
    (∀ i j, rhoMatrix am ph vs ws i j = rho am ph (vs i) (ws j))
      ∧ (∀ i, rhoPaired am ph vs vs' i = rhoMatrix am ph vs vs' i i)
      ∧ (∀ v vp : Fin n → ℝ, rhoVec am ph v vp = rho am ph v vp)
      ∧ (∀ i, rhoDiagBatch am vs i = rhoPaired am ph vs vs i) := by
  refine ⟨fun _ _ => rfl, fun _ => rfl, fun v vp => ?_, fun i => ?_⟩
  · simp only [rhoVec, rho, PRBM.gammaVec_eq_gamma]
  · exact C02_rhoDiag_eq_rho_diag am ph (vs i)

/-- **C02.6e** the call forms for the OBJECT passed as `expand` (documented as `bool`; `1` / `0`, `numpy.bool_` values, 0-dim bool
arrays / tensors are what callers also pass).  `rho` hands the same object to `pi`, `gamma(+1)` and `gamma(-1)`, each of which tests
its truth value, and takes the `vp=None` short-cut only for the singleton `False`; for EVERY object the result is defined (the three
factors agree on the layout) and is the full matrix `[i,j] ↦ rho v_i v'_j` exactly when the object is truthy, the paired vector
`[i] ↦ rho v_i v'_i` otherwise (with `v' = v` when `vp=None`).  (In the model of a slip that tests `expand is True` inside `gamma`
only, `rhoFlagged … (PyFlag.npBool true) …` is `none`: a vector broadcast against a matrix.) -/
theorem C02_expand_flag (am ph : PRBM ℝ n h a) (expand : PyFlag) {B : ℕ} (vs : Fin B → Fin n → ℝ)
    (vps : Option (Fin B → Fin n → ℝ)) :
    rhoFlagged am ph expand vs vps
        = some (if expand.truthy then RhoOut.matrix (fun i j => rho am ph (vs i) ((vps.getD vs) j))
                else RhoOut.vector (fun i => rho am ph (vs i) ((vps.getD vs) i)))
      ∧ gammaForm expand = (if expand.truthy then CallForm.matrix else CallForm.paired)
      ∧ piForm expand = gammaForm expand := by
  refine ⟨?_, rfl, rfl⟩
  unfold rhoFlagged rhoForm piForm gammaForm
  by_cases hF : expand.isFalseSingleton = true
  -- the singleton `False`: falsy; the short-cut is taken iff `vp=None`, and it returns the paired diagonal
  · have ht := PyFlag.not_truthy_of_isFalseSingleton hF
    cases vps with
    | none =>
      simp only [hF, ht, Option.isNone_none, Bool.and_self, if_true, Bool.false_eq_true, if_false, Option.getD_none]
      congr 2
      funext i
      exact C02_rhoDiag_eq_rho_diag am ph (vs i)
    | some ws => simp [ht]; rfl
  -- any other object: no short-cut, the layout is decided by its truth value
  · cases ht : expand.truthy <;> simp [hF] <;> rfl

/-- **C02.6f** … and therefore, whatever object is passed, every returned element is the partial trace over the auxiliary units
of the purified state (under the guard of `C02_rho_eq_partial_trace`). -/
theorem C02_expand_flag_partial_trace (am ph : PRBM ℝ n h a) (expand : PyFlag) {B : ℕ} (vs : Fin B → Fin n → ℝ)
    (vps : Option (Fin B → Fin n → ℝ)) (hz : ∀ i j, NZ am ph (vs i) ((vps.getD vs) j)) :
    (expand.truthy = true → ∃ m, rhoFlagged am ph expand vs vps = some (.matrix m) ∧
        ∀ i j, (⟨(m i j).1, (m i j).2⟩ : ℂ)
          = ∑ aux : Fin a → Bool, purAmp am ph (vs i) aux * conj (purAmp am ph ((vps.getD vs) j) aux))
    ∧ (expand.truthy = false → ∃ p, rhoFlagged am ph expand vs vps = some (.vector p) ∧
        ∀ i, (⟨(p i).1, (p i).2⟩ : ℂ)
          = ∑ aux : Fin a → Bool, purAmp am ph (vs i) aux * conj (purAmp am ph ((vps.getD vs) i) aux)) := by
  have hf := (C02_expand_flag am ph expand vs vps).1
  refine ⟨fun ht => ?_, fun ht => ?_⟩
  · rw [ht] at hf
    exact ⟨_, hf, fun i j => C02_rho_eq_partial_trace am ph (vs i) ((vps.getD vs) j) (hz i j)⟩
  · rw [ht] at hf
    exact ⟨_, hf, fun i => C02_rho_eq_partial_trace am ph (vs i) ((vps.getD vs) i) (hz i i)⟩

/-! ### Non-vacuity -/

/-- A concrete mixed-state model (`n = 2`, `h = 3`, `a = 2`; every weight and bias of both networks
non-zero, including `d_μ`) satisfies the guard for all pairs of basis states (`Σ_j |U_μ k j| = 3/2 < 2π`), so
its density matrix is positive semidefinite by `C02_posSemidef`. -/
example :
    let am : PRBM ℝ 2 3 2 := ⟨fun i j => (i.val : ℝ) - j.val + 0.5, fun k j => (k.val : ℝ) + j.val - 2.5,
      fun j => if j = 0 then -1.5 else 2, fun i => if i = 0 then 0.7 else -0.3, fun k => if k = 0 then 1.2 else -0.4⟩
    let ph : PRBM ℝ 2 3 2 := ⟨fun i j => 0.3 * (i.val : ℝ) - j.val + 0.25, fun k j => if k.val = j.val then 1 else -0.5,
      fun j => if j = 0 then 0.5 else -1, fun i => if i = 0 then -0.2 else 0.9, fun _ => 0.8⟩
    (rhoFullC am ph).PosSemidef ∧ (rhoFullC am ph).IsHermitian := by
  intro am ph
  refine ⟨C02_posSemidef_of_phase_weights_small am ph (fun k => ?_), C02_hermitian am ph⟩
  have hsum : ∑ j, |ph.U k j| = 3 / 2 := by
    rw [Fin.sum_univ_two]
    fin_cases k <;> norm_num [ph]
  linarith [Real.two_le_pi]

/-- non-vacuity of `C02_posSemidef_of_amp_off_hyperplanes` in the quantifier's magnitude-30 regime: amplitude
auxiliary weights all 30 and biases 7.3 (every `x_k ≥ 7.3 > 0`), the PHASE network completely arbitrary
(e.g. weights of magnitude 30, where `Σ_j |U_μ k j| < 2π` fails): positive semidefinite for every architecture. -/
example (am ph : PRBM ℝ n h a) (hU : ∀ k j, am.U k j = 30) (hd : ∀ k, am.d k = 7.3) :
    (rhoFullC am ph).PosSemidef := by
  apply C02_posSemidef_of_amp_off_hyperplanes
  intro k σ τ
  have h0 : 0 ≤ ∑ j, am.U k j * (bits σ j + bits τ j) := by
    apply Finset.sum_nonneg
    intro j _
    rw [hU]
    have h1 : (0 : ℝ) ≤ bits σ j := by simp only [bits, bit]; split_ifs <;> norm_num
    have h2 : (0 : ℝ) ≤ bits τ j := by simp only [bits, bit]; split_ifs <;> norm_num
    positivity
  rw [hd]
  intro hcon
  linarith

/-- the guard is not vacuous either way: at `x = 0`, `y = π` the excluded point `1 + e^{iπ} = 0` is real. -/
example : (1 : ℂ) + Complex.exp (((0 : ℝ) : ℂ) + ((Real.pi : ℝ) : ℂ) * I) = 0 := by
  simp [Complex.exp_pi_mul_I]


/-! ### The call forms of `rho` / `pi` / `gamma` AS THE CODE COMPUTES THEM

`Density.rhoCall` / `piCall` / `PRBM.gammaCall` (QV/Model/Density.lean) transcribe the rank tests, `unsqueeze_`s and broadcasting of
density_matrix.py:131-158, 265-274 and purification_rbm.py:375-396 on tensors (`FT`).  That entry `[i, j]` pairs row `i` of `v` with
row `j` of `v'`, that `expand=False` pairs row `i` with row `i`, which rank combinations are refused, and that the separately coded
both-1-D branch of `gamma` computes the same number, are THEOREMS about those transcriptions (the pointwise `rhoMatrix`, `rhoPaired`,
`rhoVecBatch`, … are the values they are proved equal to).  The complex number of an entry is `Complex.mk re im`. -/

/-- the partial trace over the auxiliary units that `C02_rho_eq_partial_trace` identifies `rho v v'` with -/
noncomputable def ptrace (am ph : PRBM ℝ n h a) (v vp : Fin n → ℝ) : ℂ :=
  ∑ aux : Fin a → Bool, purAmp am ph v aux * conj (purAmp am ph vp aux)

/-- **C02.7a** single element (both arguments 1-D, `expand` ignored; also `rho(v)` alone with `expand=True`): accepted, 0-dim, and the
value is the SAME scalar `rho v v'` as an entry of the batched forms although `gamma` computes it in a separate branch
(`dot(v + sign·v', b) + Σ softplus(W v + c) + sign·Σ softplus(W v' + c)`) — for all `v`, `v'`, in particular `v ≠ v'`, where a second
softplus term evaluated on `v` instead of `v'` would differ.  Hence (guard `NZ`) it is the partial trace. -/
theorem C02_call_forms_single (am ph : PRBM ℝ n h a) (v vp : Fin n → ℝ) (e : Bool) :
    (∃ o, rhoCall am ph (.scalar v) (some (.scalar vp)) e = .ok o ∧ o.shape = [] ∧ o.get [] = rho am ph v vp
        ∧ (NZ am ph v vp → (⟨(o.get []).1, (o.get []).2⟩ : ℂ) = ptrace am ph v vp))
      ∧ (∃ o, rhoCall am ph (.scalar v) none true = .ok o ∧ o.shape = [] ∧ o.get [] = rho am ph v v)
      ∧ (∀ sgn : ℝ, ∀ r : PRBM ℝ n h a, r.gammaCall sgn (.scalar v) (.scalar vp) e = .ok (.scalar (r.gamma sgn v vp)))
      ∧ (∃ p, piCall am ph (.scalar v) (.scalar vp) e = .ok p ∧ p.shape = [] ∧ p.get [] = pi am ph v vp) := by
  have hvec : ∀ w wp : Fin n → ℝ, rhoVec am ph w wp = rho am ph w wp := fun w wp => by
    simp only [rhoVec, rho, PRBM.gammaVec_eq_gamma]
  refine ⟨?_, ?_, fun sgn r => ?_, (piCall_vec_vec am ph v vp e).scalar⟩
  · obtain ⟨o, ho, hs, hg⟩ := (rhoCall_vec_vec am ph v vp e).scalar
    refine ⟨o, ho, hs, ?_⟩
    rw [hg, hvec]
    exact ⟨rfl, C02_rho_eq_partial_trace am ph v vp⟩
  · rw [rhoCall_none]
    obtain ⟨o, ho, hs, hg⟩ := (rhoCall_vec_vec am ph v v true).scalar
    exact ⟨o, ho, hs, by rw [hg, hvec]⟩
  · rw [PRBM.gammaCall_vec_vec, PRBM.gammaVec_eq_gamma]

/-- **C02.7b** full matrix (`expand=True`, `(B, n)` against `(B', n)`, any `B`, `B'` incl. 0 and 1; `vp=None` means `v' = v`): accepted,
shape `(B, B')`, entry `[i, j]` is `rho v_i v'_j` — row index from the FIRST argument — hence the partial trace; the factors `gamma`
and `pi` have the same layout. -/
theorem C02_call_forms_matrix (am ph : PRBM ℝ n h a) (B B' : ℕ) (vs vps : ℕ → Fin n → ℝ) :
    (∃ o, rhoCall am ph (.ofRows B vs) (some (.ofRows B' vps)) true = .ok o ∧ o.shape = [B, B']
        ∧ ∀ i j, i < B → j < B' → o.get [i, j] = rho am ph (vs i) (vps j)
          ∧ (NZ am ph (vs i) (vps j) → (⟨(o.get [i, j]).1, (o.get [i, j]).2⟩ : ℂ) = ptrace am ph (vs i) (vps j)))
      ∧ (∃ o, rhoCall am ph (.ofRows B vs) none true = .ok o ∧ o.shape = [B, B]
        ∧ ∀ i j, i < B → j < B → o.get [i, j] = rho am ph (vs i) (vs j))
      ∧ (∀ sgn : ℝ, ∀ r : PRBM ℝ n h a, ∃ g, r.gammaCall sgn (.ofRows B vs) (.ofRows B' vps) true = .ok g ∧ g.shape = [B, B']
        ∧ ∀ i j, i < B → j < B' → g.get [i, j] = r.gamma sgn (vs i) (vps j))
      ∧ (∃ p, piCall am ph (.ofRows B vs) (.ofRows B' vps) true = .ok p ∧ p.shape = [B, B']
        ∧ ∀ i j, i < B → j < B' → p.get [i, j] = pi am ph (vs i) (vps j)) := by
  refine ⟨?_, ?_, fun sgn r => (r.gammaCall_matrix sgn B B' vs vps).ofRows2, (piCall_matrix am ph B B' vs vps).ofRows2⟩
  · obtain ⟨o, ho, hs, hg⟩ := (rhoCall_matrix am ph B B' vs vps).ofRows2
    refine ⟨o, ho, hs, fun i j hi hj => ?_⟩
    rw [hg i j hi hj]
    exact ⟨rfl, C02_rho_eq_partial_trace am ph _ _⟩
  · rw [rhoCall_none]
    exact (rhoCall_matrix am ph B B vs vs).ofRows2

/-- **C02.7c** paired vector (`expand=False`, both arguments batches): accepted EXACTLY when the batch sizes are equal or one of them
is 1 (`pairedBatch`: torch broadcasting of `(B,)` with `(B',)`), refused otherwise; entry `[i]` is `rho v_i v'_i`, a single row being
paired with every row of the other batch; with `vp=None` the call returns `make_complex(probability(v))`, which is that diagonal. -/
theorem C02_call_forms_paired (am ph : PRBM ℝ n h a) (B B' : ℕ) (vs vps : ℕ → Fin n → ℝ) :
    ((∃ o, rhoCall am ph (.ofRows B vs) (some (.ofRows B' vps)) false = .ok o) ↔ (B = B' ∨ B = 1 ∨ B' = 1))
      ∧ (∀ C, pairedBatch B B' = .ok C →
          ∃ o, rhoCall am ph (.ofRows B vs) (some (.ofRows B' vps)) false = .ok o ∧ o.shape = [C]
            ∧ ∀ i, i < C → o.get [i] = rho am ph (vs (if B = 1 then 0 else i)) (vps (if B' = 1 then 0 else i)))
      ∧ (∃ o, rhoCall am ph (.ofRows B vs) (some (.ofRows B vps)) false = .ok o ∧ o.shape = [B]
          ∧ ∀ i, i < B → o.get [i] = rho am ph (vs i) (vps i)
            ∧ (NZ am ph (vs i) (vps i) → (⟨(o.get [i]).1, (o.get [i]).2⟩ : ℂ) = ptrace am ph (vs i) (vps i)))
      ∧ (∃ o, rhoCall am ph (.ofRows B vs) none false = .ok o ∧ o.shape = [B]
          ∧ ∀ i, i < B → o.get [i] = rho am ph (vs i) (vs i)) := by
  have key : (∃ C, pairedBatch B B' = .ok C) ↔ (B = B' ∨ B = 1 ∨ B' = 1) := by
    unfold pairedBatch
    split_ifs <;> simp [*]
  refine ⟨?_, fun C hC => (rhoCall_paired am ph B B' vs vps hC).ofRows, ?_, ?_⟩
  · rw [← key]
    constructor
    · rintro ⟨o, ho⟩
      rcases hC : pairedBatch B B' with e | C
      · obtain ⟨e', he'⟩ := rhoCall_paired_error am ph B B' vs vps hC
        rw [he'] at ho
        cases ho
      · exact ⟨C, rfl⟩
    · rintro ⟨C, hC⟩
      obtain ⟨o, ho, -⟩ := rhoCall_paired am ph B B' vs vps hC
      exact ⟨o, ho⟩
  · obtain ⟨o, ho, hs, hg⟩ := (rhoCall_paired am ph B B vs vps (if_pos rfl)).ofRows
    refine ⟨o, ho, hs, fun i hi => ?_⟩
    rw [hg i hi, bsel_lt hi]
    exact ⟨rfl, C02_rho_eq_partial_trace am ph _ _⟩
  · refine ⟨_, rhoCall_diag am ph _, rfl, fun i _ => ?_⟩
    simpa [FT.map, FT.ofRows] using C02_rhoDiag_eq_rho_diag am ph (vs i)

/-- **C02.7d** mixed ranks, exactly as the code has them: a 1-D `v` against a batch is REFUSED with `expand=True` (`gamma`'s
`temp1.unsqueeze_(1)` on a 0-dim tensor — although `pi` alone accepts the form, `piCall_vec_batch_expand`) and gives the `(B',)` vector
`rho v v'_j` with `expand=False`; a batch against a 1-D `v'` gives the `(B, 1)` column (`expand=True`) resp. the `(B,)` vector
(`expand=False`) of `rho v_i v'`; in every accepted form the shape is the one `rhoRankOutcome` tabulates. -/
theorem C02_call_forms_mixed (am ph : PRBM ℝ n h a) (v : Fin n → ℝ) (B : ℕ) (vs : ℕ → Fin n → ℝ) :
    (∃ e, rhoCall am ph (.scalar v) (some (.ofRows B vs)) true = .error e)
      ∧ (∃ o, rhoCall am ph (.scalar v) (some (.ofRows B vs)) false = .ok o ∧ o.shape = [B]
          ∧ ∀ j (hj : j < B), o.get [j] = rhoVecBatch am ph v (fun k : Fin B => vs k) ⟨j, hj⟩ ∧ o.get [j] = rho am ph v (vs j))
      ∧ (∃ o, rhoCall am ph (.ofRows B vs) (some (.scalar v)) true = .ok o ∧ o.shape = [B, 1]
          ∧ ∀ i, i < B → o.get [i, 0] = rho am ph (vs i) v)
      ∧ (∃ o, rhoCall am ph (.ofRows B vs) (some (.scalar v)) false = .ok o ∧ o.shape = [B]
          ∧ ∀ i (hi : i < B), o.get [i] = rhoBatchVec am ph (fun k : Fin B => vs k) v ⟨i, hi⟩ ∧ o.get [i] = rho am ph (vs i) v)
      ∧ rhoRankOutcome .vec (.batch B) true = .error .IndexError
      ∧ rhoRankOutcome .vec (.batch B) false = .ok [B]
      ∧ rhoRankOutcome (.batch B) .vec true = .ok [B, 1]
      ∧ rhoRankOutcome (.batch B) .vec false = .ok [B] := by
  refine ⟨rhoCall_vec_batch_expand am ph v B vs, ?_, ?_, ?_, rfl, rfl, rfl, rfl⟩
  · obtain ⟨o, ho, hs, hg⟩ := (rhoCall_vec_batch am ph v B vs).ofRows
    exact ⟨o, ho, hs, fun j hj => ⟨hg j hj, hg j hj⟩⟩
  · obtain ⟨o, ho, hs, hg⟩ := (rhoCall_batch_vec_expand am ph B vs v).ofRows2
    exact ⟨o, ho, hs, fun i hi => hg i 0 hi Nat.one_pos⟩
  · obtain ⟨o, ho, hs, hg⟩ := (rhoCall_batch_vec am ph B vs v).ofRows
    exact ⟨o, ho, hs, fun i hi => ⟨hg i hi, hg i hi⟩⟩

/-- **C02.7e** the shape / refusal table `rhoRankOutcome` (and `rhoOutcome` for double arguments) IS the shape / refusal of the
transcribed code for every rank combination of vectors and batches and both values of `expand` (`none` = refused). -/
theorem C02_call_forms_outcome (am ph : PRBM ℝ n h a) (v vp : Fin n → ℝ) (B B' : ℕ) (vs vps : ℕ → Fin n → ℝ) (expand : Bool) :
    let sh := fun (r : Except PyErr (FT (CPair ℝ))) => r.toOption.map FT.shape
    sh (rhoCall am ph (.scalar v) (some (.scalar vp)) expand) = (rhoRankOutcome .vec .vec expand).toOption
      ∧ sh (rhoCall am ph (.ofRows B vs) (some (.ofRows B' vps)) expand) = (rhoRankOutcome (.batch B) (.batch B') expand).toOption
      ∧ sh (rhoCall am ph (.scalar v) (some (.ofRows B' vps)) expand) = (rhoRankOutcome .vec (.batch B') expand).toOption
      ∧ sh (rhoCall am ph (.ofRows B vs) (some (.scalar vp)) expand) = (rhoRankOutcome (.batch B) .vec expand).toOption
      ∧ rhoOutcome (.batch B) (some (.batch B')) expand .double = rhoRankOutcome (.batch B) (.batch B') expand := by
  intro sh
  refine ⟨?_, ?_, ?_, ?_, by cases expand <;> rfl⟩
  · obtain ⟨o, ho, hs, _⟩ := (rhoCall_vec_vec am ph v vp expand).scalar
    simp [sh, ho, hs, rhoRankOutcome, Except.toOption]
  · cases expand
    · rcases hC : pairedBatch B B' with e | C
      · obtain ⟨e', he'⟩ := rhoCall_paired_error am ph B B' vs vps hC
        simp [sh, he', rhoRankOutcome, hC, Except.toOption]
      · obtain ⟨o, ho, hs, _⟩ := (rhoCall_paired am ph B B' vs vps hC).ofRows
        simp [sh, ho, hs, rhoRankOutcome, hC, Except.toOption]
    · obtain ⟨o, ho, hs, _⟩ := (rhoCall_matrix am ph B B' vs vps).ofRows2
      simp [sh, ho, hs, rhoRankOutcome, Except.toOption]
  · cases expand
    · obtain ⟨o, ho, hs, _⟩ := (rhoCall_vec_batch am ph v B' vps).ofRows
      simp [sh, ho, hs, rhoRankOutcome, Except.toOption]
    · obtain ⟨e, he⟩ := rhoCall_vec_batch_expand am ph v B' vps
      simp [sh, he, rhoRankOutcome, Except.toOption]
  · cases expand
    · obtain ⟨o, ho, hs, _⟩ := (rhoCall_batch_vec am ph B vs vp).ofRows
      simp [sh, ho, hs, rhoRankOutcome, Except.toOption]
    · obtain ⟨o, ho, hs, _⟩ := (rhoCall_batch_vec_expand am ph B vs vp).ofRows2
      simp [sh, ho, hs, rhoRankOutcome, Except.toOption]

/-- **C02.7f** the pointwise definitions the driver op `c02.eval` executes (`gammaMatrix`, `gammaPaired`, `piMatrix`,
`piPaired`, `rhoMatrix`, `rhoPaired`) are the entries of the transcribed code on the same batches: `[i, j]` of the `expand=True` call
resp. `[i]` of the `expand=False` call on equal batch sizes — for `gamma` (any sign, any network), `pi` and `rho`. -/
theorem C02_call_forms_pointwise_defs (am ph : PRBM ℝ n h a) (sgn : ℝ) (B B' : ℕ) (vs vs' : Fin B → Fin n → ℝ) (ws : Fin B' → Fin n → ℝ)
    (ext : ∀ {C : ℕ}, (Fin C → Fin n → ℝ) → ℕ → Fin n → ℝ)
    (hext : ∀ {C : ℕ} (f : Fin C → Fin n → ℝ) (i : Fin C), ext f i.val = f i) :
    (∃ g, am.gammaCall sgn (.ofRows B (ext vs)) (.ofRows B' (ext ws)) true = .ok g ∧ g.shape = [B, B']
        ∧ ∀ (i : Fin B) (j : Fin B'), g.get [i.val, j.val] = am.gammaMatrix sgn vs ws i j)
      ∧ (∃ g, am.gammaCall sgn (.ofRows B (ext vs)) (.ofRows B (ext vs')) false = .ok g ∧ g.shape = [B]
        ∧ ∀ i : Fin B, g.get [i.val] = am.gammaPaired sgn vs vs' i)
      ∧ (∃ p, piCall am ph (.ofRows B (ext vs)) (.ofRows B' (ext ws)) true = .ok p ∧ p.shape = [B, B']
        ∧ ∀ (i : Fin B) (j : Fin B'), p.get [i.val, j.val] = piMatrix am ph vs ws i j)
      ∧ (∃ p, piCall am ph (.ofRows B (ext vs)) (.ofRows B (ext vs')) false = .ok p ∧ p.shape = [B]
        ∧ ∀ i : Fin B, p.get [i.val] = piPaired am ph vs vs' i)
      ∧ (∃ o, rhoCall am ph (.ofRows B (ext vs)) (some (.ofRows B' (ext ws))) true = .ok o ∧ o.shape = [B, B']
        ∧ ∀ (i : Fin B) (j : Fin B'), o.get [i.val, j.val] = rhoMatrix am ph vs ws i j)
      ∧ (∃ o, rhoCall am ph (.ofRows B (ext vs)) (some (.ofRows B (ext vs'))) false = .ok o ∧ o.shape = [B]
        ∧ ∀ i : Fin B, o.get [i.val] = rhoPaired am ph vs vs' i) := by
  have hBB : pairedBatch B B = .ok B := if_pos rfl
  refine ⟨?_, ?_, ?_, ?_, ?_, ?_⟩
  · obtain ⟨g, hg, hs, he⟩ := (am.gammaCall_matrix sgn B B' (ext vs) (ext ws)).ofRows2
    exact ⟨g, hg, hs, fun i j => by rw [he i.val j.val i.isLt j.isLt, hext, hext]; rfl⟩
  · obtain ⟨g, hg, hs, he⟩ := (am.gammaCall_paired sgn B B (ext vs) (ext vs') hBB).ofRows
    exact ⟨g, hg, hs, fun i => by rw [he i.val i.isLt, bsel_lt i.isLt, hext, hext]; rfl⟩
  · obtain ⟨p, hp, hs, he⟩ := (piCall_matrix am ph B B' (ext vs) (ext ws)).ofRows2
    exact ⟨p, hp, hs, fun i j => by rw [he i.val j.val i.isLt j.isLt, hext, hext]; rfl⟩
  · obtain ⟨p, hp, hs, he⟩ := (piCall_paired am ph B B (ext vs) (ext vs') hBB).ofRows
    exact ⟨p, hp, hs, fun i => by rw [he i.val i.isLt, bsel_lt i.isLt, hext, hext]; rfl⟩
  · obtain ⟨o, ho, hs, he⟩ := (rhoCall_matrix am ph B B' (ext vs) (ext ws)).ofRows2
    exact ⟨o, ho, hs, fun i j => by rw [he i.val j.val i.isLt j.isLt, hext, hext]; rfl⟩
  · obtain ⟨o, ho, hs, he⟩ := (rhoCall_paired am ph B B (ext vs) (ext vs') hBB).ofRows
    exact ⟨o, ho, hs, fun i => by rw [he i.val i.isLt, bsel_lt i.isLt, hext, hext]; rfl⟩

/-- the extension hypothesis of `C02_call_forms_pointwise_defs` is satisfiable: rows beyond the batch are arbitrary (zero here) -/
example : ∃ ext : ∀ {C : ℕ}, (Fin C → Fin n → ℝ) → ℕ → Fin n → ℝ, ∀ {C : ℕ} (f : Fin C → Fin n → ℝ) (i : Fin C), ext f i.val = f i :=
  ⟨fun {C} f k => if hk : k < C then f ⟨k, hk⟩ else fun _ => 0, fun f i => by simp [i.isLt]⟩

/-- non-vacuity: a concrete 2-qubit model with all biases non-zero; the single-element form on `v = (1,0) ≠ v' = (0,1)` is entry
`[0, 1]` of the full-matrix form on the batch `[(1,0), (0,1)]`. -/
example :
    let am : PRBM ℝ 2 3 2 := ⟨fun i j => (i.val : ℝ) - j.val + 0.5, fun k j => (k.val : ℝ) + j.val - 2.5,
      fun j => if j = 0 then -1.5 else 2, fun i => if i = 0 then 0.7 else -0.3, fun k => if k = 0 then 1.2 else -0.4⟩
    let ph : PRBM ℝ 2 3 2 := ⟨fun i j => 0.3 * (i.val : ℝ) - j.val + 0.25, fun k j => if k.val = j.val then 1 else -0.5,
      fun j => if j = 0 then 0.5 else -1, fun i => if i = 0 then -0.2 else 0.9, fun _ => 0.8⟩
    let v : Fin 2 → ℝ := fun j => if j = 0 then 1 else 0
    let w : Fin 2 → ℝ := fun j => if j = 0 then 0 else 1
    let rows : ℕ → Fin 2 → ℝ := fun i => if i = 0 then v else w
    ∃ o m, rhoCall am ph (.scalar v) (some (.scalar w)) true = .ok o ∧ rhoCall am ph (.ofRows 2 rows) (some (.ofRows 2 rows)) true = .ok m
      ∧ m.get [0, 1] = o.get [] := by
  intro am ph v w rows
  obtain ⟨o, ho, _, hg, _⟩ := (C02_call_forms_single am ph v w true).1
  obtain ⟨m, hm, _, hmg⟩ := (C02_call_forms_matrix am ph 2 2 rows rows).1
  refine ⟨o, m, ho, hm, ?_⟩
  rw [hg, (hmg 0 1 (by norm_num) (by norm_num)).1]
  simp [rows]

end C02
end QV.Props
