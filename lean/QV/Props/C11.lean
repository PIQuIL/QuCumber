/-
C11 — Saving and reloading reproduces the state exactly and has no side effects.

"Whatever state is saved, loading the file into a compatible model or auto-constructing a model from it
yields bit-identical parameters for every network, the same architecture and the same unitary dictionary
(including user-added unitaries), with the caller's metadata stored alongside and reserved names refused.
Saving changes neither the model nor the metadata object passed in, so the same state and metadata can be
saved any number of times (as the periodic model-saving callback does) with equivalent results."

Model: QV.Model.Store — heap of tensor / network / dict objects with identities, `save` / `load` / `autoload`
/ `ModelSaver._save` in the code's order, the history machine `step` / `run` over construct / mkModule /
initModule / constructFrom / write / writeModule / train / reinit / addUnitary / mkMeta / save / saverSave / load /
autoload; QV.Model.StoreLoc — `location` as an open file object (a stream of back-to-back archives with a
position, C11.5) and the folder / file name `ModelSaver` writes to (C11.7).  Both are executed against the real
code by the C11 correspondence check.  "Bit-identical" = equal contents tokens (`viewNet`).  All theorems: every
well-formed heap, every state, every metadata dict, every history.

Trusted / left out: `torch.save` / `torch.load` are a faithful map of tokens, and an archive in a file object is
self-delimiting (`torchLoadS`).  `C11_no_side_effect` holds by construction of the model of the repaired `save`
(`saveWith true` never writes into the heap; the contrast is `saveWith false`, the code before fix F5): that the
real `save` leaves model and metadata alone is what the correspondence check observes.  `autoload` round trips are
proved for `Canonical` states (the three library classes).  `C11_saver_path` goes beyond the property text.
-/
import QV.Lemmas.StoreIO
import QV.Lemmas.StoreLoc
import QV.Props.C20

namespace QV.Props
namespace C11
open QV.Props.C20
open QV QV.Store

/-- THE SPECIFICATION of a saved file: the contents of every network of the state (as read through the heap
at the moment of the save), then the caller's metadata entries, then the state's unitary dictionary. -/
def snapshot (h : Heap) (st : NState) (e0 : MDict) : File :=
  st.nets.map (fun p => (MKey.str p.1, FVal.sd (viewNet h p.2))) ++ e0 ++
    (match st.ud with
      | some u => [(MKey.str "unitary_dict", u)]
      | none => [])

/-- a metadata key is reserved: a network name, or `unitary_dict` when the state has a unitary dictionary -/
def Reserved (st : NState) (e0 : MDict) : Prop :=
  (st.ud.isSome ∧ MKey.str "unitary_dict" ∈ keys e0) ∨ ∃ p ∈ st.nets, MKey.str p.1 ∈ keys e0

/-- some metadata key is not a string (`data.update(**metadata)` then raises `TypeError`) -/
def NonStringKey (e0 : MDict) : Prop := ∃ k ∈ keys e0, isStrKey k = false

theorem mem_keys_saveMeta (st : NState) (e0 : MDict) (x : MKey) :
    x ∈ keys (saveMeta st e0) ↔ x ∈ keys e0 ∨ (st.ud.isSome ∧ x = MKey.str "unitary_dict") := by
  unfold saveMeta
  cases st.ud with
  | none => simp
  | some u => simp [mem_keys_aset]

/-- The second `ValueError` test of `save` runs after `unitary_dict` has been inserted (`saveMeta`); `hnm` excludes
that the inserted key is what it finds. -/
theorem reserved_iff (st : NState) (e0 : MDict) (hnm : ∀ p ∈ st.nets, p.1 ≠ "unitary_dict") :
    Reserved st e0 ↔ (st.ud.isSome && ahas e0 (.str "unitary_dict")) = true ∨
      (st.nets.any fun p => ahas (saveMeta st e0) (MKey.str p.1)) = true := by
  simp only [Reserved, Bool.and_eq_true, List.any_eq_true, ahas_iff, mem_keys_saveMeta]
  refine or_congr_right ⟨fun ⟨p, hp, hk⟩ => ⟨p, hp, Or.inl hk⟩, fun ⟨p, hp, hk⟩ => ⟨p, hp, hk.resolve_right fun e => ?_⟩⟩
  exact hnm p hp (MKey.str.inj e.2)

/-- the `TypeError` test of `save` (made after `unitary_dict`, a string, has been inserted) -/
theorem nonStringKey_iff (st : NState) (e0 : MDict) :
    NonStringKey e0 ↔ ((saveMeta st e0).any fun kv => !isStrKey kv.1) = true := by
  simp only [List.any_eq_true, Bool.not_eq_true']
  constructor
  · rintro ⟨k, hk, hb⟩
    obtain ⟨kv, hkv, rfl⟩ := List.mem_map.1 ((mem_keys_saveMeta st e0 k).2 (Or.inl hk))
    exact ⟨kv, hkv, hb⟩
  · rintro ⟨kv, hkv, hb⟩
    rcases (mem_keys_saveMeta st e0 kv.1).1 (List.mem_map_of_mem hkv) with hk | ⟨_, hk⟩
    · exact ⟨kv.1, hk, hb⟩
    · rw [hk] at hb; cases hb

theorem saveErr_cases (h : Heap) (st : NState) (md : Option Nat) (hnm : ∀ p ∈ st.nets, p.1 ≠ "unitary_dict") :
    (Reserved st (mdEntries h md) ∧ saveErr h st md = some .ValueError) ∨
    (¬ Reserved st (mdEntries h md) ∧ NonStringKey (mdEntries h md) ∧ saveErr h st md = some .TypeError) ∨
    (¬ Reserved st (mdEntries h md) ∧ ¬ NonStringKey (mdEntries h md) ∧ saveErr h st md = none) := by
  rw [reserved_iff st _ hnm, nonStringKey_iff st, saveErr]
  split
  next c1 => exact Or.inl ⟨Or.inl c1, rfl⟩
  next c1 =>
    split
    next c2 => exact Or.inl ⟨Or.inr c2, rfl⟩
    next c2 =>
      have hres := not_or.2 ⟨c1, c2⟩
      split
      next c3 => exact Or.inr (Or.inl ⟨hres, c3, rfl⟩)
      next c3 => exact Or.inr (Or.inr ⟨hres, c3, rfl⟩)

theorem save_cases (h : Heap) (fs : Files) (st : NState) (md : Option Nat) (path : Nat)
    (hnm : ∀ p ∈ st.nets, p.1 ≠ "unitary_dict") :
    (Reserved st (mdEntries h md) ∧ save h fs st md path = .error .ValueError) ∨
    (¬ Reserved st (mdEntries h md) ∧ NonStringKey (mdEntries h md) ∧ save h fs st md path = .error .TypeError) ∨
    (¬ Reserved st (mdEntries h md) ∧ ¬ NonStringKey (mdEntries h md) ∧
      save h fs st md path = .ok (upd fs path (savedFile h st (mdEntries h md)), h)) := by
  rw [save_eq]
  rcases saveErr_cases h st md hnm with ⟨r, e⟩ | ⟨r, k, e⟩ | ⟨r, k, e⟩ <;> rw [e]
  · exact Or.inl ⟨r, rfl⟩
  · exact Or.inr (Or.inl ⟨r, k, rfl⟩)
  · exact Or.inr (Or.inr ⟨r, k, rfl⟩)

theorem step_save_fail_or (w : World) (slot : Nat) (md : Option Nat) (path : Nat) :
    (step w (.save slot md path)).2 = none ∨ (step w (.save slot md path)).1 = w := by
  simp only [step]
  split
  · right; rfl
  · split
    · right; rfl
    · split
      · right; rfl
      · left; rfl

theorem step_saverSave_fail_or (w : World) (slot : Nat) (src : SaverSrc) (mo : Bool) (path : Nat) :
    (step w (.saverSave slot src mo path)).2 = none ∨ (step w (.saverSave slot src mo path)).1 = w := by
  simp only [step]
  split
  · right; rfl
  · split
    · right; rfl
    · split
      · right; rfl
      · left; rfl

/-! ### C11.2 — reserved names -/

/-- **C11_reserved.** `save` fails with `ValueError` IFF a metadata key is a network name or — when the state has
a unitary dictionary — `unitary_dict`; it fails at all only for that reason or for a non-string key
(`TypeError`); and a failing `save` (or `ModelSaver._save`) leaves the whole world — every file included — exactly
as it was ("writes nothing"). -/
theorem C11_reserved (h : Heap) (fs : Files) (st : NState) (md : Option Nat) (path : Nat)
    (hnm : ∀ p ∈ st.nets, p.1 ≠ "unitary_dict") :
    (save h fs st md path = .error .ValueError ↔ Reserved st (mdEntries h md)) ∧
    ((∃ e, save h fs st md path = .error e) ↔ Reserved st (mdEntries h md) ∨ NonStringKey (mdEntries h md)) ∧
    (∀ (w : World) (slot : Nat) (mdslot : Option Nat) (src : SaverSrc) (mo : Bool),
        ((step w (.save slot mdslot path)).2 ≠ none → (step w (.save slot mdslot path)).1 = w) ∧
        ((step w (.saverSave slot src mo path)).2 ≠ none → (step w (.saverSave slot src mo path)).1 = w)) := by
  rw [← and_assoc]
  refine ⟨?_, fun w slot mdslot src mo =>
    ⟨(step_save_fail_or w slot mdslot path).resolve_left, (step_saverSave_fail_or w slot src mo path).resolve_left⟩⟩
  -- in each of the three outcomes of `save` both equivalences can be read off
  rcases save_cases h fs st md path hnm with ⟨r, e⟩ | ⟨r, k, e⟩ | ⟨r, k, e⟩
  · simp [e, r]
  · simp [e, r, k]
  · simp [e, r, k]

/-! ### C11.3 — no side effects, idempotence -/

/-- **C11_no_side_effect.** A successful `save` returns the heap it was given: every tensor of the model, every
network object, every dict object — in particular the caller's metadata object — is unchanged, and only the file
at `path` is (re)written.  The same holds for `ModelSaver._save` with a dict (the callback passes THE SAME dict
object at every period). -/
theorem C11_no_side_effect (h : Heap) (fs : Files) (st : NState) (md : Option Nat) (path : Nat)
    (fs' : Files) (h' : Heap) (hs : save h fs st md path = .ok (fs', h')) :
    h' = h ∧ (∀ id, h'.dicts id = h.dicts id) ∧ (∀ id, viewNet h' id = viewNet h id) ∧
    (∀ p, p ≠ path → fs' p = fs p) ∧
    (∀ id, saverSave h fs st (.dict id) false path = save h fs st (some id) path) := by
  rw [save_eq] at hs
  split at hs
  · cases hs
  · cases hs
    exact ⟨rfl, fun _ => rfl, fun _ => rfl, fun p hp => upd_ne _ _ _ _ hp, fun _ => rfl⟩

/-- **C11_idempotent.** `save; save` with the same arguments: the second call succeeds too and returns exactly the
file system and heap the first one returned (the written files are equal) — so the pair is a fixed point and the
same state and metadata can be saved any number of times, e.g. by `ModelSaver` with one metadata dict. -/
theorem C11_idempotent (h : Heap) (fs : Files) (st : NState) (md : Option Nat) (path : Nat)
    (fs' : Files) (h' : Heap) (hs : save h fs st md path = .ok (fs', h')) :
    save h' fs' st md path = .ok (fs', h') ∧
    (∀ id, md = some id → saverSave h' fs' st (.dict id) false path = .ok (fs', h')) := by
  -- whether `save` raises does not depend on the files, and writing the same file twice is writing it once
  have key : save h' fs' st md path = .ok (fs', h') := by
    rw [save_eq] at hs ⊢
    split at hs
    · cases hs
    · rename_i he
      cases hs
      rw [he, upd_upd]
  exact ⟨key, fun id hid => by subst hid; exact key⟩

/-- the code BEFORE the F5 fix (`metadata = metadata if metadata else {}`) is not idempotent: a complex state with
the default unitary dictionary and the caller's dict `{"epoch": …}` — the first save succeeds and leaves
`unitary_dict` in the caller's dict, so the second raises `ValueError`. -/
example : ∃ fs' h',
    saveWith false ⟨fun _ => none, fun _ => none, upd (fun _ => none) 0 [(MKey.str "epoch", FVal.mv false 9)], 1⟩
      (fun _ => none) ⟨.cplx, [], some (.ud defaultUD), 1, 1, none⟩ (some 0) 0 = .ok (fs', h') ∧
    saveWith false h' fs' ⟨.cplx, [], some (.ud defaultUD), 1, 1, none⟩ (some 0) 0 = .error .ValueError :=
  ⟨_, _, rfl, rfl⟩

/-! ### C11.1 — round trip -/

theorem mdEntries_nodup {h : Heap} (wf : HeapWF h) (md : Option Nat) : (keys (mdEntries h md)).Nodup := by
  unfold mdEntries
  cases md with
  | none => simp [keys]
  | some id =>
    cases hd : h.dicts id with
    | none => simp [keys, hd]
    | some d => simpa [hd] using wf.dkeys id d hd

/-- The link between the code-shaped `savedFile` (`data.update(**metadata)`) and the specification: the update is an
append because no metadata key is a network name (`hres`) and dict keys are distinct (`HeapWF.dkeys`). -/
theorem savedFile_snapshot {h : Heap} (wf : HeapWF h) (st : NState) (md : Option Nat)
    (hnm : ∀ p ∈ st.nets, p.1 ≠ "unitary_dict") (hres : ¬ Reserved st (mdEntries h md)) :
    savedFile h st (mdEntries h md) = snapshot h st (mdEntries h md) := by
  have hk : st.ud.isSome → MKey.str "unitary_dict" ∉ keys (mdEntries h md) :=
    fun hu hm => hres (Or.inl ⟨hu, hm⟩)
  have hn : (keys (saveMeta st (mdEntries h md))).Nodup := by
    unfold saveMeta
    cases st.ud with
    | none => exact mdEntries_nodup wf md
    | some u => exact nodup_keys_aset _ _ _ (mdEntries_nodup wf md)
  have hd : ∀ k ∈ keys (saveMeta st (mdEntries h md)), k ∉ st.nets.map (fun p => MKey.str p.1) := by
    intro k hk2 hm
    obtain ⟨p, hp, rfl⟩ := List.mem_map.1 hm
    rcases (mem_keys_saveMeta st _ _).1 hk2 with h1 | ⟨_, h1⟩
    · exact hres (Or.inr ⟨p, hp, h1⟩)
    · exact hnm p hp (by injection h1)
  rw [savedFile_eq h st _ hn hd, saveMeta_eq st _ hk]
  unfold snapshot
  cases st.ud <;> simp

theorem snapshot_reads (h : Heap) (st : NState) (e0 : MDict) (hnames : (keys st.nets).Nodup)
    (hnm : ∀ p ∈ st.nets, p.1 ≠ "unitary_dict") (hres : ¬ Reserved st e0) :
    (∀ p ∈ st.nets, aget (snapshot h st e0) (.str p.1) = some (.sd (viewNet h p.2))) ∧
    (∀ k v, aget e0 k = some v → aget (snapshot h st e0) k = some v) ∧
    (∀ u, st.ud = some u → aget (snapshot h st e0) (.str "unitary_dict") = some u) := by
  refine ⟨?_, ?_, ?_⟩
  · intro p hp
    simp only [snapshot, List.append_assoc, aget_append]
    rw [aget_nets_map st.nets (fun id => FVal.sd (viewNet h id)) p hp hnames]
  · intro k v hkv
    have hk : k ∈ keys e0 := by
      have := aget_mem e0 k v hkv
      exact List.mem_map.2 ⟨(k, v), this, rfl⟩
    have hnot : k ∉ st.nets.map (fun q => MKey.str q.1) := by
      intro hm
      obtain ⟨p, hp, rfl⟩ := List.mem_map.1 hm
      exact hres (Or.inr ⟨p, hp, hk⟩)
    simp only [snapshot, List.append_assoc, aget_append]
    rw [aget_nets_map_none st.nets (fun id => FVal.sd (viewNet h id)) k hnot]
    simp [hkv]
  · intro u hu
    have hnot : MKey.str "unitary_dict" ∉ st.nets.map (fun q => MKey.str q.1) := by
      intro hm
      obtain ⟨p, hp, he⟩ := List.mem_map.1 hm
      exact hnm p hp (by injection he)
    have hnot2 : aget e0 (MKey.str "unitary_dict") = none := by
      rw [aget_none_iff]
      intro hm
      exact hres (Or.inl ⟨by simp [hu], hm⟩)
    simp only [snapshot, List.append_assoc, aget_append]
    rw [aget_nets_map_none st.nets (fun id => FVal.sd (viewNet h id)) _ hnot]
    simp [hnot2, hu, aget_cons]

/-- **C11_roundtrip.** After a successful `save M md P` on a well-formed heap: the file at `P` is the snapshot of
`M` (every network's contents, the metadata, the unitary dictionary); `file[k] = md[k]` for every metadata key;
and `load P` into ANY shape-compatible state `M'` of ANY later well-formed heap in which the file is still the
one written succeeds and makes every parameter of every network of `M'` bit-identical to what `M` had at the
save, replaces `M'`'s unitary dictionary by `M`'s (including user-added unitaries) and leaves `M'`'s
architecture attributes alone.  (`autoload`: `C11_roundtrip_autoload`.) -/
theorem C11_roundtrip {h : Heap} (wf : HeapWF h) (fs : Files) (st : NState) (md : Option Nat) (path : Nat)
    (ok : StateOK h st) (fs' : Files) (h' : Heap) (hs : save h fs st md path = .ok (fs', h')) :
    ∀ file, file = snapshot h st (mdEntries h md) →
    fs' path = some file ∧
    (∀ k v, aget (mdEntries h md) k = some v → aget file k = some v) ∧
    (∀ p ∈ st.nets, aget file (.str p.1) = some (.sd (viewNet h p.2))) ∧
    (∀ u, st.ud = some u → aget file (.str "unitary_dict") = some u) ∧
    (∀ (h2 : Heap) (fs2 : Files) (st2 : NState), HeapWF h2 → StateOK h2 st2 → fs2 path = some file →
        Compatible h2 file st2.nets →
        (load h2 fs2 st2 path).2.2 = none ∧
        (∀ q ∈ st2.nets, ∀ p ∈ st.nets, q.1 = p.1 → viewNet (load h2 fs2 st2 path).1 q.2 = viewNet h p.2) ∧
        (∀ u, st.ud = some u → st2.ud.isSome → (load h2 fs2 st2 path).2.1.ud = some u) ∧
        (load h2 fs2 st2 path).2.1.nets = st2.nets ∧ (load h2 fs2 st2 path).2.1.kind = st2.kind ∧
        (load h2 fs2 st2 path).2.1.nv = st2.nv ∧ (load h2 fs2 st2 path).2.1.nh = st2.nh ∧
        (load h2 fs2 st2 path).2.1.na = st2.na) := by
  intro file hfile
  subst hfile
  have hnm := ok.noUD
  rcases save_cases h fs st md path hnm with ⟨_, e⟩ | ⟨_, _, e⟩ | ⟨hres, _, e⟩
  · rw [e] at hs; simp at hs
  · rw [e] at hs; simp at hs
  · rw [e] at hs
    simp only [Except.ok.injEq, Prod.mk.injEq] at hs
    obtain ⟨r1, r2, r3⟩ := snapshot_reads h st (mdEntries h md) ok.names hnm hres
    refine ⟨?_, r2, r1, r3, ?_⟩
    · rw [← hs.1, savedFile_snapshot wf st md hnm hres]; simp
    · intro h2 fs2 st2 wf2 ok2 hf2 hc
      obtain ⟨l1, l2, l3⟩ := load_ok wf2 fs2 st2 path _ hf2 ok2 hc
      refine ⟨l1, ?_, ?_, by rw [l3], by rw [l3], by rw [l3], by rw [l3], by rw [l3]⟩
      · intro q hq p hp hqp
        have a := l2 q hq
        rw [hqp, r1 p hp] at a
        exact (FVal.sd.inj (Option.some.inj a)).symm
      · exact fun u hu hsome => load_ok_ud wf2 fs2 st2 path _ hf2 ok2 hc hsome u (r3 u hu)

/-! ### C11.4 — the refinement theorem: files = "path ↦ snapshot at the last successful save" -/

/-- what a `save` / `ModelSaver._save` operation is SPECIFIED to write when it succeeds in world `w`: the path and
the snapshot of the state bound to `slot` with the metadata it is given (`metadata_only`: the metadata alone) -/
def specWrite (w : World) : Op → Option (Nat × File)
  | .save slot md path =>
    match w.states slot with
    | none => none
    | some st =>
      match md with
      | none => some (path, snapshot w.heap st [])
      | some s =>
        match w.metas s with
        | none => none
        | some id => some (path, snapshot w.heap st (mdEntries w.heap (some id)))
  | .saverSave slot src mo path =>
    match w.states slot with
    | none => none
    | some st =>
      let e0 : Option MDict := match src with
        | .absent => some []
        | .callable es => some (mkDict es)
        | .dict s => (w.metas s).map (fun id => mdEntries w.heap (some id))
      e0.map (fun e => (path, if mo then e else snapshot w.heap st e))
  | _ => none

/-- one step of the ABSTRACT machine `path ↦ snapshot at the last successful save`: a successful operation that
is specified to write overrides the entry of its path; every other operation (and every failing one) leaves the
map alone -/
def absStep (w : World) (abs : Files) (op : Op) : Files :=
  if (step w op).2 = none then
    match specWrite w op with
    | some (path, f) => upd abs path f
    | none => abs
  else abs

/-- the abstract machine run along a history (it consults the concrete world only for the contents being
snapshotted and for whether the operation succeeded, which `C11_reserved` characterises) -/
def absRun (w : World) (abs : Files) : List Op → Files
  | [] => abs
  | op :: ops => absRun (step w op).1 (absStep w abs op) ops

theorem run_append (w : World) (a b : List Op) : run w (a ++ b) = run (run w a) b := by
  induction a generalizing w with
  | nil => rfl
  | cons op r ih => simp [run, ih]

/-- "most recent": appending one operation to a history applies one abstract step on top of the abstract state of
the history — a later successful save to `P` overrides, anything else preserves -/
theorem absRun_snoc (w : World) (abs : Files) (ops : List Op) (op : Op) :
    absRun w abs (ops ++ [op]) = absStep (run w ops) (absRun w abs ops) op := by
  induction ops generalizing w abs with
  | nil => rfl
  | cons o r ih => simp [absRun, run, ih]

theorem save_eq_snapshot {h : Heap} (wf : HeapWF h) (fs : Files) (st : NState) (md : Option Nat) (path : Nat)
    (hnm : ∀ p ∈ st.nets, p.1 ≠ "unitary_dict") :
    save h fs st md path = match saveErr h st md with
      | some e => .error e
      | none => .ok (upd fs path (snapshot h st (mdEntries h md)), h) := by
  rw [save_eq]
  rcases saveErr_cases h st md hnm with ⟨_, e⟩ | ⟨_, _, e⟩ | ⟨r, _, e⟩ <;> rw [e]
  rw [savedFile_snapshot wf st md hnm r]

theorem step_files_save (w : World) (wf : WorldWF w) (slot : Nat) (md : Option Nat) (path : Nat) :
    (step w (.save slot md path)).1.files = absStep w w.files (.save slot md path) := by
  cases hs : w.states slot with
  | none => simp only [absStep, step, hs]; rfl
  | some st =>
    have hnm := wf.st_noud slot st hs
    cases md with
    | none =>
      simp only [absStep, step, specWrite, hs, save_eq_snapshot wf.heap _ _ _ _ hnm]
      cases saveErr w.heap st none <;> rfl
    | some s =>
      cases hm : w.metas s with
      | none => simp only [absStep, step, hs, hm]; rfl
      | some id =>
        simp only [absStep, step, specWrite, hs, hm, save_eq_snapshot wf.heap _ _ _ _ hnm]
        cases saveErr w.heap st (some id) <;> rfl

theorem saverSave_false (h : Heap) (fs : Files) (st : NState) (sm : SaverMeta) (path : Nat) :
    saverSave h fs st sm false path = match sm with
      | .absent => save h fs st none path
      | .dict id => save h fs st (some id) path
      | .callable es => save { h with dicts := upd h.dicts h.next es, next := h.next + 1 } fs st (some h.next) path := by
  cases sm <;> rfl

theorem mdEntries_allocDict (h : Heap) (d : MDict) :
    mdEntries { h with dicts := upd h.dicts h.next d, next := h.next + 1 } (some h.next) = d := by
  simp only [mdEntries, upd_same, Option.getD_some]

theorem step_files_saverSave (w : World) (wf : WorldWF w) (slot : Nat) (src : SaverSrc) (mo : Bool) (path : Nat) :
    (step w (.saverSave slot src mo path)).1.files = absStep w w.files (.saverSave slot src mo path) := by
  cases hs : w.states slot with
  | none => simp only [absStep, step, hs]; rfl
  | some st =>
    have hnm := wf.st_noud slot st hs
    cases mo with
    | true =>
      cases src with
      | absent => simp only [absStep, step, specWrite, hs]; rfl
      | callable es => simp only [absStep, step, specWrite, hs, saverSave, upd_same]; rfl
      | dict s => cases hm : w.metas s <;> simp only [absStep, step, specWrite, hs, hm] <;> rfl
    | false =>
      cases src with
      | absent =>
        simp only [absStep, step, specWrite, hs, saverSave_false, save_eq_snapshot wf.heap _ _ _ _ hnm]
        cases saveErr w.heap st none <;> rfl
      | dict s =>
        cases hm : w.metas s with
        | none => simp only [absStep, step, hs, hm]; rfl
        | some id =>
          simp only [absStep, step, specWrite, hs, hm, saverSave_false, save_eq_snapshot wf.heap _ _ _ _ hnm]
          cases saveErr w.heap st (some id) <;> rfl
      | callable es =>
        -- the dict the callable returned is allocated first; the snapshot does not look at dict objects
        simp only [absStep, step, specWrite, hs, saverSave_false,
          save_eq_snapshot (wf.heap.allocDict (mkDict es) (mkDict_nodup es)) _ _ _ _ hnm, mdEntries_allocDict]
        generalize saveErr _ st _ = e
        cases e <;> rfl

theorem absStep_of_specWrite_none (w : World) (abs : Files) (op : Op) (h : specWrite w op = none) :
    absStep w abs op = abs := by
  simp only [absStep, h, ite_self]

theorem step_files (w : World) (wf : WorldWF w) (op : Op) : (step w op).1.files = absStep w w.files op := by
  cases op with
  | save slot md path => exact step_files_save w wf slot md path
  | saverSave slot src mo path => exact step_files_saverSave w wf slot src mo path
  | _ =>
    -- the other operations return `w` or `w` with another heap and other variables
    rw [absStep_of_specWrite_none _ _ _ rfl]
    dsimp only [step]
    repeat' split
    all_goals rfl

theorem run_files (w : World) (wf : WorldWF w) (ops : List Op) : (run w ops).files = absRun w w.files ops := by
  induction ops generalizing w with
  | nil => rfl
  | cons op r ih =>
    simp only [run, absRun]
    rw [ih _ (step_wf w wf op), step_files w wf op]

/-- **C11_history** (the refinement theorem). For EVERY history of operations from the empty world, over any
number of states, modules, metadata dicts and files: the file system is the abstract map
`path ↦ snapshot taken at the most recent successful save to that path` (`absRun`, compositional in the last
operation by `absRun_snoc`); and a `load P` issued at the end of the history into any state `M'` that is
shape-compatible with that snapshot succeeds and makes every parameter of every network of `M'` bit-identical to
the snapshot's entry for that network (and `M'`'s unitary dictionary the snapshot's), whatever happened to the
source model, to other models and to other files in between.  (`C11_roundtrip`, `C11_no_side_effect`,
`C11_idempotent` speak of one `save`; they are proved on their own, not derived from this theorem.) -/
theorem C11_history (ops : List Op) :
    let w := run World.empty ops
    w.files = absRun World.empty (fun _ => none) ops ∧
    (∀ P, w.files P = none → ∀ slot st, w.states slot = some st →
        (load w.heap w.files st P).2.2 = some .FileNotFoundError ∧ (load w.heap w.files st P).1 = w.heap) ∧
    (∀ P file slot st, absRun World.empty (fun _ => none) ops P = some file → w.states slot = some st →
        Compatible w.heap file st.nets →
        (load w.heap w.files st P).2.2 = none ∧
        (∀ q ∈ st.nets, aget file (.str q.1) = some (.sd (viewNet (load w.heap w.files st P).1 q.2))) ∧
        (st.ud.isSome → ∀ u, aget file (.str "unitary_dict") = some u → (load w.heap w.files st P).2.1.ud = some u)) := by
  intro w
  have wfw : WorldWF w := run_wf World.empty WorldWF.empty ops
  have hfiles : w.files = absRun World.empty (fun _ => none) ops := run_files World.empty WorldWF.empty ops
  refine ⟨hfiles, ?_, ?_⟩
  · intro P hP slot st _
    simp [load, hP]
  · intro P file slot st hf hs hc
    have hf' : w.files P = some file := by rw [hfiles]; exact hf
    obtain ⟨l1, l2, _⟩ := load_ok wfw.heap w.files st P file hf' (wfw.stateOK hs) hc
    exact ⟨l1, l2, load_ok_ud wfw.heap w.files st P file hf' (wfw.stateOK hs) hc⟩

/-! ### C11.1 (autoload) -/

/-- the state is an instance of one of the three library classes: its own networks under their names, RBMs of
its own kind whose size attributes are the state's, a unitary dictionary iff it is not a positive
wavefunction; a `BinaryRBM` has no 0 hidden units (`hid`: `autoload` passes the `num_hidden` it read from the file
to the constructor, where `if num_hidden` replaces 0 by `num_visible`). The states the size constructors produce
(`C20_sizes`) and those built from a module of the matching class have this form when `num_visible ≥ 1` (no lemma
states it; the `example` behind `C11_roundtrip_autoload` exhibits one). -/
structure Canonical (h : Heap) (st : NState) : Prop where
  names : st.nets.map Prod.fst = netNames st.kind
  nets : ∀ p ∈ st.nets, ∃ net, h.nets p.2 = some net ∧ net.kind = netKindOf st.kind ∧ net.nv = st.nv ∧
    net.nh = st.nh ∧ net.na = st.na.getD 0
  na : st.na.isSome ↔ st.kind = .dens
  ud : st.kind ≠ .pos → ∃ d, st.ud = some (.ud d)
  udpos : st.kind = .pos → st.ud = none
  hid : netKindOf st.kind = .binary → st.nh ≠ 0

theorem Canonical.na_eq {h : Heap} {st : NState} (can : Canonical h st) :
    st.na = if st.kind = .dens then some (st.na.getD 0) else none := by
  by_cases hk : st.kind = .dens
  · rw [if_pos hk]
    have := can.na.2 hk
    cases hx : st.na with
    | none => rw [hx] at this; cases this
    | some a => rfl
  · rw [if_neg hk]
    cases hx : st.na with
    | none => rfl
    | some a => exact absurd (can.na.1 (by rw [hx]; rfl)) hk

theorem not_reserved_of_save_ok {h : Heap} {fs : Files} {st : NState} {md : Option Nat} {path : Nat} {fs' : Files}
    {h' : Heap} (hnm : ∀ p ∈ st.nets, p.1 ≠ "unitary_dict") (hs : save h fs st md path = .ok (fs', h')) :
    ¬ Reserved st (mdEntries h md) := by
  rcases save_cases h fs st md path hnm with ⟨_, e⟩ | ⟨_, _, e⟩ | ⟨r, _, _⟩
  · rw [e] at hs; cases hs
  · rw [e] at hs; cases hs
  · exact r

theorem Canonical.hidden_eq {h : Heap} {st : NState} (can : Canonical h st) :
    hiddenDefault (netKindOf st.kind) st.nv (some st.nh) = st.nh := by
  simp only [hiddenDefault]
  split
  · rename_i hc; exact absurd hc.2 (can.hid hc.1)
  · rfl

theorem Canonical.aux_eq {h : Heap} {st : NState} (can : Canonical h st) :
    (if st.kind = .dens then st.na.getD st.nv else 0) = st.na.getD 0 := by
  by_cases hk : st.kind = .dens
  · rw [if_pos hk, can.na_eq, if_pos hk]; rfl
  · rw [if_neg hk, can.na_eq, if_neg hk]; rfl

theorem Canonical.shapes {h : Heap} (wf : HeapWF h) {st : NState} (can : Canonical h st) :
    ∀ p ∈ st.nets, shapesOf (viewNet h p.2)
      = shapesOf (paramSpecs (netKindOf st.kind) st.nv st.nh (st.na.getD 0) []) := by
  intro p hp
  obtain ⟨net, hn, hk, hv, hh, ha⟩ := can.nets p hp
  simp only [viewNet, hn]
  rw [wf.shapes p.2 net hn, hk, hv, hh, ha]

/-- From ANY file that holds the networks of a library state under their names, and its unitary dictionary,
`autoload` reads the state's own constructor arguments back. -/
theorem autoloadArgs_of_canonical {h : Heap} (wf : HeapWF h) {st : NState} (can : Canonical h st) (file : File)
    (r1 : ∀ p ∈ st.nets, aget file (.str p.1) = some (.sd (viewNet h p.2)))
    (r3 : ∀ u, st.ud = some u → aget file (.str "unitary_dict") = some u) :
    ∃ udo, autoloadArgs file st.kind = .ok (udo, st.nv, st.nh, st.na) ∧
      (st.kind ≠ .pos → ∃ d, udo = some d ∧ st.ud = some (.ud d)) := by
  have hna := can.na_eq
  obtain ⟨am, hamm⟩ : ∃ am, ("rbm_am", am) ∈ st.nets := by
    have : "rbm_am" ∈ st.nets.map Prod.fst := by rw [can.names]; cases st.kind <;> exact List.mem_cons_self
    obtain ⟨p, hp, he⟩ := List.mem_map.1 this
    exact ⟨p.2, by rw [← he]; exact hp⟩
  have hfam := r1 _ hamm
  obtain ⟨l1, l2, l3⟩ := lenOf_of_shapes (netKindOf st.kind) st.nv st.nh (st.na.getD 0) (viewNet h am)
    (can.shapes wf _ hamm)
  cases hk : st.kind with
  | pos =>
    rw [hk, if_neg (by decide)] at hna
    exact ⟨none, by simp only [autoloadArgs, hfam, l1, l2, hna], fun hc => absurd rfl hc⟩
  | cplx =>
    rw [hk, if_neg (by decide)] at hna
    obtain ⟨d, hd⟩ := can.ud (by rw [hk]; decide)
    exact ⟨some d, by simp only [autoloadArgs, hfam, l1, l2, hna, r3 _ hd], fun _ => ⟨d, rfl, hd⟩⟩
  | dens =>
    rw [hk, if_pos rfl] at hna
    obtain ⟨d, hd⟩ := can.ud (by rw [hk]; decide)
    have l3' := l3 (by rw [hk]; rfl)
    generalize st.na.getD 0 = a at hna l3'
    exact ⟨some d, by simp only [autoloadArgs, hfam, l1, l2, l3', hna, r3 _ hd], fun _ => ⟨d, rfl, hd⟩⟩

/-- … and the object the size constructor builds from these arguments, on any well-formed heap, is `Compatible`
with that file: every network finds its entry, with its own names and shapes. -/
theorem compatible_constructSizes {h : Heap} (wf : HeapWF h) {st : NState} (can : Canonical h st) (file : File)
    (r1 : ∀ p ∈ st.nets, aget file (.str p.1) = some (.sd (viewNet h p.2)))
    {h2 : Heap} (wf2 : HeapWF h2) (udo : Option (List (String × Tok))) (rand : List (List Tok)) :
    Compatible (constructSizes h2 st.kind st.nv (some st.nh) st.na udo rand).1 file
      (constructSizes h2 st.kind st.nv (some st.nh) st.na udo rand).2.nets := by
  obtain ⟨_, _, _, _, c5, c6, _⟩ := C20_sizes wf2 st.kind st.nv (some st.nh) st.na udo rand
  intro q hq
  obtain ⟨p, hp, he⟩ : ∃ p ∈ st.nets, p.1 = q.1 :=
    List.mem_map.1 (can.names ▸ c5 ▸ List.mem_map_of_mem (f := Prod.fst) hq)
  obtain ⟨j, hj⟩ := List.getElem?_of_mem hq
  obtain ⟨v1, _, _, _⟩ := c6 j q hj
  refine ⟨viewNet h p.2, by rw [← he]; exact r1 p hp, ?_⟩
  rw [v1, ← freshParams_eq, shapesOf_paramSpecs, can.hidden_eq, can.aux_eq]
  exact can.shapes wf p hp

/-- **C11_roundtrip_autoload.** After a successful `save M md P` of a library state `M` on a well-formed heap,
`Kind(M).autoload(P)` in ANY later well-formed heap where the file is still the one written succeeds and
returns a NEW state (all parameter tensors are new objects) of the same type with the same architecture
`(num_visible, num_hidden[, num_aux])`, the same unitary dictionary (including user-added unitaries) and, for every
network, parameters bit-identical to those `M` had at the save. -/
theorem C11_roundtrip_autoload {h : Heap} (wf : HeapWF h) (fs : Files) (st : NState) (md : Option Nat) (path : Nat)
    (ok : StateOK h st) (can : Canonical h st) (fs' : Files) (h' : Heap)
    (hs : save h fs st md path = .ok (fs', h'))
    (h2 : Heap) (fs2 : Files) (rand : List (List Tok)) (wf2 : HeapWF h2)
    (hf2 : fs2 path = some (snapshot h st (mdEntries h md))) :
    ∃ h3 st3, autoload h2 fs2 st.kind path rand = .ok (h3, st3) ∧
      st3.kind = st.kind ∧ st3.nv = st.nv ∧ st3.nh = st.nh ∧ st3.na = st.na ∧ st3.ud = st.ud ∧
      st3.nets.map Prod.fst = st.nets.map Prod.fst ∧
      (∀ q ∈ st3.nets, ∀ p ∈ st.nets, q.1 = p.1 → viewNet h3 q.2 = viewNet h p.2) ∧
      (∀ q ∈ st3.nets, ∀ x ∈ netIds h3 q.2, h2.next ≤ x) := by
  have hnm := ok.noUD
  -- the save succeeded, so no key was reserved and the file can be read entry by entry
  obtain ⟨r1, _, r3⟩ := snapshot_reads h st (mdEntries h md) ok.names hnm (not_reserved_of_save_ok hnm hs)
  obtain ⟨udo, hargs, hudo⟩ := autoloadArgs_of_canonical wf can _ r1 r3
  have hcompat := compatible_constructSizes wf can _ r1 wf2 udo rand
  -- the fresh object: its attributes, and a unitary dictionary iff it is not a positive wavefunction
  obtain ⟨c1, c2, c3, c4, c5, c6, _⟩ := C20_sizes wf2 st.kind st.nv (some st.nh) st.na udo rand
  obtain ⟨f1, _, f3⟩ := constructSizes_wf wf2 st.kind st.nv (some st.nh) st.na udo rand
  have hud := (fun k => by cases k <;> rfl :
    ∀ k, (constructSizes h2 k st.nv (some st.nh) st.na udo rand).2.ud
      = if k = .pos then none else some (.ud (udOrDefault udo))) st.kind
  simp only [autoload, hf2, hargs]
  generalize constructSizes h2 st.kind st.nv (some st.nh) st.na udo rand = c at c1 c2 c3 c4 c5 c6 f1 f3 hud hcompat ⊢
  obtain ⟨o1, o2, o3⟩ := load_ok f1 fs2 _ path _ hf2 f3 hcompat
  rw [o1]
  refine ⟨_, _, rfl, ?_⟩
  rw [o3]
  refine ⟨c1, c2, c3.trans can.hidden_eq, ?_, ?_, c5.trans can.names.symm, fun q hq p hp hqp => ?_, fun q hq x hx => ?_⟩
  · rw [c4, can.aux_eq]; exact can.na_eq.symm
  · rw [hud]
    by_cases hk : st.kind = .pos
    · rw [if_pos hk]; exact (can.udpos hk).symm
    · obtain ⟨d, _, hd⟩ := hudo hk
      rw [if_neg hk, r3 _ hd]; exact hd.symm
  · have a := o2 q hq
    rw [hqp, r1 p hp] at a
    exact (FVal.sd.inj (Option.some.inj a)).symm
  · obtain ⟨j, hj⟩ := List.getElem?_of_mem hq
    obtain ⟨_, _, v3, _⟩ := c6 j q hj
    apply v3 x
    unfold netIds at hx ⊢
    rw [(load_touches c.1 fs2 c.2 path).1.nets] at hx
    exact hx

/-- the hypotheses of `C11_roundtrip_autoload` are satisfiable: a mixed state built from sizes `(2, 3, 1)` with a
user-added unitary is a well-formed canonical state -/
example : ∃ w : World, WorldWF w ∧ ∃ st, w.states 0 = some st ∧ Canonical w.heap st ∧ st.nh ≠ st.nv := by
  refine ⟨run World.empty [.construct 0 .dens 2 (some 3) (some 1) (some [("X", 1), ("Y", 2), ("Z", 3), ("H", 4)]) [[5, 6], [7, 8]],
    .addUnitary 0 "K" 9], run_wf _ WorldWF.empty _, ?_⟩
  refine ⟨_, rfl, ⟨rfl, ?_, (by decide), fun _ => ⟨_, rfl⟩, (by intro hk; exact absurd hk (by decide)),
    (by intro hk; exact absurd hk (by decide))⟩, (by decide)⟩
  intro p hp
  simp [constructSizes, netKindOf] at hp
  rcases hp with rfl | rfl
  · exact ⟨_, rfl, rfl, rfl, rfl, rfl⟩
  · exact ⟨_, rfl, rfl, rfl, rfl, rfl⟩

/-- a concrete non-trivial history on which the hypotheses of `C11_roundtrip` / `C11_history` hold: a complex
state with `H = 3 ≠ n = 2`, a user-added unitary, externally written (non-zero) parameters in both networks, flat
metadata in a caller-owned dict; it is saved twice with the same dict (both succeed), then loaded into a second
state of the same shape (succeeds), autoloaded (succeeds), and loaded into a state of another shape (`RuntimeError`). -/
example :
    let w := run World.empty [
      .construct 0 .cplx 2 (some 3) none (some [("X", 1), ("Y", 2), ("Z", 3), ("H", 4)]) [[5], [6]],
      .write 0 "rbm_am" [7, 8, 9], .write 0 "rbm_ph" [10, 11, 12], .addUnitary 0 "K" 13,
      .mkMeta 0 [(.str "epoch", .mv false 14), (.str "cfg", .mv true 15)],
      .construct 1 .cplx 2 (some 3) none none [[16], [17]],
      .construct 2 .cplx 2 (some 2) none none [[18], [19]]]
    (step w (.save 0 (some 0) 0)).2 = none ∧
    (step (step w (.save 0 (some 0) 0)).1 (.save 0 (some 0) 0)).2 = none ∧
    (step (step w (.save 0 (some 0) 0)).1 (.load 1 0)).2 = none ∧
    (step (step w (.save 0 (some 0) 0)).1 (.autoload 1 .cplx 0 [])).2 = none ∧
    (step (step w (.save 0 (some 0) 0)).1 (.load 2 0)).2 = some .RuntimeError ∧
    (step w (.load 1 0)).2 = some .FileNotFoundError := by
  decide +kernel

/-- reserved names are really refused in the model: metadata `{"rbm_ph": …}` on a complex state, `{"unitary_dict": …}`
on a mixed state; and accepted on a positive state, which has neither -/
example :
    let w := run World.empty [
      .construct 0 .cplx 2 none none none [[5], [6]], .construct 1 .dens 2 (some 1) (some 3) none [[7, 8], [9, 10]],
      .construct 2 .pos 2 none none none [[11]],
      .mkMeta 0 [(.str "rbm_ph", .mv false 12)], .mkMeta 1 [(.str "epoch", .mv false 13), (.str "unitary_dict", .mv false 14)]]
    (step w (.save 0 (some 0) 0)).2 = some .ValueError ∧ (step w (.save 1 (some 1) 0)).2 = some .ValueError ∧
    (step w (.save 2 (some 0) 0)).2 = none ∧ (step w (.save 2 (some 1) 0)).2 = none := by
  decide +kernel

/-- on a state WITHOUT a unitary dictionary the metadata key `unitary_dict` is ordinary metadata — the save
succeeds (twice), the file holds the caller's value under that key, `load` into a compatible positive state and
`PositiveWaveFunction.autoload` succeed; only the autoload as a state type that reads the entry is refused. -/
example :
    let w := run World.empty [
      .construct 2 .pos 2 none none none [[11]], .construct 1 .pos 2 none none none [[15]],
      .mkMeta 1 [(.str "epoch", .mv false 13), (.str "unitary_dict", .mv false 14)]]
    let w1 := (step w (.save 2 (some 1) 0)).1
    (step w (.save 2 (some 1) 0)).2 = none ∧ (step w1 (.save 2 (some 1) 0)).2 = none ∧
    (w1.files 0).bind (fun f => aget f (.str "unitary_dict")) = some (.mv false 14) ∧
    (step w1 (.load 1 0)).2 = none ∧ (step w1 (.autoload 0 .pos 0 [])).2 = none ∧
    (step w1 (.autoload 0 .cplx 0 [])).2 = some .AttributeError := by
  decide +kernel

/-! ### C11.5 — `location` is an open file object: streams of checkpoints (`QV.Model.StoreLoc`) -/

/-- **C11_autoload_stream.** For EVERY file object holding any number of segments (checkpoints of any models, of equal or
different sizes, headers) and EVERY start position that is the boundary in front of a checkpoint: `Kind.autoload(fileobj)`
(first read, construction, `seek(start)`, second read) returns exactly what the path-form `autoload` returns for the archive
stored at THAT boundary — refused iff that one is — and leaves the object at the next boundary, behind the archive it read.
Hence (second clause) if the archive was written by a non-refused `save` of a library state, the result is a NEW state of the
same type with the architecture, the unitary dictionary (user-added unitaries included) and, for every network, the
parameters the saved state had — whatever the other checkpoints of the stream hold. -/
theorem C11_autoload_stream (h : Heap) (kind : Kind) (rand : List (List Tok)) (recs : List Rec)
    (hpos : ∀ r ∈ recs, 0 < r.size) (k : Nat) (hk : k < recs.length) (sz : Nat) (file : File)
    (hrec : recs[k] = ⟨sz, some file⟩) :
    (autoloadStream h ⟨recs, offset recs k⟩ kind rand =
      match autoload h (fun _ => some file) kind 0 rand with
      | .error e => .error e
      | .ok r => .ok (r.1, r.2, ⟨recs, offset recs k + sz⟩)) ∧
    (∀ (h0 : Heap) (st0 : NState) (md : Option Nat) (s0 s0' : Stream) (sz0 : Nat) (h0' : Heap),
        HeapWF h0 → StateOK h0 st0 → Canonical h0 st0 → saveStream h0 s0 st0 md sz0 = .ok (s0', h0') →
        file = snapshot h0 st0 (mdEntries h0 md) → kind = st0.kind → HeapWF h →
        ∃ h3 st3, autoloadStream h ⟨recs, offset recs k⟩ kind rand = .ok (h3, st3, ⟨recs, offset recs k + sz⟩) ∧
          st3.kind = st0.kind ∧ st3.nv = st0.nv ∧ st3.nh = st0.nh ∧ st3.na = st0.na ∧ st3.ud = st0.ud ∧
          st3.nets.map Prod.fst = st0.nets.map Prod.fst ∧
          (∀ q ∈ st3.nets, ∀ p ∈ st0.nets, q.1 = p.1 → viewNet h3 q.2 = viewNet h0 p.2) ∧
          (∀ q ∈ st3.nets, ∀ x ∈ netIds h3 q.2, h.next ≤ x)) := by
  have hnext : offset recs (k + 1) = offset recs k + sz := by rw [offset_succ recs k hk, hrec]
  have main := autoloadStream_boundary h kind rand recs hpos k hk sz file hrec
  rw [hnext] at main
  refine ⟨main, ?_⟩
  intro h0 st0 md s0 s0' sz0 h0' wf0 ok0 can0 hsv hfile hkind wf
  -- the save into the file object was not refused, so neither is the path-form save of the same state
  have hsave := save_eq h0 (fun _ => none) st0 md 0
  rw [saveStream_eq] at hsv
  split at hsv
  · cases hsv
  · rename_i he
    rw [he] at hsave
    obtain ⟨h3, st3, ha, rest⟩ := C11_roundtrip_autoload wf0 (fun _ => none) st0 md 0 ok0 can0 _ _ hsave h
      (fun _ => some file) rand wf (by rw [hfile])
    refine ⟨h3, st3, ?_, rest⟩
    rw [main, hkind, ha]

/-- the hypotheses of `C11_autoload_stream` are satisfiable, and the remember-and-rewind step matters: a stream
`[checkpoint of a 1-visible model (3 bytes) | 10-byte header | checkpoint of a 2-visible model (4 bytes)]`, read at the third
boundary (position 13).  The code returns the 2-visible model and leaves the object at 17; rewinding to the start of the FILE
(`seek(0)`, mutant class M4_C11_2) or not rewinding at all (the code before fix F21) is refused. -/
example :
    let fileA : File := [(.str "rbm_am", .sd [("weights", [1, 1], 5), ("visible_bias", [1], 0), ("hidden_bias", [1], 0)])]
    let fileB : File := [(.str "rbm_am", .sd [("weights", [1, 2], 6), ("visible_bias", [2], 7), ("hidden_bias", [1], 8)])]
    let recs : List Rec := [⟨3, some fileA⟩, ⟨10, none⟩, ⟨4, some fileB⟩]
    let see := fun (r : Except SErr (Heap × NState × Stream)) => match r with
      | .ok x => some (x.2.1.nv, x.2.1.nets.map (fun p => (viewNet x.1 p.2).map (fun e => e.2.2)), x.2.2.pos)
      | .error _ => none
    offset recs 2 = 13 ∧
    see (autoloadStream Heap.empty ⟨recs, 13⟩ .pos []) = some (2, [[6, 7, 8]], 17) ∧
    see (autoloadStreamWith (fun _ => some 0) Heap.empty ⟨recs, 13⟩ .pos []) = none ∧
    see (autoloadStreamWith (fun _ => none) Heap.empty ⟨recs, 13⟩ .pos []) = none ∧
    see (autoloadStream Heap.empty ⟨recs, 3⟩ .pos []) = none := by
  decide +kernel

/-- … and between checkpoints of EQUAL size and architecture the `seek(0)` variant is not even refused: it silently returns
the parameters of the FIRST checkpoint (tokens 1, 2, 3) where the caller asked for the second (6, 7, 8). -/
example :
    let fileA : File := [(.str "rbm_am", .sd [("weights", [1, 2], 1), ("visible_bias", [2], 2), ("hidden_bias", [1], 3)])]
    let fileB : File := [(.str "rbm_am", .sd [("weights", [1, 2], 6), ("visible_bias", [2], 7), ("hidden_bias", [1], 8)])]
    let recs : List Rec := [⟨4, some fileA⟩, ⟨4, some fileB⟩]
    let see := fun (r : Except SErr (Heap × NState × Stream)) => match r with
      | .ok x => some (x.2.1.nets.map (fun p => (viewNet x.1 p.2).map (fun e => e.2.2)), x.2.2.pos)
      | .error _ => none
    see (autoloadStream Heap.empty ⟨recs, 4⟩ .pos []) = some ([[6, 7, 8]], 8) ∧
    see (autoloadStreamWith (fun _ => some 0) Heap.empty ⟨recs, 4⟩ .pos []) = some ([[1, 2, 3]], 4) := by
  decide +kernel

/-- **C11_load_stream.** `state.load(fileobj)` with the object at the boundary in front of a checkpoint is the path-form
`load` of THAT archive and leaves the object at the next boundary; into a shape-compatible state it succeeds, every network's
contents are the archive's entries and the unitary dictionary is the archive's; a position that holds a header is refused
with the model untouched. -/
theorem C11_load_stream {h : Heap} (wf : HeapWF h) (st : NState) (ok : StateOK h st) (recs : List Rec)
    (hpos : ∀ r ∈ recs, 0 < r.size) (k : Nat) (hk : k < recs.length) (sz : Nat) :
    (∀ file, recs[k] = ⟨sz, some file⟩ →
      loadStream h ⟨recs, offset recs k⟩ st =
        ((load h (fun _ => some file) st 0).1, (load h (fun _ => some file) st 0).2.1, ⟨recs, offset recs k + sz⟩,
          (load h (fun _ => some file) st 0).2.2) ∧
      (Compatible h file st.nets →
        (loadStream h ⟨recs, offset recs k⟩ st).2.2.2 = none ∧
        (∀ p ∈ st.nets, aget file (.str p.1) = some (.sd (viewNet (loadStream h ⟨recs, offset recs k⟩ st).1 p.2))) ∧
        (st.ud.isSome → ∀ u, aget file (.str "unitary_dict") = some u →
          (loadStream h ⟨recs, offset recs k⟩ st).2.1.ud = some u))) ∧
    (recs[k] = ⟨sz, none⟩ →
      (loadStream h ⟨recs, offset recs k⟩ st).2.2.2 = some .RuntimeError ∧
      (loadStream h ⟨recs, offset recs k⟩ st).1 = h ∧ (loadStream h ⟨recs, offset recs k⟩ st).2.1 = st) := by
  constructor
  · intro file hrec
    have hnext : offset recs (k + 1) = offset recs k + sz := by rw [offset_succ recs k hk, hrec]
    have e := loadStream_boundary h st recs hpos k hk sz file hrec
    rw [hnext] at e
    refine ⟨e, ?_⟩
    intro hc
    obtain ⟨l1, l2, _⟩ := load_ok wf (fun _ => some file) st 0 file rfl ok hc
    rw [e]
    exact ⟨l1, l2, load_ok_ud wf (fun _ => some file) st 0 file rfl ok hc⟩
  · intro hrec
    simp [loadStream, torchLoadS_header recs hpos k hk sz hrec]

/-- **C11_save_stream.** `state.save(fileobj, metadata)`: refused exactly when the path-form save is (reserved name or
non-string key) — and then nothing has been written; otherwise the heap is the one it was given (no side effect) and ONE
archive holding the snapshot (networks ++ metadata ++ unitary dictionary) has been written at the object's position.  With the
object at its end (appending to a stream of checkpoints): every earlier segment and boundary is as before, the new
checkpoint starts at the old end, and the object is at the new end. -/
theorem C11_save_stream {h : Heap} (wf : HeapWF h) (s : Stream) (st : NState) (md : Option Nat) (size : Nat)
    (hnm : ∀ p ∈ st.nets, p.1 ≠ "unitary_dict") :
    ((∃ e, saveStream h s st md size = .error e) ↔ Reserved st (mdEntries h md) ∨ NonStringKey (mdEntries h md)) ∧
    (∀ s' h', saveStream h s st md size = .ok (s', h') →
      h' = h ∧ s' = writeS s size (some (snapshot h st (mdEntries h md))) ∧
      (s.pos = totalSize s.recs →
        s'.recs = s.recs ++ [⟨size, some (snapshot h st (mdEntries h md))⟩] ∧ s'.pos = totalSize s'.recs ∧
        offset s'.recs s.recs.length = s.pos ∧
        (∀ k (hk : k < s.recs.length), s'.recs[k]? = some s.recs[k] ∧ offset s'.recs k = offset s.recs k))) := by
  rw [saveStream_eq]
  rcases saveErr_cases h st md hnm with ⟨r, e⟩ | ⟨r, k, e⟩ | ⟨r, k, e⟩ <;> rw [e]
  · exact ⟨⟨fun _ => Or.inl r, fun _ => ⟨_, rfl⟩⟩, fun _ _ hs => nomatch hs⟩
  · exact ⟨⟨fun _ => Or.inr k, fun _ => ⟨_, rfl⟩⟩, fun _ _ hs => nomatch hs⟩
  · rw [savedFile_snapshot wf st md hnm r]
    refine ⟨⟨(fun ⟨_, he⟩ => nomatch he), fun hc => hc.elim (absurd · r) (absurd · k)⟩, fun s' h' hs => ?_⟩
    cases hs
    refine ⟨rfl, rfl, fun hend => ?_⟩
    rw [writeS_end s size _ hend]
    refine ⟨rfl, ?_, ?_, fun j hj => ⟨?_, offset_append_le _ _ j (Nat.le_of_lt hj)⟩⟩
    · rw [totalSize_append, hend]; rfl
    · rw [offset_append_le _ _ _ (Nat.le_refl _), offset_length, hend]
    · rw [List.getElem?_append_left hj, List.getElem?_eq_getElem hj]

/-- what a `save` into a file object is SPECIFIED to leave in that object when it succeeds in world `sw` -/
def specWriteS (sw : SWorld) : SOp → Option (Nat × Stream)
  | .saveS slot md sid size =>
    match sw.w.states slot, sw.streams sid with
    | some st, some s =>
      match md with
      | none => some (sid, writeS s size (some (snapshot sw.w.heap st [])))
      | some m =>
        match sw.w.metas m with
        | none => none
        | some id => some (sid, writeS s size (some (snapshot sw.w.heap st (mdEntries sw.w.heap (some id)))))
    | _, _ => none
  | _ => none

/-- one step of the ABSTRACT machine on file objects: a successful `save` writes the specified snapshot at the object's
position; a refused one leaves every object alone; the other operations (open, the caller's own writes, seek, the position
changes of load / autoload) act as in the concrete machine -/
def absSStep (sw : SWorld) (op : SOp) : Nat → Option Stream :=
  match op with
  | .saveS .. =>
    if (sstep sw op).2 = none then
      match specWriteS sw op with
      | some (sid, s') => upd sw.streams sid s'
      | none => sw.streams
    else sw.streams
  | _ => (sstep sw op).1.streams

theorem saveStream_eq_snapshot {h : Heap} (wf : HeapWF h) (s : Stream) (st : NState) (md : Option Nat) (size : Nat)
    (hnm : ∀ p ∈ st.nets, p.1 ≠ "unitary_dict") :
    saveStream h s st md size = match saveErr h st md with
      | some e => .error e
      | none => .ok (writeS s size (some (snapshot h st (mdEntries h md))), h) := by
  rw [saveStream_eq]
  rcases saveErr_cases h st md hnm with ⟨_, e⟩ | ⟨_, _, e⟩ | ⟨r, _, e⟩ <;> rw [e]
  rw [savedFile_snapshot wf st md hnm r]

theorem sstep_streams (sw : SWorld) (wf : WorldWF sw.w) (op : SOp) : (sstep sw op).1.streams = absSStep sw op := by
  cases op with
  | saveS slot md sid size =>
    cases hs : sw.w.states slot with
    | none => simp only [absSStep, sstep, hs]; rfl
    | some st =>
      cases hq : sw.streams sid with
      | none => simp only [absSStep, sstep, hs, hq]; rfl
      | some s =>
        have hnm := wf.st_noud slot st hs
        cases md with
        | none =>
          simp only [absSStep, sstep, specWriteS, hs, hq, saveStream_eq_snapshot wf.heap _ _ _ _ hnm]
          cases saveErr sw.w.heap st none <;> rfl
        | some m =>
          cases hm : sw.w.metas m with
          | none => simp only [absSStep, sstep, hs, hq, hm]; rfl
          | some id =>
            simp only [absSStep, sstep, specWriteS, hs, hq, hm, saveStream_eq_snapshot wf.heap _ _ _ _ hnm]
            cases saveErr sw.w.heap st (some id) <;> rfl
  | base op => rfl
  | openS sid => rfl
  | writeHdr sid n => rfl
  | seekS sid pos => rfl
  | loadS slot sid => rfl
  | autoloadS slot kind sid rand => rfl

theorem srun_append (sw : SWorld) (a b : List SOp) : srun sw (a ++ b) = srun (srun sw a) b := by
  induction a generalizing sw with
  | nil => rfl
  | cons op r ih => simp [srun, ih]

/-- **C11_history_streams** (the round trip through file objects, for all histories).  For EVERY history over states,
modules, metadata dicts, files AND open file objects (open, the caller's own header bytes, seek, save / load / autoload through
the object, interleaved with all path-form operations) from the empty world: the invariant of `C11_history` holds; a save
through a file object puts the SNAPSHOT of the state at the object's position if it succeeds and changes no object if it is
refused (`absSStep`, which for every other operation is the concrete machine itself); and at the end, for every file object and every boundary `k` of it
that holds an archive, `load` into any shape-compatible state succeeds with that archive's parameters and unitary
dictionary, and `autoload` is the path-form autoload of that archive — each leaving the object at the next boundary. -/
theorem C11_history_streams (ops : List SOp) :
    let sw := srun SWorld.empty ops
    WorldWF sw.w ∧
    (∀ op, (srun SWorld.empty (ops ++ [op])).streams = absSStep sw op) ∧
    (∀ sid recs pos, sw.streams sid = some ⟨recs, pos⟩ → (∀ r ∈ recs, 0 < r.size) →
      ∀ k (hk : k < recs.length) sz file, recs[k] = ⟨sz, some file⟩ →
        (∀ slot st, sw.w.states slot = some st → Compatible sw.w.heap file st.nets →
          (loadStream sw.w.heap ⟨recs, offset recs k⟩ st).2.2.2 = none ∧
          (∀ q ∈ st.nets, aget file (.str q.1) =
            some (.sd (viewNet (loadStream sw.w.heap ⟨recs, offset recs k⟩ st).1 q.2))) ∧
          (st.ud.isSome → ∀ u, aget file (.str "unitary_dict") = some u →
            (loadStream sw.w.heap ⟨recs, offset recs k⟩ st).2.1.ud = some u) ∧
          (loadStream sw.w.heap ⟨recs, offset recs k⟩ st).2.2.1 = ⟨recs, offset recs k + sz⟩) ∧
        (∀ kind rand, autoloadStream sw.w.heap ⟨recs, offset recs k⟩ kind rand =
          match autoload sw.w.heap (fun _ => some file) kind 0 rand with
          | .error e => .error e
          | .ok r => .ok (r.1, r.2, ⟨recs, offset recs k + sz⟩))) := by
  intro sw
  have wfw : WorldWF sw.w := srun_wf SWorld.empty WorldWF.empty ops
  refine ⟨wfw, ?_, ?_⟩
  · intro op
    rw [srun_append]
    exact sstep_streams sw wfw op
  · intro sid recs pos _ hpos k hk sz file hrec
    constructor
    · intro slot st hs hc
      obtain ⟨l, _⟩ := C11_load_stream wfw.heap st (wfw.stateOK hs) recs hpos k hk sz
      obtain ⟨l1, l2, l3⟩ := (l file hrec).2 hc
      refine ⟨l1, l2, l3, ?_⟩
      rw [(l file hrec).1]
    · intro kind rand
      exact (C11_autoload_stream sw.w.heap kind rand recs hpos k hk sz file hrec).1

/-- a concrete non-trivial history through ONE file object: a 14-byte header, a complex state with a user-added unitary
saved behind it (archive of 100 bytes), changed and saved again behind that (120 bytes), a mixed state of other sizes saved
third (90 bytes); then `autoload` from the boundary of each checkpoint (positions 14, 114, 234) succeeds, from the header
(position 0) it is refused, a compatible `load` of the first checkpoint succeeds, and a save with a reserved key is refused. -/
example :
    let sw := srun SWorld.empty [
      .base (.construct 0 .cplx 2 (some 3) none (some [("X", 1), ("Y", 2), ("Z", 3), ("H", 4)]) [[5], [6]]),
      .base (.write 0 "rbm_am" [7, 8, 9]), .base (.addUnitary 0 "K" 13),
      .base (.mkMeta 0 [(.str "epoch", .mv false 14)]), .base (.mkMeta 1 [(.str "rbm_ph", .mv false 15)]),
      .openS 0, .writeHdr 0 14, .saveS 0 (some 0) 0 100,
      .base (.write 0 "rbm_ph" [10, 11, 12]), .saveS 0 (some 0) 0 120,
      .base (.construct 1 .dens 2 (some 1) (some 3) none [[16, 17], [18, 19]]), .saveS 1 none 0 90]
    (sw.streams 0).map (fun s => (s.recs.map (fun r => (r.size, r.data.isSome)), s.pos)) =
      some ([(14, false), (100, true), (120, true), (90, true)], 324) ∧
    (sstep (sstep sw (.seekS 0 14)).1 (.autoloadS 2 .cplx 0 [])).2 = none ∧
    (sstep (sstep sw (.seekS 0 114)).1 (.autoloadS 2 .cplx 0 [])).2 = none ∧
    (sstep (sstep sw (.seekS 0 234)).1 (.autoloadS 2 .dens 0 [])).2 = none ∧
    (sstep (sstep sw (.seekS 0 0)).1 (.autoloadS 2 .cplx 0 [])).2 = some .RuntimeError ∧
    (sstep (sstep sw (.seekS 0 14)).1 (.loadS 0 0)).2 = none ∧
    (sstep (sstep sw (.seekS 0 14)).1 (.loadS 1 0)).2 ≠ none ∧
    (sstep sw (.saveS 0 (some 1) 0 50)).2 = some .ValueError ∧
    ((sstep sw (.saveS 0 (some 1) 0 50)).1.streams 0).map (fun s => (s.recs.length, s.pos)) = some (4, 324) := by
  decide +kernel

/-! ### C11.6 — `load` REPLACES the receiver's unitary dictionary -/

/-- **C11_load_replaces_dict.** For EVERY prior dictionary `d0` of the receiving state (any user letters, any values) and every
file written by a state with dictionary `d`: after a successful `load` the receiver's dictionary is EXACTLY `d` — the same
names in the same order with the saved values; a letter the receiver had and the file lacks is gone, nothing is merged.
(The content is conjunct 2, the dictionary clause of `C11_roundtrip` read for a receiver that HAD a dictionary `d0`; `d0` enters
only through `st.ud = some _`; that a name not among the keys of `d` is absent afterwards follows by `aget_none_iff`.) -/
theorem C11_load_replaces_dict {h : Heap} (wf : HeapWF h) (fs : Files) (st : NState) (path : Nat) (file : File)
    (hf : fs path = some file) (ok : StateOK h st) (hc : Compatible h file st.nets)
    (d0 d : List (String × Tok)) (hd0 : st.ud = some (.ud d0)) (hd : aget file (.str "unitary_dict") = some (.ud d)) :
    (load h fs st path).2.2 = none ∧ (load h fs st path).2.1.ud = some (.ud d) := by
  exact ⟨(load_ok wf fs st path file hf ok hc).1, load_ok_ud wf fs st path file hf ok hc (by rw [hd0]; rfl) _ hd⟩

/-- satisfiable and non-trivial: the receiver owns the extra letters `Q`, `R` (and its own `H`); the file has `X, Y, Z, H, K`:
after the load the receiver has exactly the file's five entries with the file's `H` -/
example :
    let w := run World.empty [
      .construct 0 .cplx 2 (some 3) none (some [("X", 1), ("Y", 2), ("Z", 3), ("H", 4)]) [[5], [6]], .addUnitary 0 "K" 13,
      .construct 1 .cplx 2 (some 3) none (some [("X", 1), ("Y", 2), ("Z", 3), ("H", 20)]) [[16], [17]],
      .addUnitary 1 "Q" 21, .addUnitary 1 "R" 22, .save 0 none 0, .load 1 0]
    (w.states 1).bind (fun st => st.ud) = some (.ud [("X", 1), ("Y", 2), ("Z", 3), ("H", 4), ("K", 13)]) := by
  decide +kernel

/-! ### C11.7 — where the model-saving callback writes (`QV.Model.StoreLoc`) -/

/-- **C11_saver_path.** A `ModelSaver(period, folder_path, file_name)` created while the working directory is `cwd0` (any folder:
relative or absolute, with `.` / `..` levels, existing or not) — if the construction is not refused (no regular file in the
way): the folder exists as a directory afterwards, everything that was a directory still is, and for EVERY later working
directory `cwd1`, every epoch `e` with `e % period = 0` and every file name template that formats with one argument, the file
written at the end of epoch `e` is `<folder resolved against cwd0> / <file_name.format(e)>`; at epochs that are no multiple of
the period nothing is written; the initial checkpoint goes to `<the same folder> / file_name.format("initial")` iff
`save_initial`.  A `metadata` argument that is neither callable, dict nor None refuses EVERY write (both with and without
`metadata_only`); the documented forms are `Store.saverSave` (last conjunct, stated for the dict form only). -/
theorem C11_saver_path (fs fs' : DirFs) (cwd0 : List String) (period : Nat) (folder : PathArg) (fileName : List Seg)
    (si : Bool) (sv : PSaver) (hinit : PSaver.init true fs cwd0 period folder fileName si = .ok (sv, fs'))
    (hroot : fs [] = some true) :
    fs' (resolvePath cwd0 folder) = some true ∧ (∀ q, fs q = some true → fs' q = some true) ∧
    (∀ (cwd1 : List String) (e : Nat) (name : String), period ≠ 0 → formatName fileName (.num e) = .ok name →
      sv.epochEndTarget cwd1 e = .ok (if e % period = 0 then some (resolvePath cwd0 folder, name) else none)) ∧
    (∀ (cwd1 : List String) (name : String), formatName fileName .initial = .ok name →
      sv.trainStartTarget cwd1 = .ok (if si then some (resolvePath cwd0 folder, name) else none)) ∧
    (∀ h files st mo path, saverSaveArg h files st .other mo path = .error .UnboundLocalError) ∧
    (∀ h files st mo path id, saverSaveArg h files st (.dict id) mo path =
      match saverSave h files st (.dict id) mo path with
      | .error e => .error (.inner e)
      | .ok x => .ok x) := by
  unfold PSaver.init at hinit
  cases hm : mkdirAll fs [] (resolvePath cwd0 folder) with
  | error e => simp [hm] at hinit
  | ok fs1 =>
    simp only [hm, Except.ok.injEq, Prod.mk.injEq, if_true] at hinit
    obtain ⟨rfl, rfl⟩ := hinit
    refine ⟨?_, ?_, ?_, ?_, fun _ _ _ _ _ => rfl, fun _ _ _ _ _ _ => rfl⟩
    · simpa using mkdirAll_dir fs fs1 [] _ hm hroot
    · exact fun q hq => mkdirAll_keeps fs fs1 [] _ hm q hq
    · intro cwd1 e name hp hn
      simp only [PSaver.epochEndTarget, hp, if_false, PSaver.target, hn, resolvePath_resolved]
      split <;> rfl
    · intro cwd1 name hn
      simp only [PSaver.trainStartTarget, PSaver.target, hn, resolvePath_resolved]
      split <;> rfl

/-- satisfiable and non-trivial: folder `"runs/../ckpt/./a"` created in `/home/u` (where `/home/u/ckpt` already exists), file name
`"m{}.pt"`, period 2; the trainer then moves to `/tmp/x`.  The code writes epoch 4 to `/home/u/ckpt/a/m4.pt`; the variant that
does not resolve at construction (mutant class M5_C11_1) would write to `/tmp/x/ckpt/a/m4.pt`.  A regular file in the way, a
second blank in the file name and period 0 are refused. -/
example :
    let fs : DirFs := fun q => if q = [] ∨ q = ["home"] ∨ q = ["home", "u"] ∨ q = ["home", "u", "ckpt"] then some true
      else if q = ["home", "u", "blocked"] then some false else none
    let folder : PathArg := ⟨false, ["runs", "..", "ckpt", ".", "a"]⟩
    let tmpl : List Seg := [.lit "m", .auto, .lit ".pt"]
    let tgt := fun (r : Except PErr (PSaver × DirFs)) (cwd1 : List String) (e : Nat) => match r with
      | .ok x => (match x.1.epochEndTarget cwd1 e with | .ok t => t | .error _ => none)
      | .error _ => none
    tgt (PSaver.init true fs ["home", "u"] 2 folder tmpl true) ["tmp", "x"] 4 = some (["home", "u", "ckpt", "a"], "m4.pt") ∧
    tgt (PSaver.init true fs ["home", "u"] 2 folder tmpl true) ["tmp", "x"] 3 = none ∧
    tgt (PSaver.init false fs ["home", "u"] 2 folder tmpl true) ["tmp", "x"] 4 = some (["tmp", "x", "ckpt", "a"], "m4.pt") ∧
    (match PSaver.init true fs ["home", "u"] 2 ⟨false, ["blocked", "a"]⟩ tmpl true with | .ok _ => false | .error _ => true) = true ∧
    formatName [.lit "m", .auto, .auto] (.num 4) = .error .IndexError ∧
    formatName [.lit "m", .idx 0, .lit "-", .idx 0] .initial = .ok "minitial-initial" ∧
    (match PSaver.init true fs ["home", "u"] 0 folder tmpl true with
      | .ok x => (match x.1.epochEndTarget [] 4 with | .error .ZeroDivisionError => true | _ => false)
      | .error _ => false) = true := by
  decide +kernel

end C11
end QV.Props
