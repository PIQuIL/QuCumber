/-
C15 — The complex-tensor kernel agrees with complex arithmetic.

"Every operation of the library's real-pair complex tensor representation — construction and
conversion, products (scalar, elementwise, matrix, inner, outer, Kronecker, Einstein-summation),
conjugation and conjugate transpose, division and inverse, modulus and norms, complex sigmoid —
returns the real-pair encoding of what native complex arithmetic gives on the decoded operands, for
all supported shapes, and rejects unsupported shapes or aliasing output buffers with an error rather
than a wrong value."

Model: QV.Model.Cplx (executed against qucumber/utils/cplx.py by the C15 correspondence check).
Vocabulary (QV.Lemmas.CplxTensor): `Valid s idx` — `idx` is a multi-index of shape `s`; `IsCplx x s` — `x` is a
well-formed tensor of shape `2 :: s`; `centry x idx = (x[0,idx], x[1,idx])` — the decoded complex entry as a
real pair; `dec : C ℝ → ℂ`.  The ring statements hold over EVERY carrier (they are equalities of pairs built
with the pair operations `C.mul`, `C.conj`, … whose meaning in ℂ is fixed by `C15_dec_*`); sums need a
commutative ring; division / modulus / sigmoid are stated in ℂ.
Scope: `inverse`, the two divisions and `sigmoid` are identified with `z⁻¹`, `x / y`, `e^z/(1+e^z)` where the divisor resp.
`1 + e^z` is non-zero (there the float code yields `nan` / `inf`; over ℝ the equations hold without the guard, which the
proofs of `C15_sigmoid`, `toC_inv`, `toC_div` do not use).  The error KIND in the `C15_rejects_*` theorems is the model's: the
check compares rejected / accepted only.  Not modelled: zero-length axes, cutting the equation string into tokens (harness),
the float64→float32 rounding of `y.to(x)`, strides of operands (values do not depend on them; where the entries of an
`out=` buffer live IS modelled: `View`, `C15_scalar_mult_out_storage`).
-/
import Mathlib.Data.Complex.Basic
import Mathlib.Data.Matrix.Mul
import Mathlib.LinearAlgebra.Matrix.ConjTranspose
import Mathlib.LinearAlgebra.Matrix.Kronecker
import QV.Real
import QV.Model.Cplx
import QV.Lemmas.CplxTensor
import QV.Lemmas.CplxStorage
import QV.Lemmas.CplxEinsumEq
import QV.Lemmas.CplxHead
import QV.Lemmas.PyFlag

namespace QV.Props
namespace C15
open QV QV.Cplx
set_option linter.unusedSectionVars false

section anycarrier
variable {α : Type} [Add α] [Mul α] [Neg α] [Sub α] [Zero α] [One α]

/-- **make_complex(x, y)**: for equally shaped (well-formed) real tensors the result is the complex tensor
with real plane `x` and imaginary plane `y`. -/
theorem C15_make_complex {x y : Tensor α} (hs : y.shape = x.shape) (hx : WF x) (hy : WF y) :
    ∃ z, makeComplex x (some y) = .ok z ∧ IsCplx z x.shape ∧
      ∀ idx, Valid x.shape idx → centry z idx = (x.at idx, y.at idx) :=
  ⟨_, if_pos hs.symm, isCplx_cat hs hx hy, fun _ hv => centry_cat hs hx hv⟩

/-- **make_complex(x)**: the imaginary part defaults to zero. -/
theorem C15_make_complex_none {x : Tensor α} (hx : WF x) :
    ∃ z, makeComplex x none = .ok z ∧ IsCplx z x.shape ∧
      ∀ idx, Valid x.shape idx → centry z idx = (x.at idx, 0) := by
  have hz : WF (zerosLike x) := (List.length_map _).trans hx
  refine ⟨_, if_pos rfl, isCplx_cat (a := x) (b := zerosLike x) rfl hx hz, fun idx hv => ?_⟩
  rw [centry_cat (a := x) (b := zerosLike x) rfl hx hv]
  exact congrArg _ (List.getD_map x.data 0 fun _ => 0)

/-- `make_complex` rejects exactly the pairs of different shape (`torch.cat` raises `RuntimeError`). -/
theorem C15_rejects_make_complex (x y : Tensor α) :
    makeComplex x (some y) = .error .RuntimeError ↔ x.shape ≠ y.shape := by
  unfold makeComplex cat2
  by_cases h : x.shape = y.shape <;> simp [h]

/-- **scalar_mult / elementwise_mult**: for every broadcastable pair of tensor shapes the result has the
broadcast shape and entry `idx` is the complex product of the operand entries the right-aligned broadcast
selects. -/
theorem C15_scalar_mult {x y : Tensor α} {sx sy r : List Nat} (hx : IsCplx x sx) (hy : IsCplx y sy)
    (hb : broadcastShape sx sy = .ok r) :
    ∃ z, scalarMult x y = .ok z ∧ IsCplx z r ∧
      ∀ idx, Valid r idx → centry z idx = C.mul (centry x (bidx sx idx)) (centry y (bidx sy idx)) := by
  unfold scalarMult
  rw [real_eq hx, real_eq hy, imag_eq hx, imag_eq hy]
  simp only [ok_bind]
  rw [bop_eq _ (reT x sx) (reT y sy) hb, bop_eq _ (imT x sx) (imT y sy) hb, bop_eq _ (reT x sx) (imT y sy) hb,
    bop_eq _ (imT x sx) (reT y sy) hb]
  simp only [ok_bind]
  refine cat2_spec _ rfl rfl (wf_zip_build _ _ _ _) (wf_zip_build _ _ _ _) ?_
  intro idx hv
  have hvv := broadcast_valid hb hv
  rw [at_zip_build _ _ _ _ hv, at_zip_build _ _ _ _ hv]
  simp only [reT_shape, imT_shape, reT_at hx hvv.1, reT_at hy hvv.2, imT_at hx hvv.1, imT_at hy hvv.2]
  rfl


/-- `elementwise_mult` IS `scalar_mult` (cplx.py:263-265). -/
theorem C15_elementwise_mult (x y : Tensor α) : elementwiseMult x y = scalarMult x y := rfl

/-- a pair that does not broadcast is rejected with torch's `RuntimeError`. -/
theorem C15_rejects_scalar_mult_shape {x y : Tensor α} {sx sy : List Nat} {e : PyErr} (hx : IsCplx x sx)
    (hy : IsCplx y sy) (hb : broadcastShape sx sy = .error e) : scalarMult x y = .error .RuntimeError := by
  unfold scalarMult
  rw [real_eq hx, real_eq hy]
  simp only [ok_bind]
  rw [bop_err _ (reT x sx) (reT y sy) hb, broadcastShape_err hb]
  rfl

/-- **real / imag**: the two planes of a complex tensor. -/
theorem C15_real_imag {x : Tensor α} {s : List Nat} (hx : IsCplx x s) :
    ∃ re im, real x = .ok re ∧ imag x = .ok im ∧ re.shape = s ∧ im.shape = s ∧ WF re ∧ WF im ∧
      ∀ idx, Valid s idx → (re.at idx, im.at idx) = centry x idx :=
  ⟨reT x s, imT x s, real_eq hx, imag_eq hx, rfl, rfl, reT_wf hx, imT_wf hx,
    fun idx hv => by rw [reT_at hx hv, imT_at hx hv]⟩

/-- `real` / `imag` raise `IndexError` exactly on tensors without a (long enough) leading axis. -/
theorem C15_rejects_real_imag (x : Tensor α) :
    (real x = .error .IndexError ↔ x.shape = [] ∨ x.shape.head? = some 0) ∧
    (imag x = .error .IndexError ↔ x.shape = [] ∨ x.shape.head? = some 0 ∨ x.shape.head? = some 1) := by
  unfold real imag
  constructor
  · split <;> simp_all
  · split <;> simp_all

/-- a tensor that is NOT a complex tensor (0-d, or leading axis of length 0 or 1) either has no real plane or no imaginary plane;
the model's only error there is `IndexError` -/
theorem C15_rejects_not_complex_planes (x : Tensor α) (h : x.shape = [] ∨ x.shape.head? = some 0 ∨ x.shape.head? = some 1) :
    imag x = .error .IndexError ∧ (real x = .error .IndexError ∨ ∃ r, real x = .ok r) :=
  ⟨(C15_rejects_real_imag x).2.mpr h, by unfold real; split; exacts [.inl rfl, .inl rfl, .inr ⟨_, rfl⟩]⟩

/-- **conj rejects** (`IndexError`) every tensor that is not a complex tensor: 0-d, leading axis of length 0 or 1
(a leading axis ≥ 3 is accepted, planes 0 and 1 are used: scope note in claims.d/C15.json). -/
theorem C15_rejects_conj (x : Tensor α) (h : x.shape = [] ∨ x.shape.head? = some 0 ∨ x.shape.head? = some 1) :
    conj x = .error .IndexError := by
  obtain ⟨hi, hr | ⟨r, hr⟩⟩ := C15_rejects_not_complex_planes x h
  · unfold conj; rw [hr]; rfl
  · unfold conj; rw [hr, hi]; rfl

/-- **conj**: entrywise complex conjugate, same shape, every rank. -/
theorem C15_conj {x : Tensor α} {s : List Nat} (hx : IsCplx x s) :
    ∃ z, conj x = .ok z ∧ IsCplx z s ∧ ∀ idx, Valid s idx → centry z idx = C.conj (centry x idx) := by
  unfold conj
  rw [real_eq hx, imag_eq hx]
  simp only [ok_bind, makeComplex_some]
  refine cat2_spec _ rfl rfl (reT_wf hx) (wf_map _ _ (imT_wf hx)) ?_
  intro idx hv
  rw [at_map _ _ (imT_wf hx) (by simpa using hv), reT_at hx hv, imT_at hx hv]
  rfl

/-- **conjugate** of a scalar or vector (`dim() < 3`) is the entrywise conjugate. -/
theorem C15_conjugate_low_rank {x : Tensor α} {s : List Nat} (hx : IsCplx x s) (hr : s.length < 2) :
    ∃ z, conjugate x = .ok z ∧ IsCplx z s ∧ ∀ idx, Valid s idx → centry z idx = C.conj (centry x idx) := by
  have : x.shape.length < 3 := by rw [hx.1]; simp; omega
  unfold conjugate
  rw [if_pos this]
  exact C15_conj hx

/-- **conjugate** of a matrix or higher-rank tensor is the CONJUGATE TRANSPOSE in the first two tensor axes:
shape `d1 :: d0 :: s`, entry `(j, i, rest) = conj (x (i, j, rest))`. -/
theorem C15_conjugate_transpose {x : Tensor α} {d0 d1 : Nat} {s : List Nat} (hx : IsCplx x (d0 :: d1 :: s)) :
    ∃ z, conjugate x = .ok z ∧ IsCplx z (d1 :: d0 :: s) ∧
      ∀ i j rest, Valid (d1 :: d0 :: s) (j :: i :: rest) →
        centry z (j :: i :: rest) = C.conj (centry x (i :: j :: rest)) := by
  have : ¬ x.shape.length < 3 := by rw [hx.1]; simp
  unfold conjugate
  rw [if_neg this, real_eq hx, imag_eq hx]
  simp only [ok_bind, transpose01, reT_shape, imT_shape, makeComplex_some]
  refine Exists.imp (fun z h => ⟨h.1, h.2.1, fun i j rest hv => ?_⟩)
    (cat2_spec (s := d1 :: d0 :: s) _ (build_shape _ _) rfl (wf_build _ _) (wf_map _ _ (wf_build _ _)) fun _ _ => rfl)
  have hv' : Valid (d0 :: d1 :: s) (i :: j :: rest) := by
    simp only [valid_cons] at hv ⊢; tauto
  rw [h.2.2 _ hv, at_map _ _ (wf_build _ _) (by simpa using hv), at_build _ hv, at_build _ hv]
  simp only [reT_at hx hv', imT_at hx hv']
  rfl

/-- **outer_prod**: `z[i, j] = x_i · conj(y_j)` for vectors of ANY two lengths. -/
theorem C15_outer_prod {x y : Tensor α} {n m : Nat} (hx : IsCplx x [n]) (hy : IsCplx y [m]) :
    ∃ z, outerProd x y = .ok z ∧ IsCplx z [n, m] ∧
      ∀ i j, i < n → j < m → centry z [i, j] = C.mul (centry x [i]) (C.conj (centry y [j])) := by
  have h2 : ¬ (x.shape.length ≠ 2 ∨ y.shape.length ≠ 2) := by rw [hx.1, hy.1]; simp
  unfold outerProd
  rw [if_neg h2, real_eq hx, real_eq hy, imag_eq hx, imag_eq hy]
  simp only [ok_bind, gerR, reT_shape, imT_shape, map_shape]
  refine Exists.imp (fun z h => ⟨h.1, h.2.1, fun i j hi hj => ?_⟩)
    (cat2_spec (s := [n, m]) _ rfl rfl (wf_zip_build _ _ _ _) (wf_zip_build _ _ _ _) fun _ _ => rfl)
  have hv : Valid [n, m] [i, j] := by simp [hi, hj]
  have hvi : Valid [n] [i] := by simp [hi]
  have hvj : Valid [m] [j] := by simp [hj]
  rw [h.2.2 _ hv, at_zip_build _ _ _ _ hv, at_zip_build _ _ _ _ hv]
  simp only [List.getD_cons_zero, List.getD_cons_succ, reT_at hx hvi, imT_at hx hvi, reT_at hy hvj,
    at_map _ _ (imT_wf hy) (idx := [j]) (by simpa using hvj), imT_at hy hvj]
  rfl

/-- `outer_prod` raises `ValueError` when an operand is not a complex vector (`dim() != 2`); complex vectors are accepted:
`C15_outer_prod`. -/
theorem C15_rejects_outer_prod (x y : Tensor α) (h : x.shape.length ≠ 2 ∨ y.shape.length ≠ 2) :
    outerProd x y = .error .ValueError := by
  unfold outerProd; rw [if_pos h]


/-- **broadcasting is torch's right-aligned rule**: two tensor shapes are accepted iff, counting axes from the
RIGHT and treating missing axes as length 1 (`rdim`), every pair of lengths is equal or contains a 1; the result
has the longer rank and, at each position, the length that is not 1. -/
theorem C15_broadcast_shape (sx sy r : List Nat) : broadcastShape sx sy = .ok r ↔
    r.length = max sx.length sy.length ∧
    ∀ k, (rdim sx k = rdim sy k ∨ rdim sx k = 1 ∨ rdim sy k = 1) ∧
      rdim r k = if rdim sx k = 1 then rdim sy k else rdim sx k := by
  -- padding on the left does not change `rdim`, so the axis-by-axis rule on the padded shapes, read from the right, is this one
  have hpx := padL_length (le_max_left sx.length sy.length)
  have hpy := padL_length (le_max_right sx.length sy.length)
  rw [broadcastShape_eq_ok, bshapeEq_iff]
  constructor
  · rintro ⟨h1, h2, h3⟩
    refine ⟨by omega, fun k => ?_⟩
    have hk := (forall_getD_iff_rdim h1 h2 (fun a b c => bdim a b = some c) rfl).1 h3 k
    rwa [rdim_padL, rdim_padL, bdim_iff] at hk
  · rintro ⟨h1, h2⟩
    refine ⟨by omega, by omega, (forall_getD_iff_rdim (by omega) (by omega) (fun a b c => bdim a b = some c) rfl).2
      fun k => ?_⟩
    rw [rdim_padL, rdim_padL, bdim_iff]
    exact h2 k

/-- **the broadcast index map is the right-aligned one**: for a result index `idx`, each operand is read at a
VALID multi-index of its own shape which, `k` positions from the right, is 0 where the operand's axis has length 1
and the result's own component otherwise (leading result axes the operand lacks are dropped). -/
theorem C15_broadcast_index {sx sy r idx : List Nat} (hb : broadcastShape sx sy = .ok r) (hv : Valid r idx) :
    (Valid sx (bidx sx idx) ∧ ∀ k, k < sx.length → ridx (bidx sx idx) k = if rdim sx k = 1 then 0 else ridx idx k) ∧
    (Valid sy (bidx sy idx) ∧ ∀ k, k < sy.length → ridx (bidx sy idx) k = if rdim sy k = 1 then 0 else ridx idx k) := by
  have hl := broadcast_length hb
  have hil := hv.length
  have hvv := broadcast_valid hb hv
  exact ⟨⟨hvv.1, (bidx_spec (by omega)).2⟩, ⟨hvv.2, (bidx_spec (by omega)).2⟩⟩

/-- **numpy(x)**: the complex array whose entry `idx` is the decoded entry of `x`. -/
theorem C15_numpy {x : Tensor α} {s : List Nat} (hx : IsCplx x s) :
    ∃ z : Tensor (C α), numpy x = .ok z ∧ z.shape = s ∧ z.data.length = numel s ∧
      ∀ idx, Valid s idx → z.data.getD (flatten s idx) (0, 0) = centry x idx := by
  unfold numpy
  rw [real_eq hx, imag_eq hx]
  simp only [ok_bind, pure_eq_ok]
  refine ⟨_, rfl, rfl, ?_, fun idx hv => ?_⟩
  · exact (List.length_zipWith ..).trans ((congrArg₂ min (reT_wf hx) (imT_wf hx)).trans (min_self _))
  · have hlt := flatten_lt hv
    rw [getD_zipWith _ 0 0 _ ((reT_wf hx).symm ▸ hlt) ((imT_wf hx).symm ▸ hlt)]
    exact Prod.ext (reT_at hx hv) (imT_at hx hv)

/-- **make_complex(ndarray)** and **numpy** are inverse to each other: a complex array becomes the complex
tensor with the same entries, and converting back returns the array. -/
theorem C15_ofNdarray_numpy (z : Tensor (C α)) (hz : z.data.length = numel z.shape) :
    ∃ x, ofNdarray z = .ok x ∧ IsCplx x z.shape ∧
      (∀ idx, Valid z.shape idx → centry x idx = z.data.getD (flatten z.shape idx) (0, 0)) ∧
      numpy x = .ok z := by
  have h1 : WF (⟨z.shape, z.data.map (fun c => c.1)⟩ : Tensor α) := List.length_map _ |>.trans hz
  have h2 : WF (⟨z.shape, z.data.map (fun c => c.2)⟩ : Tensor α) := List.length_map _ |>.trans hz
  have hc := isCplx_cat (a := ⟨z.shape, z.data.map fun c => c.1⟩) (b := ⟨z.shape, z.data.map fun c => c.2⟩) rfl h1 h2
  refine ⟨_, if_pos rfl, hc, fun idx hv => ?_, ?_⟩
  · rw [centry_cat (a := ⟨z.shape, z.data.map fun c => c.1⟩) (b := ⟨z.shape, z.data.map fun c => c.2⟩) rfl h1 hv]
    exact Prod.ext (List.getD_map _ (0, 0) _) (List.getD_map _ (0, 0) _)
  · unfold numpy
    rw [real_eq hc, imag_eq hc]
    simp only [ok_bind, pure_eq_ok, reT, imT]
    rw [List.take_left' h1, List.drop_left' h1, List.take_of_length_le h2.le, List.zipWith_map_left,
      List.zipWith_map_right, List.zipWith_self, List.map_id']

/-- `y.to(x)`: the same object when the dtypes agree, otherwise a NEW object of `x`'s dtype; the values are
always those of `y`. -/
theorem C15_toLike (y x : Obj α) (fresh : Nat) :
    (y.dtype = x.dtype → toLike y x fresh = y) ∧
    (y.dtype ≠ x.dtype → (toLike y x fresh).id = fresh ∧ (toLike y x fresh).dtype = x.dtype) ∧
    (toLike y x fresh).t = y.t := by
  unfold toLike
  by_cases h : y.dtype = x.dtype <;> simp [h]

/-- **aliasing output buffers are rejected, whatever the dtypes and shapes**: `out is x` or `out is y` — tested on
the caller's ORIGINAL objects, before `y = y.to(x)` — gives `RuntimeError`. (Before fix b571e19 the test ran after the
cast, so a `y` of another dtype was overwritten.) -/
theorem C15_rejects_scalar_mult_alias (x y o : Obj α) (f1 f2 : Nat) (h : o.id = x.id ∨ o.id = y.id) :
    scalarMultO x y (some o) f1 f2 = .error .RuntimeError := by
  simp only [scalarMultO, if_pos h]

/-- for well-formed broadcastable operands, `RuntimeError` with an `out` buffer means aliasing and nothing else. -/
theorem C15_scalar_mult_alias_iff {x y o : Obj α} {sx sy r : List Nat} (f1 f2 : Nat) (hx : IsCplx x.t sx)
    (hy : IsCplx y.t sy) (hb : broadcastShape sx sy = .ok r) :
    scalarMultO x y (some o) f1 f2 = .error .RuntimeError ↔ (o.id = x.id ∨ o.id = y.id) := by
  have ht : (toLike y x f1).t = y.t := (C15_toLike y x f1).2.2
  constructor
  · intro h
    by_contra hna
    obtain ⟨z, hz, _, _⟩ := C15_scalar_mult hx hy hb
    simp only [scalarMultO, if_neg hna, ht, resultShape_eq hx hy hb, ok_bind] at h
    split at h
    · cases h
    · simp only [hz, ok_bind, pure_eq_ok] at h; cases h
  · exact C15_rejects_scalar_mult_alias x y o f1 f2

/-- **an `out=` buffer of the wrong shape is rejected** (fix 89aee63): for a non-aliasing buffer the call raises
`ValueError` IF AND ONLY IF the buffer's shape differs from the result shape `2 :: broadcast(sx, sy)` — a
broadcastable-but-different, larger, smaller or differently ranked buffer is never written. -/
theorem C15_rejects_scalar_mult_out_shape {x y o : Obj α} {sx sy r : List Nat} (f1 f2 : Nat) (hx : IsCplx x.t sx)
    (hy : IsCplx y.t sy) (hb : broadcastShape sx sy = .ok r) (hna : ¬ (o.id = x.id ∨ o.id = y.id)) :
    scalarMultO x y (some o) f1 f2 = .error .ValueError ↔ o.t.shape ≠ 2 :: r := by
  have ht : (toLike y x f1).t = y.t := (C15_toLike y x f1).2.2
  obtain ⟨z, hz, _, _⟩ := C15_scalar_mult hx hy hb
  simp only [scalarMultO, if_neg hna, ht, resultShape_eq hx hy hb, ok_bind]
  by_cases hs : o.t.shape = 2 :: r
  · simp [hs, hz]
  · simp [hs]

/-- **scalar_mult with `out=`, every accepted buffer**: a non-aliasing buffer of the result shape receives the
product — the returned object IS the buffer (its identity, its dtype), its value is the value computed without
`out` (entrywise complex product under broadcasting) and has the buffer's shape; without `out` a new object of
`x`'s dtype is returned. -/
theorem C15_scalar_mult_out {x y o : Obj α} {sx sy r : List Nat} (f1 f2 : Nat) (hx : IsCplx x.t sx)
    (hy : IsCplx y.t sy) (hb : broadcastShape sx sy = .ok r) :
    ∃ z, scalarMult x.t y.t = .ok z ∧ IsCplx z r ∧
      (∀ idx, Valid r idx → centry z idx = C.mul (centry x.t (bidx sx idx)) (centry y.t (bidx sy idx))) ∧
      scalarMultO x y none f1 f2 = .ok ⟨f2, x.dtype, z⟩ ∧
      (¬ (o.id = x.id ∨ o.id = y.id) → o.t.shape = 2 :: r →
        scalarMultO x y (some o) f1 f2 = .ok ⟨o.id, o.dtype, z⟩ ∧ z.shape = o.t.shape) := by
  have ht : (toLike y x f1).t = y.t := (C15_toLike y x f1).2.2
  obtain ⟨z, hz, hc, he⟩ := C15_scalar_mult hx hy hb
  refine ⟨z, hz, hc, he, ?_, fun hna hs => ⟨?_, by rw [hc.1, hs]⟩⟩
  · simp only [scalarMultO, ht, hz, ok_bind, pure_eq_ok]
  · simp only [scalarMultO, if_neg hna, ht, resultShape_eq hx hy hb, ok_bind, hs, ne_eq, not_true_eq_false,
      if_false, hz, pure_eq_ok]

/-- **out= buffers are judged by what they SHOW, not by where they live** (cplx.py:101-109 after fix 96aa40c): let `x`, `y`,
`o` be arbitrary strided views of one memory `m` — `o` may be non-contiguous (transposed buffer, column or stepped slice of a
workspace) and may share any number of cells with `x` and/or `y` (a different object on the same storage: `x[...]`,
`x.detach()`, overlapping windows), only its own entries must occupy distinct cells (`Nodup`: not an expanded view). If the
shape test passes, the call succeeds, what `o` shows afterwards is exactly `scalar_mult` of what `x` and `y` showed BEFORE the
call, and every cell outside `o` is unchanged.  (The pre-fix order — real part written before the imaginary part is computed
— does not satisfy this when `o` overlaps an operand.) -/
theorem C15_scalar_mult_out_storage (m : Nat → α) (x y o : View) {z : Tensor α}
    (hrs : resultShape (readView m x) (readView m y) = .ok o.shape)
    (hz : scalarMult (readView m x) (readView m y) = .ok z)
    (hlen : o.addr.length = z.data.length) (hnd : o.addr.Nodup) :
    ∃ m2, scalarMultMem m x y o = .ok (m2, z) ∧ ∀ a, a ∉ o.addr → m2 a = m a := by
  have hshape : z.shape = o.shape := scalarMult_shape hrs hz
  refine ⟨writeList m o.addr z.data, ?_, fun a ha => writeList_of_notMem _ _ _ _ ha⟩
  -- the two halves written one after the other are `z.data` written through `o.addr`, which `o` then shows
  simp only [scalarMultMem, hrs, ok_bind, ne_eq, not_true_eq_false, if_false, hz, pure_eq_ok]
  rw [writeList_append _ _ _ _ _ (by simp [hlen]), List.take_append_drop, List.take_append_drop, readView,
    map_writeList _ _ _ hnd hlen, ← hshape]

/-- the same for well-formed complex operands: every correctly shaped, non-self-overlapping `out=` view — contiguous or
not, sharing storage with the operands or not — ends up showing the entrywise complex product (under broadcasting) of the
operands as they were; a view of any other shape is refused with `ValueError` (and nothing is written). -/
theorem C15_scalar_mult_out_view (m : Nat → α) (x y o : View) {sx sy r : List Nat}
    (hx : IsCplx (readView m x) sx) (hy : IsCplx (readView m y) sy) (hb : broadcastShape sx sy = .ok r) :
    (o.shape ≠ 2 :: r → scalarMultMem m x y o = .error .ValueError) ∧
    (o.shape = 2 :: r → o.addr.length = numel o.shape → o.addr.Nodup →
      ∃ m2 z, scalarMultMem m x y o = .ok (m2, z) ∧ IsCplx z r ∧
        (∀ idx, Valid r idx → centry z idx =
          C.mul (centry (readView m x) (bidx sx idx)) (centry (readView m y) (bidx sy idx))) ∧
        ∀ a, a ∉ o.addr → m2 a = m a) := by
  have hrs := resultShape_eq hx hy hb
  constructor
  · intro hne
    simp only [scalarMultMem, hrs, ok_bind, ne_eq, hne, not_false_eq_true, if_true]
  · intro hs hl hnd
    obtain ⟨z, hz, hc, he⟩ := C15_scalar_mult hx hy hb
    have hzl : o.addr.length = z.data.length := by
      have := hc.2; unfold WF at this; rw [this, hc.1, hl, hs]
    obtain ⟨m2, h2, hframe⟩ := C15_scalar_mult_out_storage m x y o (by rw [hs]; exact hrs) hz hzl hnd
    exact ⟨m2, z, h2, hc, he, hframe⟩

/-- **no accepted call returns a wrong object or a value of the wrong shape** — for ARBITRARY operands (well-formed
or not): whenever `scalar_mult(x, y, out=o)` returns, `o` aliases neither operand, the result is `o` itself (identity,
dtype), its value is exactly what `scalar_mult(x, y)` computes, and that value has `o`'s shape. -/
theorem C15_scalar_mult_out_sound (x y o res : Obj α) (f1 f2 : Nat)
    (h : scalarMultO x y (some o) f1 f2 = .ok res) :
    ¬ (o.id = x.id ∨ o.id = y.id) ∧ res.id = o.id ∧ res.dtype = o.dtype ∧
      scalarMult x.t y.t = .ok res.t ∧ res.t.shape = o.t.shape := by
  have ht : (toLike y x f1).t = y.t := (C15_toLike y x f1).2.2
  by_cases hna : o.id = x.id ∨ o.id = y.id
  · simp only [scalarMultO, if_pos hna] at h; cases h
  · simp only [scalarMultO, if_neg hna, ht, bind_eq_ok] at h
    obtain ⟨rs, hrs, h⟩ := h
    split_ifs at h with hs
    obtain ⟨z, hz, h⟩ := bind_eq_ok.1 h
    cases h
    exact ⟨hna, rfl, rfl, hz, (scalarMult_shape hrs hz).trans (not_not.1 hs).symm⟩

end anycarrier
section ring
variable {R : Type} [CommRing R]

/-- **matmul, batched matrices** `(…, m, k) · (…, k, p)` with torch's broadcasting of the batch axes:
entry `(batch, i, j) = Σ_c x(batch_x, i, c) · y(batch_y, c, j)` (complex products, complex sum). -/
theorem C15_matmul_batched {x y : Tensor R} {xb yb bs : List Nat} {m k p : Nat}
    (hx : IsCplx x (xb ++ [m, k])) (hy : IsCplx y (yb ++ [k, p])) (hb : broadcastShape xb yb = .ok bs) :
    ∃ z, matmul x y = .ok z ∧ IsCplx z (bs ++ [m, p]) ∧
      ∀ bi i j, Valid bs bi → i < m → j < p →
        centry z (bi ++ [i, j]) = C.sum k (fun c =>
          C.mul (centry x (bidx xb bi ++ [i, c.val])) (centry y (bidx yb bi ++ [c.val, j]))) := by
  obtain ⟨z, hz, hc, he⟩ := matmul_core (xb := xb) (yb := yb) (m := m) (k := k) (p := p) (so := bs ++ [m, p]) hx hy
    (by simp) (by simp) hb (by simp) rfl
  refine ⟨z, hz, hc, fun bi i j hbi hi hj => ?_⟩
  have hl := hbi.length
  have hbv := broadcast_valid hb hbi
  rw [he (bi ++ [i, j]) bi i j ((valid_append hl).2 ⟨hbi, by simp [hi, hj]⟩) hbi hi hj rfl]
  congr 1
  funext c
  rw [pentry_eq hx ((valid_append hbv.1.length).2 ⟨hbv.1, by simp [hi]⟩) rfl,
    pentry_eq hy ((valid_append hbv.2.length).2 ⟨hbv.2, by simp [hj]⟩) rfl]

/-- **matmul, matrix · matrix** (any `m, k, p`, non-square included). -/
theorem C15_matmul_mat_mat {x y : Tensor R} {m k p : Nat} (hx : IsCplx x [m, k]) (hy : IsCplx y [k, p]) :
    ∃ z, matmul x y = .ok z ∧ IsCplx z [m, p] ∧
      ∀ i j, i < m → j < p →
        centry z [i, j] = C.sum k (fun c => C.mul (centry x [i, c.val]) (centry y [c.val, j])) := by
  obtain ⟨z, hz, hc, he⟩ := C15_matmul_batched (xb := []) (yb := []) (bs := []) hx hy rfl
  exact ⟨z, hz, hc, fun i j hi hj => by simpa [bidx] using he [] i j valid_nil hi hj⟩

/-- **matmul, batched matrices · one vector** `(…, m, k) · (k)`: `z(batch, i) = Σ_c x(batch, i, c) · y_c`. -/
theorem C15_matmul_batched_mat_vec {x y : Tensor R} {xb : List Nat} {m k : Nat}
    (hx : IsCplx x (xb ++ [m, k])) (hy : IsCplx y [k]) :
    ∃ z, matmul x y = .ok z ∧ IsCplx z (xb ++ [m]) ∧
      ∀ bi i, Valid xb bi → i < m →
        centry z (bi ++ [i]) = C.sum k (fun c => C.mul (centry x (bi ++ [i, c.val])) (centry y [c.val])) := by
  obtain ⟨z, hz, hc, he⟩ := matmul_core (xb := xb) (yb := []) (bs := xb) (m := m) (k := k) (p := 1) (so := xb ++ [m])
    hx hy (by simp) (by simp) (broadcastShape_nil_right xb) (by simp)
    (by simp [numel_append, numel])
  refine ⟨z, hz, hc, fun bi i hbi hi => ?_⟩
  have hl := hbi.length
  have hv : Valid (xb ++ [m]) (bi ++ [i]) := (valid_append hl).2 ⟨hbi, by simp [hi]⟩
  rw [he (bi ++ [i]) bi i 0 hv hbi hi Nat.one_pos (flatten_append_one_right hl m i)]
  congr 1
  funext c
  rw [bidx_self hbi, bidx_nil, pentry_eq hx ((valid_append hl).2 ⟨hbi, by simp [hi]⟩) rfl]
  exact congrArg _ (pentry_eq (idx := [c.val]) hy (by simp) (by simp [flatten, numel]))

/-- **matmul, matrix · vector** (the form `_kron_mult` uses): `z_i = Σ_c x(i, c) · y_c`. -/
theorem C15_matmul_mat_vec {x y : Tensor R} {m k : Nat} (hx : IsCplx x [m, k]) (hy : IsCplx y [k]) :
    ∃ z, matmul x y = .ok z ∧ IsCplx z [m] ∧
      ∀ i, i < m → centry z [i] = C.sum k (fun c => C.mul (centry x [i, c.val]) (centry y [c.val])) := by
  obtain ⟨z, hz, hc, he⟩ := C15_matmul_batched_mat_vec (xb := []) hx hy
  exact ⟨z, hz, hc, fun i hi => he [] i valid_nil hi⟩

/-- **matmul, one vector · batched matrices** `(k) · (…, k, p)` (torch promotes the vector to `1×k`, broadcasts it
over the batch axes and removes the added axis): `z(batch, j) = Σ_c x_c · y(batch, c, j)`. -/
theorem C15_matmul_vec_batched {x y : Tensor R} {yb : List Nat} {k p : Nat}
    (hx : IsCplx x [k]) (hy : IsCplx y (yb ++ [k, p])) :
    ∃ z, matmul x y = .ok z ∧ IsCplx z (yb ++ [p]) ∧
      ∀ bi j, Valid yb bi → j < p →
        centry z (bi ++ [j]) = C.sum k (fun c => C.mul (centry x [c.val]) (centry y (bi ++ [c.val, j]))) := by
  obtain ⟨z, hz, hc, he⟩ := matmul_core (xb := []) (yb := yb) (bs := yb) (m := 1) (k := k) (p := p) (so := yb ++ [p])
    hx hy (by simp) (by simp) (broadcastShape_nil_left yb) (by simp)
    (by simp [numel_append, numel])
  refine ⟨z, hz, hc, fun bi j hbi hj => ?_⟩
  have hl := hbi.length
  have hv : Valid (yb ++ [p]) (bi ++ [j]) := (valid_append hl).2 ⟨hbi, by simp [hj]⟩
  rw [he (bi ++ [j]) bi 0 j hv hbi Nat.one_pos hj (flatten_append_one_left hl p j)]
  congr 1
  funext c
  rw [bidx_self hbi, bidx_nil, pentry_eq hy ((valid_append hl).2 ⟨hbi, by simp [hj]⟩) rfl]
  exact congrArg (C.mul · _) (pentry_eq (idx := [c.val]) hx (by simp) (by simp [flatten, numel]))

/-- **matmul, vector · matrix**: `z_j = Σ_c x_c · y(c, j)`. -/
theorem C15_matmul_vec_mat {x y : Tensor R} {k p : Nat} (hx : IsCplx x [k]) (hy : IsCplx y [k, p]) :
    ∃ z, matmul x y = .ok z ∧ IsCplx z [p] ∧
      ∀ j, j < p → centry z [j] = C.sum k (fun c => C.mul (centry x [c.val]) (centry y [c.val, j])) := by
  obtain ⟨z, hz, hc, he⟩ := C15_matmul_vec_batched (yb := []) hx hy
  exact ⟨z, hz, hc, fun j hj => he [] j valid_nil hj⟩

/-- **matmul, vector · vector**: the (unconjugated) dot product, a complex scalar. -/
theorem C15_matmul_vec_vec {x y : Tensor R} {k : Nat} (hx : IsCplx x [k]) (hy : IsCplx y [k]) :
    ∃ z, matmul x y = .ok z ∧ IsCplx z [] ∧
      centry z [] = C.sum k (fun c => C.mul (centry x [c.val]) (centry y [c.val])) := by
  obtain ⟨z, hz, hc, he⟩ := matmul_core (xb := []) (yb := []) (bs := []) (m := 1) (k := k) (p := 1) (so := []) hx hy
    (by simp) (by simp) rfl (by simp) rfl
  refine ⟨z, hz, hc, ?_⟩
  rw [he [] [] 0 0 valid_nil valid_nil Nat.one_pos Nat.one_pos rfl]
  congr 1
  funext c
  exact congrArg₂ C.mul (pentry_eq (idx := [c.val]) hx (by simp) (by simp [flatten, numel, bidx]))
    (pentry_eq (idx := [c.val]) hy (by simp) (by simp [flatten, numel, bidx]))

/-- `matmul` rejects a contraction-length mismatch (any ranks ≥ 1, vectors promoted as torch does) and
0-d operands with torch's `RuntimeError`. -/
theorem C15_rejects_matmul {x y : Tensor R} {sx sy : List Nat} (hx : IsCplx x sx) (hy : IsCplx y sy) :
    (sx = [] ∨ sy = [] → matmul x y = .error .RuntimeError) ∧
    (∀ xb yb m k k' p, sx ≠ [] → sy ≠ [] → (if sx.length == 1 then 1 :: sx else sx) = xb ++ [m, k] →
      (if sy.length == 1 then sy ++ [1] else sy) = yb ++ [k', p] → k ≠ k' → matmul x y = .error .RuntimeError) := by
  unfold matmul
  rw [real_eq hx, real_eq hy]
  simp only [ok_bind]
  constructor
  · intro h
    rw [matmulR_err_scalar (x := reT x sx) (y := reT y sy) (by simpa using h)]
    rfl
  · intro xb yb m k k' p _ _ hxs hys hk
    rw [matmulR_eq (x := reT x sx) (y := reT y sy) (sx := sx) (sy := sy) rfl rfl hxs hys, if_pos hk]
    rfl

/-- **inner_prod of vectors** `⟨x|y⟩ = Σ_c conj(x_c) · y_c`: conjugate-linear in the LEFT argument; the result
is a complex scalar of shape `(2,)`. -/
theorem C15_inner_prod_vec {x y : Tensor R} {n : Nat} (hx : IsCplx x [n]) (hy : IsCplx y [n]) :
    ∃ z, innerProd x y = .ok z ∧ IsCplx z [] ∧
      centry z [] = C.sum n (fun c => C.mul (C.conj (centry x [c.val])) (centry y [c.val])) := by
  have h2 : x.shape.length = 2 ∧ y.shape.length = 2 := by rw [hx.1, hy.1]; exact ⟨rfl, rfl⟩
  have hv : ∀ c : Fin n, Valid [n] [c.val] := fun c => by simp
  unfold innerProd
  rw [if_pos h2, real_eq hx, real_eq hy, imag_eq hx, imag_eq hy]
  simp only [ok_bind]
  rw [dotR_eq (n := n) rfl rfl, dotR_eq (n := n) rfl rfl, dotR_eq (n := n) rfl rfl, dotR_eq (n := n) rfl rfl]
  refine ⟨⟨[2], [_, _]⟩, rfl, ⟨rfl, rfl⟩, Eq.trans rfl ?_⟩
  simp only [reT_at hx (hv _), imT_at hx (hv _), reT_at hy (hv _), imT_at hy (hv _)]
  exact sum_conj_mul_pair n (fun c => centry x [c.val]) (fun c => centry y [c.val])

/-- **inner_prod of complex scalars**: `conj(x) · y`. -/
theorem C15_inner_prod_scalar {x y : Tensor R} (hx : IsCplx x []) (hy : IsCplx y []) :
    ∃ z, innerProd x y = .ok z ∧ IsCplx z [] ∧ centry z [] = C.mul (C.conj (centry x [])) (centry y []) := by
  have h2 : ¬ (x.shape.length = 2 ∧ y.shape.length = 2) := by rw [hx.1, hy.1]; simp
  have h1 : x.shape.length = 1 ∧ y.shape.length = 1 := by rw [hx.1, hy.1]; simp
  have hb : broadcastShape [] [] = .ok [] := rfl
  unfold innerProd
  rw [if_neg h2, if_pos h1, real_eq hx, real_eq hy, imag_eq hx, imag_eq hy]
  simp only [ok_bind]
  rw [bop_eq _ (reT x []) (reT y []) hb, bop_eq _ (imT x []) (imT y []) hb, bop_eq _ (reT x []) (imT y []) hb,
    bop_eq _ (imT x []) (reT y []) hb]
  simp only [ok_bind, makeComplex_some]
  refine Exists.imp (fun z h => ⟨h.1, h.2.1, ?_⟩)
    (cat2_spec (s := []) _ rfl rfl (wf_zip_build _ _ _ _) (wf_zip_build _ _ _ _) fun _ _ => rfl)
  rw [h.2.2 _ valid_nil, at_zip_build _ _ _ _ valid_nil, at_zip_build _ _ _ _ valid_nil]
  simp only [reT_shape, imT_shape, bidx, List.zipWith_nil_left, reT_at hx valid_nil, imT_at hx valid_nil,
    reT_at hy valid_nil, imT_at hy valid_nil, C.mul, C.conj]
  refine Prod.ext ?_ ?_ <;> simp only <;> ring

/-- `inner_prod` raises `ValueError` for every rank combination other than vector·vector and scalar·scalar
(`dim()` counts the complex axis), and torch's `RuntimeError` for vectors of different lengths. -/
theorem C15_rejects_inner_prod (x y : Tensor R) :
    (¬ (x.shape.length = 2 ∧ y.shape.length = 2) → ¬ (x.shape.length = 1 ∧ y.shape.length = 1) →
      innerProd x y = .error .ValueError) ∧
    (∀ n m, IsCplx x [n] → IsCplx y [m] → n ≠ m → innerProd x y = .error .RuntimeError) := by
  constructor
  · intro h2 h1
    unfold innerProd
    rw [if_neg h2, if_neg h1]
  · intro n m hx hy hnm
    have h2 : x.shape.length = 2 ∧ y.shape.length = 2 := by rw [hx.1, hy.1]; exact ⟨rfl, rfl⟩
    unfold innerProd
    rw [if_pos h2, real_eq hx, real_eq hy]
    simp only [ok_bind]
    rw [dotR_err (n := n) (m := m) rfl rfl hnm]
    rfl

/-- `norm_sqr(x) = real(inner_prod(x, x))`: the real part of the complex scalar `⟨x|x⟩` -/
theorem normSqr_of_innerProd {x z : Tensor R} (hz : innerProd x x = .ok z) (hc : IsCplx z []) :
    ∃ r, normSqr x = .ok r ∧ r.shape = [] ∧ WF r ∧ r.at [] = (centry z []).1 := by
  unfold normSqr
  rw [hz]
  simp only [ok_bind, real_eq hc]
  exact ⟨_, rfl, rfl, reT_wf hc, reT_at hc valid_nil⟩

/-- **norm_sqr** of a complex vector: `Σ_c |x_c|²` (a real 0-d tensor); of a complex scalar: `|x|²`. -/
theorem C15_norm_sqr {x : Tensor R} :
    (∀ n, IsCplx x [n] → ∃ r, normSqr x = .ok r ∧ r.shape = [] ∧ WF r ∧
      r.at [] = ∑ c : Fin n, C.normSq (centry x [c.val])) ∧
    (IsCplx x [] → ∃ r, normSqr x = .ok r ∧ r.shape = [] ∧ WF r ∧ r.at [] = C.normSq (centry x [])) := by
  constructor
  · intro n hx
    obtain ⟨z, hz, hc, he⟩ := C15_inner_prod_vec hx hx
    obtain ⟨r, hr, hs, hw, hre⟩ := normSqr_of_innerProd hz hc
    refine ⟨r, hr, hs, hw, ?_⟩
    rw [hre, he, csum_eq]
    simp only [C.mul, C.conj, C.normSq]
    exact Finset.sum_congr rfl (fun c _ => by ring)
  · intro hx
    obtain ⟨z, hz, hc, he⟩ := C15_inner_prod_scalar hx hx
    obtain ⟨r, hr, hs, hw, hre⟩ := normSqr_of_innerProd hz hc
    refine ⟨r, hr, hs, hw, ?_⟩
    rw [hre, he]
    simp only [C.mul, C.conj, C.normSq]
    ring

/-! #### Einstein summation -/

/-- length of label `l` in `einsum eq` on operands of tensor shapes `sa`, `sb` -/
abbrev einSize (eq : EinEq) (sa sb : List Nat) (l : Nat) : Nat := (labelSize eq sa sb l).getD 0

/-- SPECIFICATION: the complex terms `a[…] · b[…]` of output entry `idx`, one for every assignment `sidx` of
the contracted labels (all valid multi-indices of their lengths, each once: `C15_allIdx_spec`). -/
def einTerms (eq : EinEq) (a b : Tensor R) (sa sb : List Nat) (idx : List Nat) : List (C R) :=
  (allIdx ((sumLabels eq).map (einSize eq sa sb))).map (fun sidx =>
    C.mul (centry a (opIdx eq.a sa (eq.out.zip idx ++ (sumLabels eq).zip sidx)))
      (centry b (opIdx eq.b sb (eq.out.zip idx ++ (sumLabels eq).zip sidx))))

/-- the summation range of `einsum` is the set of all valid multi-indices, each exactly once -/
theorem C15_allIdx_spec (s idx : List Nat) : (idx ∈ allIdx s ↔ Valid s idx) ∧ (allIdx s).Nodup :=
  ⟨mem_allIdx, nodup_allIdx s⟩

/-- the contracted labels are exactly the operand labels missing from the output, each once -/
theorem C15_sumLabels_spec (eq : EinEq) (l : Nat) :
    (l ∈ sumLabels eq ↔ (l ∈ eq.a ∨ l ∈ eq.b) ∧ l ∉ eq.out) ∧ (sumLabels eq).Nodup :=
  ⟨mem_sumLabels, (nodup_dedup _).filter _⟩

/-- every operand entry read by an einsum term is a genuine entry (valid multi-index) of the operand -/
theorem C15_einsum_reads_valid {eq : EinEq} {sa sb idx sidx : List Nat} (hok : einOk eq sa sb = true)
    (ho : Valid (eq.out.map (einSize eq sa sb)) idx) (hs : Valid ((sumLabels eq).map (einSize eq sa sb)) sidx) :
    Valid sa (opIdx eq.a sa (eq.out.zip idx ++ (sumLabels eq).zip sidx)) ∧
    Valid sb (opIdx eq.b sb (eq.out.zip idx ++ (sumLabels eq).zip sidx)) :=
  valid_opIdx hok ho hs

/-- two real contractions combined entrywise by `op` (`rr − ii`, `ri + ir`) give the component `π` of the complex terms.
Of the four operands only what they show at valid indices matters: a component `f (centry · i)` of the entries of `a`, `b`. -/
theorem einsumR_planes {a b x₁ y₁ x₂ y₂ : Tensor R} {sa sb : List Nat} {fx₁ fy₁ fx₂ fy₂ : C R → R} (eq : EinEq)
    (hok : einOk eq sa sb = true) (op : R → R → R) (π : C R → R)
    (hop : ∀ (L : List (List Nat)) (f g : List Nat → R), op (L.map f).sum (L.map g).sum = (L.map fun i => op (f i) (g i)).sum)
    (hπ : ∀ p q, op (fx₁ p * fy₁ q) (fx₂ p * fy₂ q) = π (C.mul p q))
    (hx₁ : x₁.shape = sa ∧ ∀ i, Valid sa i → x₁.at i = fx₁ (centry a i))
    (hy₁ : y₁.shape = sb ∧ ∀ i, Valid sb i → y₁.at i = fy₁ (centry b i))
    (hx₂ : x₂.shape = sa ∧ ∀ i, Valid sa i → x₂.at i = fx₂ (centry a i))
    (hy₂ : y₂.shape = sb ∧ ∀ i, Valid sb i → y₂.at i = fy₂ (centry b i)) :
    ∃ r, (einsumR eq x₁ y₁ >>= fun rr => einsumR eq x₂ y₂ >>= fun ii => pure (rr.zip op ii)) = .ok r ∧
      r.shape = eq.out.map (einSize eq sa sb) ∧ WF r ∧
      ∀ idx, Valid (eq.out.map (einSize eq sa sb)) idx → r.at idx = ((einTerms eq a b sa sb idx).map π).sum := by
  rw [einsumR_eq hx₁.1 hy₁.1 hok, einsumR_eq hx₂.1 hy₂.1 hok]
  simp only [ok_bind, pure_eq_ok]
  rw [zip_build]
  refine ⟨_, rfl, rfl, wf_build _ _, fun idx hv => ?_⟩
  rw [at_build _ hv, lsum_eq_sum, lsum_eq_sum, hop, einTerms, List.map_map]
  congr 1
  refine List.map_congr_left (fun sidx hs => ?_)
  have hvv := valid_opIdx hok hv (mem_allIdx.1 hs)
  rw [hx₁.2 _ hvv.1, hy₁.2 _ hvv.2, hx₂.2 _ hvv.1, hy₂.2 _ hvv.2, hπ]
  rfl

/-- real-part branch of `einsum` (`rr − ii`) = real part of the complex Einstein sum -/
theorem C15_einsum_real_part {a b : Tensor R} {sa sb : List Nat} (eq : EinEq) (ha : IsCplx a sa) (hb : IsCplx b sb)
    (hok : einOk eq sa sb = true) :
    ∃ r, einsumRe eq a b = .ok r ∧ r.shape = eq.out.map (einSize eq sa sb) ∧ WF r ∧
      ∀ idx, Valid (eq.out.map (einSize eq sa sb)) idx → r.at idx = (cpairSum (einTerms eq a b sa sb idx)).1 := by
  unfold einsumRe
  rw [real_eq ha, real_eq hb, imag_eq ha, imag_eq hb]
  exact einsumR_planes eq hok (fun u v => u - v) Prod.fst list_sum_map_sub (fun _ _ => rfl)
    ⟨rfl, fun _ h => reT_at ha h⟩ ⟨rfl, fun _ h => reT_at hb h⟩ ⟨rfl, fun _ h => imT_at ha h⟩ ⟨rfl, fun _ h => imT_at hb h⟩

/-- imaginary-part branch of `einsum` (`ri + ir`) = imaginary part of the complex Einstein sum -/
theorem C15_einsum_imag_part {a b : Tensor R} {sa sb : List Nat} (eq : EinEq) (ha : IsCplx a sa) (hb : IsCplx b sb)
    (hok : einOk eq sa sb = true) :
    ∃ r, einsumIm eq a b = .ok r ∧ r.shape = eq.out.map (einSize eq sa sb) ∧ WF r ∧
      ∀ idx, Valid (eq.out.map (einSize eq sa sb)) idx → r.at idx = (cpairSum (einTerms eq a b sa sb idx)).2 := by
  unfold einsumIm
  rw [real_eq ha, real_eq hb, imag_eq ha, imag_eq hb]
  exact einsumR_planes eq hok (fun u v => u + v) Prod.snd (fun _ _ _ => List.sum_map_add.symm) (fun _ _ => rfl)
    ⟨rfl, fun _ h => reT_at ha h⟩ ⟨rfl, fun _ h => imT_at hb h⟩ ⟨rfl, fun _ h => imT_at ha h⟩ ⟨rfl, fun _ h => reT_at hb h⟩

/-- **einsum** (both parts) for ANY accepted two-operand equation (repeated labels, contracted labels, permuted
outputs, size-1 broadcasting): output entry `idx` is the complex sum over all assignments of the contracted labels
of the complex products `a[…]·b[…]` — i.e. `Re = rr − ii`, `Im = ri + ir` of the real contractions. -/
theorem C15_einsum {a b : Tensor R} {sa sb : List Nat} (eq : EinEq) (ha : IsCplx a sa) (hb : IsCplx b sb)
    (hok : einOk eq sa sb = true) :
    ∃ z, einsum eq a b true true = .ok (.cplx z) ∧ einsumFull eq a b = .ok z ∧
      IsCplx z (eq.out.map (einSize eq sa sb)) ∧
      ∀ idx, Valid (eq.out.map (einSize eq sa sb)) idx → centry z idx = cpairSum (einTerms eq a b sa sb idx) := by
  obtain ⟨r, hr, hrs, hrw, hre⟩ := C15_einsum_real_part eq ha hb hok
  obtain ⟨i, hi, his, hiw, hie⟩ := C15_einsum_imag_part eq ha hb hok
  obtain ⟨z, hz, hc, he⟩ := cat2_spec (a := r) (b := i) (fun idx => cpairSum (einTerms eq a b sa sb idx)) hrs his hrw hiw
    (fun idx hv => by rw [hre idx hv, hie idx hv])
  have hfull : einsumFull eq a b = .ok z := by
    unfold einsumFull; rw [hr, hi]; simpa [makeComplex_some] using hz
  refine ⟨z, ?_, hfull, hc, he⟩
  simp only [einsum, hfull, ok_bind, pure_eq_ok]

/-- **einsum flags**: `real_part` only returns the REAL tensor `Re(einsum)`, `imag_part` only `Im(einsum)`,
neither returns `None`. -/
theorem C15_einsum_flags {a b : Tensor R} {sa sb : List Nat} (eq : EinEq) (ha : IsCplx a sa) (hb : IsCplx b sb)
    (hok : einOk eq sa sb = true) :
    (∃ r, einsum eq a b true false = .ok (.re r) ∧ r.shape = eq.out.map (einSize eq sa sb) ∧ WF r ∧
      ∀ idx, Valid (eq.out.map (einSize eq sa sb)) idx → r.at idx = (cpairSum (einTerms eq a b sa sb idx)).1) ∧
    (∃ r, einsum eq a b false true = .ok (.re r) ∧ r.shape = eq.out.map (einSize eq sa sb) ∧ WF r ∧
      ∀ idx, Valid (eq.out.map (einSize eq sa sb)) idx → r.at idx = (cpairSum (einTerms eq a b sa sb idx)).2) ∧
    einsum eq a b false false = .ok .none := by
  obtain ⟨r, hr, hrs, hrw, hre⟩ := C15_einsum_real_part eq ha hb hok
  obtain ⟨i, hi, his, hiw, hie⟩ := C15_einsum_imag_part eq ha hb hok
  refine ⟨⟨r, ?_, hrs, hrw, hre⟩, ⟨i, ?_, his, hiw, hie⟩, rfl⟩
  · simp only [einsum, hr, ok_bind, pure_eq_ok]
  · simp only [einsum, hi, ok_bind, pure_eq_ok]

/-- **einsum, the OBJECTS passed as `real_part` / `imag_part`** (documented as `bool`; callers also pass `1` / `0`, `numpy.bool_`
values, 0-dim bool arrays / tensors): whatever object of whatever kind says `p` resp. `q`, the call is the call with the singletons
`p`, `q` — so every theorem about `einsumS` / `einsum` (`C15_einsum_string`, `C15_einsum`, `C15_einsum_flags`, …) applies to it.
(A slip `if real_part is True` would be `isTrueSingleton` in the model: `numpy.True_`, `1` would select nothing.) -/
theorem C15_einsum_flag (raw : RawEq) (a b : Tensor R) (rp ip : PyFlag) :
    einsumF raw a b rp ip = einsumS raw a b rp.truthy ip.truthy ∧
    ∀ (f g : Nat) (p q : Bool), einsumF raw a b (PyFlag.ofBool f p) (PyFlag.ofBool g q) = einsumS raw a b p q := by
  refine ⟨rfl, fun f g p q => ?_⟩
  unfold einsumF
  rw [PyFlag.truthy_ofBool, PyFlag.truthy_ofBool]

/-- **einsum rejects** (torch `RuntimeError`) exactly the equations / shapes that fail `einOk`: wrong number of
subscripts, a label repeated inside an operand with different lengths, lengths that do not broadcast between the
operands, a repeated or unknown output label — whenever a part is requested. -/
theorem C15_rejects_einsum {a b : Tensor R} {sa sb : List Nat} (eq : EinEq) (ha : IsCplx a sa) (hb : IsCplx b sb)
    (hok : einOk eq sa sb = false) (rp ip : Bool) (h : rp = true ∨ ip = true) :
    einsum eq a b rp ip = .error .RuntimeError := by
  have hre : einsumRe eq a b = .error .RuntimeError := by
    unfold einsumRe
    rw [real_eq ha, real_eq hb]
    simp only [ok_bind]
    rw [einsumR_err (x := reT a sa) (y := reT b sb) (sa := sa) (sb := sb) rfl rfl hok]; rfl
  have him : einsumIm eq a b = .error .RuntimeError := by
    unfold einsumIm
    rw [real_eq ha, imag_eq hb]
    simp only [ok_bind]
    rw [einsumR_err (x := reT a sa) (y := imT b sb) (sa := sa) (sb := sb) rfl rfl hok]; rfl
  cases rp <;> cases ip <;> simp_all [einsum, einsumFull]

/-! #### the equation string: implicit output, ellipsis (everything `torch.einsum` accepts for two operands) -/

/-- **explicit equations without ellipsis are taken as written** (so every theorem above applies to them), provided each
operand has one subscript per axis; otherwise torch's `RuntimeError`. -/
theorem C15_einsum_explicit_equation (a b o sa sb : List Nat) :
    elabEq ⟨a.map Tok.lab, b.map Tok.lab, some (o.map Tok.lab)⟩ sa sb
      = if a.length = sa.length ∧ b.length = sb.length then .ok ⟨a, b, o⟩ else .error .RuntimeError := by
  unfold elabEq ellCover
  simp only [labels_map_lab, ellCount_map_lab, expandSub_map_lab]
  by_cases h1 : a.length = sa.length <;> by_cases h2 : b.length = sb.length <;> simp [h1, h2]

/-- **implicit output** (`"ij,jk"`, no `->`): the operands' subscripts are kept and the output consists of exactly the
labels that occur ONCE in the two operands together, in strictly increasing order of their character codes. -/
theorem C15_einsum_implicit_output (a b sa sb : List Nat) :
    elabEq ⟨a.map Tok.lab, b.map Tok.lab, none⟩ sa sb
      = (if a.length = sa.length ∧ b.length = sb.length then .ok ⟨a, b, onceLabels (a ++ b)⟩ else .error .RuntimeError) ∧
    (∀ l, l ∈ onceLabels (a ++ b) ↔ (a ++ b).count l = 1) ∧ (onceLabels (a ++ b)).Pairwise (· < ·) := by
  refine ⟨?_, fun l => mem_onceLabels, onceLabels_sorted _⟩
  unfold elabEq ellCover
  simp only [labels_map_lab, ellCount_map_lab, expandSub_map_lab]
  by_cases h1 : a.length = sa.length <;> by_cases h2 : b.length = sb.length <;> simp [h1, h2, ellLabels]

/-- **ellipsis**: what an accepted raw equation is turned into. Each operand has at most one `...`, which covers the
`k = rank − #named` axes its named subscripts leave over (`ellCover`); the equation gets `K = max ka kb` ellipsis labels, all
larger than every named label (fresh); each operand's `...` is replaced by its labels (`expandSub`, see
`C15_einsum_ellipsis_alignment`), after which it has one label per axis; an explicit output has at most one `...`,
replaced by ALL `K` labels (without it the ellipsis axes are contracted like any label missing from the output:
`C15_sumLabels_spec`); an implicit output is the `K` ellipsis labels followed by the sorted once-only labels. -/
theorem C15_einsum_ellipsis_spec {raw : RawEq} {sa sb : List Nat} {eq : EinEq} (h : elabEq raw sa sb = .ok eq) :
    ∃ ka kb base, ellCover raw.a sa.length = some ka ∧ ellCover raw.b sb.length = some kb ∧
      eq.a = expandSub base (max ka kb) ka raw.a ∧ eq.b = expandSub base (max ka kb) kb raw.b ∧
      eq.a.length = sa.length ∧ eq.b.length = sb.length ∧
      (∀ l ∈ Tok.labels raw.a ++ Tok.labels raw.b, l < base) ∧
      (raw.out = none →
        eq.out = ellLabels base (max ka kb) (max ka kb) ++ onceLabels (Tok.labels raw.a ++ Tok.labels raw.b)) ∧
      (∀ o, raw.out = some o → Tok.ellCount o ≤ 1 ∧ eq.out = expandSub base (max ka kb) (max ka kb) o ∧
        ∀ l ∈ Tok.labels o, l < base) := by
  unfold elabEq at h
  rcases hka : ellCover raw.a sa.length with _ | ka
  · simp [hka] at h
  rcases hkb : ellCover raw.b sb.length with _ | kb
  · simp [hka, hkb] at h
  simp only [hka, hkb] at h
  rcases ho : raw.out with _ | o
  · simp only [ho, List.append_nil] at h
    cases h
    exact ⟨ka, kb, _, rfl, rfl, rfl, rfl, expandSub_length_of_ellCover _ _ hka, expandSub_length_of_ellCover _ _ hkb,
      fun l hl => lt_foldl_max_succ hl, fun _ => rfl, fun o ho' => nomatch ho'⟩
  · simp only [ho] at h
    split_ifs at h with he
    cases h
    refine ⟨ka, kb, _, rfl, rfl, rfl, rfl, expandSub_length_of_ellCover _ _ hka, expandSub_length_of_ellCover _ _ hkb,
      fun l hl => lt_foldl_max_succ (List.mem_append_left _ hl), nofun, fun o' ho' => ?_⟩
    cases ho'
    exact ⟨he, rfl, fun l hl => lt_foldl_max_succ (List.mem_append_right _ hl)⟩

/-- **ellipsis alignment**: in an operand `pre ... post` the named labels keep their places around the ellipsis labels;
the `K` ellipsis labels are `base, …, base+K-1`; an ellipsis covering `k ≤ K` axes carries the LAST `k` of them, i.e. the
axis `j` positions from the right end of ANY operand's ellipsis carries the same label `base + (K-1-j)`: ellipsis axes
are matched from the right (and then broadcast by the size rule of `einOk`, like named labels). -/
theorem C15_einsum_ellipsis_alignment (base : Nat) {K k : Nat} (hk : k ≤ K) (pre post : List Nat) :
    expandSub base K k (pre.map Tok.lab ++ Tok.ell :: post.map Tok.lab) = pre ++ ellLabels base K k ++ post ∧
    ellLabels base K K = (List.range K).map (fun i => base + i) ∧
    ellLabels base K k = (ellLabels base K K).drop (K - k) ∧
    ∀ j, j < k → (ellLabels base K k).reverse[j]? = some (base + (K - 1 - j)) := by
  refine ⟨?_, ellLabels_full base K, ellLabels_suffix base hk, fun j hj => ellLabels_from_right base hk hj⟩
  rw [expandSub_append, expandSub_map_lab]
  simp [expandSub, expandSub_map_lab]

/-- **einsum on an equation string**: an accepted string behaves as its elaborated explicit equation (to which
`C15_einsum`, `C15_einsum_flags`, `C15_rejects_einsum` apply); a string torch rejects raises `RuntimeError` as soon as a
part is requested; with neither part requested the result is `None` whatever the string. -/
theorem C15_einsum_string {a b : Tensor R} {sa sb : List Nat} (raw : RawEq) (ha : IsCplx a sa) (hb : IsCplx b sb)
    (rp ip : Bool) :
    (∀ eq, elabEq raw sa sb = .ok eq → einsumS raw a b rp ip = einsum eq a b rp ip) ∧
    (∀ e, elabEq raw sa sb = .error e → rp = true ∨ ip = true → einsumS raw a b rp ip = .error .RuntimeError) ∧
    einsumS raw a b false false = .ok .none := by
  have hsa : a.shape.drop 1 = sa := by rw [ha.1]; rfl
  have hsb : b.shape.drop 1 = sb := by rw [hb.1]; rfl
  refine ⟨fun eq h => ?_, fun e h hp => ?_, ?_⟩
  · unfold einsumS; rw [hsa, hsb, h]
  · unfold einsumS; rw [hsa, hsb, h]
    exact C15_rejects_einsum badEq ha hb (by simp [einOk, badEq]) rp ip hp
  · unfold einsumS; split <;> rfl

/-- the equation `ab,cd->acbd` of `kronecker_prod`: nothing is contracted, `z[i, k, j, l] = x_ij · y_kl` -/
theorem einsum_kronEq {x y : Tensor R} {a b c d : Nat} (hx : IsCplx x [a, b]) (hy : IsCplx y [c, d]) :
    ∃ z, einsumFull kronEq x y = .ok z ∧ IsCplx z [a, c, b, d] ∧
      ∀ i k j l, i < a → k < c → j < b → l < d → centry z [i, k, j, l] = C.mul (centry x [i, j]) (centry y [k, l]) := by
  have hok : einOk kronEq [a, b] [c, d] = true := by
    simp [einOk, kronEq, operandOk, labelDim, labelSize, List.lookup, nodupB]
  obtain ⟨z, _, hz, hc, he⟩ := C15_einsum kronEq hx hy hok
  have hsh : kronEq.out.map (einSize kronEq [a, b] [c, d]) = [a, c, b, d] := by
    simp [kronEq, einSize, labelSize, labelDim, List.lookup]
  rw [hsh] at hc he
  refine ⟨z, hz, hc, fun i k j l hi hk hj hl => ?_⟩
  rw [he _ (by simp [hi, hk, hj, hl]), einTerms, show sumLabels kronEq = [] from rfl]
  simp [cpairSum, allIdx, kronEq, opIdx_cons, opIdx_nil, envVal_cons, ite_one_eq_self_of_lt hi,
    ite_one_eq_self_of_lt hk, ite_one_eq_self_of_lt hj, ite_one_eq_self_of_lt hl]

/-- **kronecker_prod** for arbitrary (NON-SQUARE) matrices `a×b`, `c×d`: shape `(a·c)×(b·d)` and
entry `(i·c + k, j·d + l) = x_ij · y_kl`. -/
theorem C15_kronecker_prod {x y : Tensor R} {a b c d : Nat} (hx : IsCplx x [a, b]) (hy : IsCplx y [c, d]) :
    ∃ w, kroneckerProd x y = .ok w ∧ IsCplx w [a * c, b * d] ∧
      ∀ i k j l, i < a → k < c → j < b → l < d →
        centry w [i * c + k, j * d + l] = C.mul (centry x [i, j]) (centry y [k, l]) := by
  obtain ⟨z, hz, hc, he⟩ := einsum_kronEq hx hy
  have hnum : numel [2, a, c, b, d] = numel [2, a * c, b * d] := by simp only [numel]; ring
  have h3 : ¬ ¬ (x.shape.length = y.shape.length ∧ y.shape.length = 3) := by rw [hx.1, hy.1]; simp
  refine ⟨⟨[2, a * c, b * d], z.data⟩, ?_, ⟨rfl, hc.2.trans (hc.1 ▸ hnum)⟩, fun i k j l hi hk hj hl => ?_⟩
  · rw [kroneckerProd, if_neg h3, hz, hx.1, hy.1]
    exact if_pos (hc.1 ▸ hnum)
  · -- the reshape keeps the data: entry `(i·c+k, j·d+l)` of the matrix is entry `(i, k, j, l)` of the einsum result
    have hf : ∀ e, flatten [2, a * c, b * d] [e, i * c + k, j * d + l] = flatten z.shape [e, i, k, j, l] := by
      intro e; rw [hc.1]; simp only [flatten, numel]; ring
    rw [← he i k j l hi hk hj hl]
    simp only [centry]
    rw [at_view z (hf 0), at_view z (hf 1)]

/-- `kronecker_prod` raises `ValueError` unless both operands are complex matrices (`dim() == 3`). -/
theorem C15_rejects_kronecker_prod (x y : Tensor R) (h : ¬ (x.shape.length = y.shape.length ∧ y.shape.length = 3)) :
    kroneckerProd x y = .error .ValueError := by
  unfold kroneckerProd; rw [if_pos h]

end ring
/-! ### the scalar kernel at /repo HEAD

`C.invH`, `C.divH`, `C.sdivH`, `C.absH`, `C.csigmoidH` (QV.Model.CplxScalar) are `cplx.inverse`, `elementwise_division`,
`scalar_divide`, `absolute_value`, `sigmoid` for ONE complex number, as coded since fix F17 (7038bfb).  (1) The tensor-level
model the C15 driver executes applies exactly these functions entrywise — at EVERY entry (zero divisors included) and over
EVERY carrier (so also at `Float`).  (2) Over ℝ each equals the textbook formula on its domain.  The gradient model of
C03 (`Grads.cplxRotComp`, `Grads.piGrad`) calls `C.invH` / `C.csigmoidH`, so the C03 theorems are about these formulas. -/
section headkernel
variable {α : Type} [Add α] [Mul α] [Neg α] [Sub α] [Div α] [Zero α] [One α] [Transc α] [LT α] [DecidableLT α]

/-- **inverse, entrywise = `C.invH`** (any carrier, every entry): the tensor function is the scalar function of HEAD's
formula applied to each entry — also at entries equal to `0`. -/
theorem C15_inverse_entry {z : Tensor α} {s : List Nat} (hz : IsCplx z s) :
    ∃ w, inverse z = .ok w ∧ IsCplx w s ∧ ∀ idx, Valid s idx → centry w idx = C.invH (centry z idx) := by
  -- the intermediate tensors in the order of the code: `scale`, `z' = z/scale`, `zs = conj z'`, `p = z'·zs`,
  -- `q = zs / real(p)`, `w = q / scale`; each comes with its entry formula, and the formulas compose to `C.invH`
  obtain ⟨hss, hsw, hse⟩ := zip_planes (fun a b : α => Transc.max (Transc.abs a) (Transc.abs b)) hz
  obtain ⟨z', hz', hz'c, hz'e⟩ := bop_planes (fun a b : α => a / b) hz hss
  obtain ⟨zs, hzs, hzsc, hzse⟩ := C15_conj hz'c
  obtain ⟨p, hp, hpc, hpe⟩ := C15_scalar_mult hz'c hzsc (broadcastShape_self s)
  obtain ⟨q, hq, hqc, hqe⟩ := bop_planes (fun a b : α => a / b) hzsc (reT_shape p s)
  obtain ⟨w, hw, hwc, hwe⟩ := bop_planes (fun a b : α => a / b) hqc hss
  unfold inverse cscale
  rw [real_eq hz, imag_eq hz]
  simp only [ok_bind, pure_eq_ok, hz', hzs, hp, real_eq hpc, hq]
  refine ⟨w, hw, hwc, fun idx hv => ?_⟩
  rw [hwe idx hv, hqe idx hv, reT_at hpc hv, hpe idx hv, bidx_self hv, hzse idx hv, hz'e idx hv, hse idx hv]
  -- what is left is `C.invH` of the entry, written out
  simp only [C.invH, C.scaleH]

/-- **absolute_value, entrywise = `C.absH`** (any carrier, every entry). -/
theorem C15_absolute_value_entry {x : Tensor α} {s : List Nat} (hx : IsCplx x s) :
    ∃ r, absoluteValue x = .ok r ∧ r.shape = s ∧ WF r ∧ ∀ idx, Valid s idx → r.at idx = C.absH (centry x idx) := by
  obtain ⟨hss, hsw, hse⟩ := zip_planes (hypot (α := α)) hx
  unfold absoluteValue
  rw [real_eq hx, imag_eq hx]
  simp only [ok_bind, pure_eq_ok]
  exact ⟨_, rfl, hss, hsw, fun idx hv => by rw [hse idx hv]; rfl⟩

/-- **elementwise_division, entrywise = `C.divH`** (any carrier, every entry of equally shaped operands). -/
theorem C15_elementwise_division_entry {x y : Tensor α} {s : List Nat} (hx : IsCplx x s) (hy : IsCplx y s) :
    ∃ z, elementwiseDivision x y = .ok z ∧ IsCplx z s ∧
      ∀ idx, Valid s idx → centry z idx = C.divH (centry x idx) (centry y idx) := by
  -- as for `inverse`: `scale`, `y' = y/scale`, `ys = conj y'`, `ab = |y'|`, `x' = x/scale`, `p = x'·ys`, `z = p / ab²`
  obtain ⟨hss, hsw, hse⟩ := zip_planes (fun a b : α => Transc.max (Transc.abs a) (Transc.abs b)) hy
  obtain ⟨y', hy', hy'c, hy'e⟩ := bop_planes (fun a b : α => a / b) hy hss
  obtain ⟨ys, hys, hysc, hyse⟩ := C15_conj hy'c
  obtain ⟨ab, hab, habs, habw, habe⟩ := C15_absolute_value_entry hy'c
  obtain ⟨x', hx', hx'c, hx'e⟩ := bop_planes (fun a b : α => a / b) hx hss
  obtain ⟨p, hp, hpc, hpe⟩ := C15_scalar_mult hx'c hysc (broadcastShape_self s)
  have hsh : ¬ x.shape ≠ y.shape := by rw [hx.1, hy.1]; simp
  unfold elementwiseDivision cscale
  rw [if_neg hsh, real_eq hy, imag_eq hy]
  simp only [ok_bind, pure_eq_ok, hy', hys, hab, hx', elementwiseMult, hp]
  obtain ⟨z, hz, hzc, hze⟩ := bop_planes (fun a b : α => a / b) hpc
    (sc := ab.map fun v => v * v) (by rw [map_shape, habs])
  refine ⟨z, hz, hzc, fun idx hv => ?_⟩
  rw [hze idx hv, at_map _ _ habw (idx := idx) (by rw [habs]; exact hv), habe idx hv, hpe idx hv, bidx_self hv,
    hyse idx hv, hx'e idx hv, hy'e idx hv, hse idx hv]
  -- what is left is `C.divH` of the two entries, written out
  simp only [C.divH, C.scaleH, C.absH]

/-- **scalar_divide, entrywise = `C.sdivH`** (any carrier, same broadcasting as `scalar_mult`, every entry). -/
theorem C15_scalar_divide_entry {x y : Tensor α} {sx sy r : List Nat} (hx : IsCplx x sx) (hy : IsCplx y sy)
    (hb : broadcastShape sx sy = .ok r) :
    ∃ z, scalarDivide x y = .ok z ∧ IsCplx z r ∧
      ∀ idx, Valid r idx → centry z idx = C.sdivH (centry x (bidx sx idx)) (centry y (bidx sy idx)) := by
  obtain ⟨iy, hiy, hiyc, hiye⟩ := C15_inverse_entry hy
  obtain ⟨z, hz, hzc, hze⟩ := C15_scalar_mult hx hiyc hb
  unfold scalarDivide
  rw [hiy]
  simp only [ok_bind]
  refine ⟨z, hz, hzc, fun idx hv => ?_⟩
  rw [hze idx hv, hiye _ (broadcast_valid hb hv).2]
  rfl

/-- **sigmoid, entrywise = `C.csigmoidH`** (any carrier, numpy broadcasting of the two real operands, every entry). -/
theorem C15_sigmoid_entry {x y : Tensor α} {r : List Nat} (hb : broadcastShape x.shape y.shape = .ok r) :
    ∃ z, Cplx.sigmoid x y = .ok z ∧ IsCplx z r ∧
      ∀ idx, Valid r idx → centry z idx = C.csigmoidH (x.at (bidx x.shape idx)) (y.at (bidx y.shape idx)) := by
  unfold Cplx.sigmoid
  simp only [hb]
  exact cat2_spec (s := r) (fun idx => sigC (x.at (bidx x.shape idx), y.at (bidx y.shape idx)))
      rfl rfl (wf_build _ _) (wf_build _ _) (fun idx hv => by rw [at_build _ hv, at_build _ hv])

end headkernel

section headkernel_real
open Complex

/-- **`invH` = textbook inverse on `z ≠ 0`**: HEAD's scaled formula `conj(z/s) / Re((z/s)·conj(z/s)) / s`,
`s = max |Re z| |Im z|`, is `conj z / |z|²`, and decodes to `z⁻¹` in ℂ. (At `z = 0` the code returns `nan` in either form.) -/
theorem C15_invH_eq (z : C ℝ) (hz : z ≠ (0, 0)) :
    C.invH z = C.inv z ∧ dec (C.invH z) = (dec z)⁻¹ :=
  ⟨C.invH_eq z hz, toC_invH z ((C.ne_zero_iff z).1 hz)⟩

/-- **`divH` = textbook quotient on `y ≠ 0`**: `(x/s)·conj(y/s) / hypot(y/s)²` is `x·conj y / |y|²` and decodes to `x / y`. -/
theorem C15_divH_eq (x y : C ℝ) (hy : y ≠ (0, 0)) :
    C.divH x y = C.div x y ∧ dec (C.divH x y) = dec x / dec y :=
  ⟨C.divH_eq x y hy, toC_divH x y ((C.ne_zero_iff y).1 hy)⟩

/-- **`sdivH` (`scalar_divide`: `x · inverse(y)`) = textbook quotient on `y ≠ 0`**, hence the two division routines of the
library agree with each other there. -/
theorem C15_sdivH_eq (x y : C ℝ) (hy : y ≠ (0, 0)) :
    C.sdivH x y = C.div x y ∧ C.sdivH x y = C.divH x y ∧ dec (C.sdivH x y) = dec x / dec y :=
  ⟨C.sdivH_eq x y hy, by rw [C.sdivH_eq x y hy, C.divH_eq x y hy], toC_sdivH x y ((C.ne_zero_iff y).1 hy)⟩

/-- **`absH` = `√(Re² + Im²)` = `|z|` for every `z`** (including `0`, where hypot's scale is `0`). -/
theorem C15_absH_eq (z : C ℝ) : C.absH z = Real.sqrt (C.normSq z) ∧ C.absH z = ‖dec z‖ :=
  ⟨C.absH_eq z, C.absH_eq_norm z⟩

/-- **`csigmoidH` = textbook `e^z / (1 + e^z)` for EVERY argument** (the branch form `1/(1+e^{-z})` for `Re z > 0`,
`e^z/(1+e^z)` otherwise — also at the poles `z = i(2k+1)π`, which lie in the left branch), and it decodes to the complex
logistic function wherever `1 + e^z ≠ 0`. -/
theorem C15_csigmoidH_eq (x y : ℝ) :
    C.csigmoidH x y = Grads.csigmoid x y ∧
    (1 + Complex.exp (dec (x, y)) ≠ 0 →
      dec (C.csigmoidH x y) = Complex.exp (dec (x, y)) / (1 + Complex.exp (dec (x, y)))) :=
  ⟨C.csigmoidH_eq x y, fun _ => dec_sigC _⟩

/-- **the scaled operand of `invH` / `divH` is of order 1**: for `z ≠ 0` the components of `z / scaleH z` lie in `[-1, 1]`
and the `|·|²` the formulas form lies in `[1, 2]`, whatever the magnitude of `z` (the textbook formula squares `z` itself:
overflow beyond `1e154`, underflow below `1e-154`). -/
theorem C15_invH_operand_range (z : C ℝ) (hz : z ≠ (0, 0)) :
    0 < C.scaleH z ∧ |z.1 / C.scaleH z| ≤ 1 ∧ |z.2 / C.scaleH z| ≤ 1 ∧
    1 ≤ C.normSq (z.1 / C.scaleH z, z.2 / C.scaleH z) ∧ C.normSq (z.1 / C.scaleH z, z.2 / C.scaleH z) ≤ 2 := by
  have hpos := max_abs_pos ((C.ne_zero_iff z).1 hz)
  exact ⟨hpos, scaled_bounds hpos (le_max_left _ _) (le_max_right _ _) (max_choice _ _)⟩

-- the hypotheses are met by concrete non-trivial instances
example : ((3, -4) : C ℝ) ≠ (0, 0) := by intro h; have := congrArg Prod.fst h; norm_num at this
example : C.invH ((3, -4) : C ℝ) = (3 / 25, 4 / 25) := by
  rw [(C15_invH_eq _ (by intro h; have := congrArg Prod.fst h; norm_num at this)).1]
  simp only [C.inv, C.conj, C.normSq]; norm_num
example : C.sdivH ((1, 2) : C ℝ) (3, -4) = (-1 / 5, 2 / 5) := by
  rw [(C15_sdivH_eq _ _ (by intro h; have := congrArg Prod.fst h; norm_num at this)).1]
  simp only [C.div, C.mul, C.conj, C.normSq]; norm_num
example : C.absH ((3, -4) : C ℝ) = 5 := by
  rw [(C15_absH_eq _).1]; simp only [C.normSq]
  rw [show (3 : ℝ) * 3 + -4 * -4 = 5 * 5 by norm_num, Real.sqrt_mul_self (by norm_num)]
example : C.csigmoidH (0 : ℝ) 0 = (1 / 2, 0) := by
  rw [(C15_csigmoidH_eq 0 0).1]
  simp [Grads.csigmoid, C.div, C.mul, C.conj, C.add, C.one, C.normSq]; norm_num

end headkernel_real
/-! ### ℂ: meaning of the pair operations, division, modulus, sigmoid -/
section complex
open Complex

/-- **decoding**: the pair operations used in the statements above ARE complex arithmetic. -/
theorem C15_dec_ops (a b : C ℝ) :
    dec (C.mul a b) = dec a * dec b ∧ dec (C.conj a) = (starRingEnd ℂ) (dec a) ∧ dec (C.add a b) = dec a + dec b ∧
    C.normSq a = Complex.normSq (dec a) ∧ Function.Injective dec :=
  ⟨dec_mul a b, dec_conj a, dec_add a b, dec_normSq a, dec_injective⟩

/-- **decoding of sums**: `C.sum` is `∑` in ℂ and `cpairSum` is the list sum in ℂ. -/
theorem C15_dec_sums (n : ℕ) (f : Fin n → C ℝ) (l : List (C ℝ)) :
    dec (C.sum n f) = ∑ i, dec (f i) ∧ dec (cpairSum l) = (l.map dec).sum :=
  ⟨dec_sum n f, dec_cpairSum l⟩

/-- **hypot**: the scaled formula the model (and C99 / `torch.hypot`) uses for the modulus IS `√(a² + b²)`, for all
reals including `a = b = 0` (where the scale is 0 and the formula must not divide). -/
theorem C15_hypot (a b : ℝ) : hypot a b = Real.sqrt (a * a + b * b) ∧ hypot a b = ‖dec (a, b)‖ :=
  ⟨hypot_eq a b, hypot_eq_norm (a, b)⟩

/-- **why the scaled forms cannot overflow**: for a non-zero entry the components divided by the larger one lie in
`[-1, 1]` and `|z/scale|²` in `[1, 2]` — the quantities `inverse`, `elementwise_division` and `hypot` square are of
order 1 whatever the magnitude of `z` (the pre-repair code squared `z` itself). -/
theorem C15_scaled_operand_range {z : Tensor ℝ} {s : List Nat} (hz : IsCplx z s) :
    ∃ sc w, cscale z = .ok sc ∧ bop (fun a b => a / b) z sc = .ok w ∧ IsCplx w s ∧
      ∀ idx, Valid s idx → dec (centry z idx) ≠ 0 →
        0 < sc.at idx ∧ dec (centry w idx) = dec (centry z idx) / (sc.at idx : ℂ) ∧
        |(centry w idx).1| ≤ 1 ∧ |(centry w idx).2| ≤ 1 ∧ 1 ≤ C.normSq (centry w idx) ∧ C.normSq (centry w idx) ≤ 2 := by
  obtain ⟨hss, hsw, hse⟩ := zip_planes (fun a b : ℝ => Transc.max (Transc.abs a) (Transc.abs b)) hz
  obtain ⟨w, hw, hwc, hwe⟩ := bop_planes (fun a b : ℝ => a / b) hz hss
  refine ⟨_, w, by unfold cscale; rw [real_eq hz, imag_eq hz]; rfl, hw, hwc, fun idx hv hne => ?_⟩
  have hpos := max_abs_pos hne
  obtain ⟨h1, h2, h3, h4⟩ := scaled_bounds hpos (le_max_left _ _) (le_max_right _ _) (max_choice _ _)
  rw [hwe idx hv, hse idx hv]
  simp only [transc_max, transc_abs]
  exact ⟨hpos, dec_div_real _ _, h1, h2, h3, h4⟩

/-- **absolute_value**: the complex modulus, entrywise, every rank. -/
theorem C15_absolute_value {x : Tensor ℝ} {s : List Nat} (hx : IsCplx x s) :
    ∃ r, absoluteValue x = .ok r ∧ r.shape = s ∧ WF r ∧ ∀ idx, Valid s idx → r.at idx = ‖dec (centry x idx)‖ := by
  obtain ⟨r, hr, hs, hw, he⟩ := C15_absolute_value_entry hx
  exact ⟨r, hr, hs, hw, fun idx hv => (he idx hv).trans (C.absH_eq_norm _)⟩

/-- **elementwise_division**: `x / y` entrywise for equally shaped operands, at every entry where `y ≠ 0`
(at `y = 0` the code yields `nan`; recorded in notes/C15.md). -/
theorem C15_elementwise_division {x y : Tensor ℝ} {s : List Nat} (hx : IsCplx x s) (hy : IsCplx y s) :
    ∃ z, elementwiseDivision x y = .ok z ∧ IsCplx z s ∧
      ∀ idx, Valid s idx → dec (centry y idx) ≠ 0 → dec (centry z idx) = dec (centry x idx) / dec (centry y idx) := by
  obtain ⟨z, hz, hc, he⟩ := C15_elementwise_division_entry hx hy
  exact ⟨z, hz, hc, fun idx hv hne => by rw [he idx hv]; exact toC_divH _ _ hne⟩

/-- `elementwise_division` raises `ValueError` on operands of different shapes (equal sizes or broadcastable shapes are
NOT enough); equally shaped complex tensors are accepted: `C15_elementwise_division_entry`. -/
theorem C15_rejects_elementwise_division (x y : Tensor ℝ) (h : x.shape ≠ y.shape) :
    elementwiseDivision x y = .error .ValueError := by
  unfold elementwiseDivision; rw [if_pos h]

/-- **absolute_value / inverse / elementwise_division reject** (`IndexError`) operands that are not complex tensors (0-d, leading
axis of length 0 or 1), for `elementwise_division` a divisor of the dividend's shape. -/
theorem C15_rejects_field_not_complex (x : Tensor ℝ) (h : x.shape = [] ∨ x.shape.head? = some 0 ∨ x.shape.head? = some 1) :
    absoluteValue x = .error .IndexError ∧ inverse x = .error .IndexError ∧
    ∀ w : Tensor ℝ, w.shape = x.shape → elementwiseDivision w x = .error .IndexError := by
  obtain ⟨hi, hr⟩ := C15_rejects_not_complex_planes x h
  have hsc : cscale x = .error .IndexError := by
    unfold cscale
    rcases hr with hr | ⟨r, hr⟩
    · rw [hr]; rfl
    · rw [hr, hi]; rfl
  refine ⟨?_, ?_, fun w hw => ?_⟩
  · unfold absoluteValue
    rcases hr with hr | ⟨r, hr⟩
    · rw [hr]; rfl
    · rw [hr, hi]; rfl
  · unfold inverse; rw [hsc]; rfl
  · unfold elementwiseDivision; rw [if_neg (by simpa using hw), hsc]; rfl

/-- **inverse**: `z⁻¹` entrywise wherever `z ≠ 0` (at `0`: `nan`, recorded in notes/C15.md). -/
theorem C15_inverse {z : Tensor ℝ} {s : List Nat} (hz : IsCplx z s) :
    ∃ w, inverse z = .ok w ∧ IsCplx w s ∧
      ∀ idx, Valid s idx → dec (centry z idx) ≠ 0 → dec (centry w idx) = (dec (centry z idx))⁻¹ := by
  obtain ⟨w, hw, hc, he⟩ := C15_inverse_entry hz
  exact ⟨w, hw, hc, fun idx hv hne => by rw [he idx hv]; exact toC_invH _ hne⟩

/-- **scalar_divide**: `x / y` with the same broadcasting as `scalar_mult`, wherever the divisor entry is non-zero. -/
theorem C15_scalar_divide {x y : Tensor ℝ} {sx sy r : List Nat} (hx : IsCplx x sx) (hy : IsCplx y sy)
    (hb : broadcastShape sx sy = .ok r) :
    ∃ z, scalarDivide x y = .ok z ∧ IsCplx z r ∧
      ∀ idx, Valid r idx → dec (centry y (bidx sy idx)) ≠ 0 →
        dec (centry z idx) = dec (centry x (bidx sx idx)) / dec (centry y (bidx sy idx)) := by
  obtain ⟨z, hz, hc, he⟩ := C15_scalar_divide_entry hx hy hb
  exact ⟨z, hz, hc, fun idx hv hne => by rw [he idx hv]; exact toC_sdivH _ _ hne⟩

/-- `norm(x)` from `norm_sqr(x / scale)`: `√(…) · scale`, with `scale` the largest component (1 for the zero tensor) -/
theorem norm_of_normSqr {x r : Tensor ℝ} {sc : ℝ} (hsc : sc = if 0 < maxAbs x.data then maxAbs x.data else 1)
    (hr : normSqr (x.map fun v => v / sc) = .ok r) (hrs : r.shape = []) (hrw : WF r) :
    ∃ r', Cplx.norm x = .ok r' ∧ r'.shape = [] ∧ r'.at [] = Real.sqrt (r.at []) * sc := by
  unfold Cplx.norm
  simp only [← hsc, hr, ok_bind, pure_eq_ok]
  exact ⟨_, rfl, hrs, at_map _ _ hrw (by rw [hrs]; exact valid_nil)⟩

theorem normSq_centry_div {x : Tensor ℝ} {s idx : List Nat} (sc : ℝ) (hx : IsCplx x s) (hv : Valid s idx) :
    C.normSq (centry (x.map fun v => v / sc) idx) = ‖dec (centry x idx)‖ ^ 2 * (sc * sc)⁻¹ := by
  rw [(map_cplx _ hx).2 _ hv, dec_normSq, dec_div_real, Complex.normSq_div, Complex.normSq_ofReal,
    Complex.normSq_eq_norm_sq, div_eq_mul_inv]

theorem sqrt_mul_inv_sq_mul {sc t : ℝ} (hsc : 0 < sc) (ht : 0 ≤ t) : Real.sqrt (t * (sc * sc)⁻¹) * sc = Real.sqrt t := by
  rw [← div_eq_mul_inv, Real.sqrt_div ht, Real.sqrt_mul_self hsc.le, div_mul_cancel₀ _ hsc.ne']

/-- **norm**: the Euclidean norm `√(Σ_c |x_c|²)` of a complex vector, `|x|` of a complex scalar (zero tensors included:
the scale is then 1). -/
theorem C15_norm {x : Tensor ℝ} :
    (∀ n, IsCplx x [n] → ∃ r, Cplx.norm x = .ok r ∧ r.shape = [] ∧
      r.at [] = Real.sqrt (∑ c : Fin n, ‖dec (centry x [c.val])‖ ^ 2)) ∧
    (IsCplx x [] → ∃ r, Cplx.norm x = .ok r ∧ r.shape = [] ∧ r.at [] = ‖dec (centry x [])‖) := by
  obtain ⟨sc, hsc⟩ : ∃ sc : ℝ, sc = if 0 < maxAbs x.data then maxAbs x.data else 1 := ⟨_, rfl⟩
  have hpos : 0 < sc := by
    rw [hsc]
    split_ifs with h
    exacts [h, one_pos]
  constructor
  · intro n hx
    obtain ⟨r, hr, hrs, hrw, hre⟩ := (C15_norm_sqr (x := x.map fun v => v / sc)).1 n (map_cplx _ hx).1
    obtain ⟨r', h1, h2, h3⟩ := norm_of_normSqr hsc hr hrs hrw
    refine ⟨r', h1, h2, ?_⟩
    rw [h3, hre, Finset.sum_congr rfl fun c _ => normSq_centry_div sc hx (show Valid [n] [c.val] by simp),
      ← Finset.sum_mul]
    exact sqrt_mul_inv_sq_mul hpos (Finset.sum_nonneg fun c _ => sq_nonneg _)
  · intro hx
    obtain ⟨r, hr, hrs, hrw, hre⟩ := (C15_norm_sqr (x := x.map fun v => v / sc)).2 (map_cplx _ hx).1
    obtain ⟨r', h1, h2, h3⟩ := norm_of_normSqr hsc hr hrs hrw
    refine ⟨r', h1, h2, ?_⟩
    rw [h3, hre, normSq_centry_div sc hx valid_nil, sqrt_mul_inv_sq_mul hpos (sq_nonneg _), Real.sqrt_sq (norm_nonneg _)]

/-- **sigmoid(x, y)** of two real tensors (numpy broadcasting): the complex logistic function
`e^z / (1 + e^z)` of `z = x + iy`, wherever `1 + e^z ≠ 0` (at `z = iπ` the code divides by ≈0; notes/C15.md).
The model computes it as the repaired code does (`1/(1+e^{-z})` for `Re z > 0`, `e^z/(1+e^z)` otherwise). -/
theorem C15_sigmoid {x y : Tensor ℝ} {r : List Nat} (hb : broadcastShape x.shape y.shape = .ok r) :
    ∃ z, Cplx.sigmoid x y = .ok z ∧ IsCplx z r ∧
      ∀ idx, Valid r idx →
        1 + Complex.exp (dec (x.at (bidx x.shape idx), y.at (bidx y.shape idx))) ≠ 0 →
        dec (centry z idx) = Complex.exp (dec (x.at (bidx x.shape idx), y.at (bidx y.shape idx)))
          / (1 + Complex.exp (dec (x.at (bidx x.shape idx), y.at (bidx y.shape idx)))) := by
  obtain ⟨z, hz, hc, he⟩ := C15_sigmoid_entry hb
  exact ⟨z, hz, hc, fun idx hv _ => by rw [he idx hv]; exact dec_sigC _⟩

/-- **the exponential the sigmoid forms cannot overflow**: whichever branch `sigC` takes, the argument of its `exp` has
non-positive real part, so `|e^{±z}| ≤ 1` (the pre-repair formula `e^z/(1+e^z)` formed `e^z`, which is `inf` for
`Re z > 709.78`). -/
theorem C15_sigmoid_exp_bounded (z : C ℝ) :
    sigC z = (let e := expC (if 0 < z.1 then C.neg z else z)
              C.div (if 0 < z.1 then C.one else e) (1 + e.1, e.2)) ∧
    ‖dec (expC (if 0 < z.1 then C.neg z else z))‖ ≤ 1 := by
  constructor
  · unfold sigC
    split_ifs <;> rfl
  · rw [dec_expC, Complex.norm_exp, Real.exp_le_one_iff]
    split_ifs with h
    · exact (neg_lt_zero.2 h).le
    · exact not_lt.1 h

/-- `sigmoid` raises numpy's `ValueError` when the two real tensors do not broadcast. -/
theorem C15_rejects_sigmoid {x y : Tensor ℝ} {e : PyErr} (hb : broadcastShape x.shape y.shape = .error e) :
    Cplx.sigmoid x y = .error .ValueError := by
  unfold Cplx.sigmoid; simp only [hb]

/-! #### the same statements in Mathlib's own vocabulary (matrices over ℂ) -/

/-- `toMatrix`, `toVector`: the complex matrix / vector denoted by a complex tensor of rank 2 / 1 -/
noncomputable def toMatrix (x : Tensor ℝ) (m n : ℕ) : Matrix (Fin m) (Fin n) ℂ := fun i j => dec (centry x [i.val, j.val])
noncomputable def toVector (x : Tensor ℝ) (n : ℕ) : Fin n → ℂ := fun i => dec (centry x [i.val])

/-- **scalar_mult in ℂ**: entrywise complex product under broadcasting. -/
theorem C15_scalar_mult_complex {x y : Tensor ℝ} {sx sy r : List Nat} (hx : IsCplx x sx) (hy : IsCplx y sy)
    (hb : broadcastShape sx sy = .ok r) :
    ∃ z, scalarMult x y = .ok z ∧ IsCplx z r ∧
      ∀ idx, Valid r idx → dec (centry z idx) = dec (centry x (bidx sx idx)) * dec (centry y (bidx sy idx)) := by
  obtain ⟨z, hz, hc, he⟩ := C15_scalar_mult hx hy hb
  exact ⟨z, hz, hc, fun idx hv => by rw [he idx hv, dec_mul]⟩

/-- **matmul is the matrix product over ℂ** (any `m, k, p`). -/
theorem C15_matmul_is_matrix_product {x y : Tensor ℝ} {m k p : ℕ} (hx : IsCplx x [m, k]) (hy : IsCplx y [k, p]) :
    ∃ z, matmul x y = .ok z ∧ IsCplx z [m, p] ∧ toMatrix z m p = toMatrix x m k * toMatrix y k p := by
  obtain ⟨z, hz, hc, he⟩ := C15_matmul_mat_mat hx hy
  refine ⟨z, hz, hc, ?_⟩
  funext i j
  simp only [toMatrix, Matrix.mul_apply, he i.val j.val i.isLt j.isLt, dec_sum, dec_mul]

/-- **matmul matrix·vector is `Matrix.mulVec` over ℂ**. -/
theorem C15_matmul_is_mulVec {x y : Tensor ℝ} {m k : ℕ} (hx : IsCplx x [m, k]) (hy : IsCplx y [k]) :
    ∃ z, matmul x y = .ok z ∧ IsCplx z [m] ∧ toVector z m = (toMatrix x m k).mulVec (toVector y k) := by
  obtain ⟨z, hz, hc, he⟩ := C15_matmul_mat_vec hx hy
  refine ⟨z, hz, hc, ?_⟩
  funext i
  simp only [toVector, toMatrix, Matrix.mulVec, dotProduct, he i.val i.isLt, dec_sum, dec_mul]

/-- **inner_prod is the Hermitian inner product** `⟨x|y⟩ = Σ conj(x_c) y_c` (conjugate-linear on the LEFT). -/
theorem C15_inner_prod_is_star_dot {x y : Tensor ℝ} {n : ℕ} (hx : IsCplx x [n]) (hy : IsCplx y [n]) :
    ∃ z, innerProd x y = .ok z ∧ IsCplx z [] ∧ dec (centry z []) = star (toVector x n) ⬝ᵥ toVector y n := by
  obtain ⟨z, hz, hc, he⟩ := C15_inner_prod_vec hx hy
  refine ⟨z, hz, hc, ?_⟩
  simp only [he, dec_sum, dec_mul, dec_conj, dotProduct, toVector, Pi.star_apply]
  rfl

/-- **outer_prod is `|x⟩⟨y|`**: `vecMulVec x (star y)`. -/
theorem C15_outer_prod_is_vecMulVec {x y : Tensor ℝ} {n m : ℕ} (hx : IsCplx x [n]) (hy : IsCplx y [m]) :
    ∃ z, outerProd x y = .ok z ∧ IsCplx z [n, m] ∧ toMatrix z n m = Matrix.vecMulVec (toVector x n) (star (toVector y m)) := by
  obtain ⟨z, hz, hc, he⟩ := C15_outer_prod hx hy
  refine ⟨z, hz, hc, ?_⟩
  funext i j
  simp only [toMatrix, Matrix.vecMulVec_apply, he i.val j.val i.isLt j.isLt, dec_mul, dec_conj, toVector, Pi.star_apply]
  rfl

/-- **conjugate of a matrix is the conjugate transpose** `xᴴ` (non-square included). -/
theorem C15_conjugate_is_conjTranspose {x : Tensor ℝ} {m n : ℕ} (hx : IsCplx x [m, n]) :
    ∃ z, conjugate x = .ok z ∧ IsCplx z [n, m] ∧ toMatrix z n m = (toMatrix x m n).conjTranspose := by
  obtain ⟨z, hz, hc, he⟩ := C15_conjugate_transpose hx
  refine ⟨z, hz, hc, ?_⟩
  funext j i
  simp only [toMatrix, Matrix.conjTranspose_apply, he i.val j.val [] (by simp), dec_conj]
  rfl

/-- **kronecker_prod is the Kronecker product over ℂ**: entry `(i·c+k, j·d+l)` is entry `((i,k),(j,l))` of
`Matrix.kronecker`, for non-square operands too. -/
theorem C15_kronecker_is_kronecker {x y : Tensor ℝ} {a b c d : ℕ} (hx : IsCplx x [a, b]) (hy : IsCplx y [c, d]) :
    ∃ w, kroneckerProd x y = .ok w ∧ IsCplx w [a * c, b * d] ∧
      ∀ (i : Fin a) (k : Fin c) (j : Fin b) (l : Fin d),
        dec (centry w [i.val * c + k.val, j.val * d + l.val])
          = Matrix.kroneckerMap (· * ·) (toMatrix x a b) (toMatrix y c d) (i, k) (j, l) := by
  obtain ⟨w, hw, hc, he⟩ := C15_kronecker_prod hx hy
  refine ⟨w, hw, hc, fun i k j l => ?_⟩
  simp only [Matrix.kroneckerMap_apply, toMatrix, he i.val k.val j.val l.val i.isLt k.isLt j.isLt l.isLt, dec_mul]

/-- **einsum in ℂ**: every output entry is the complex sum, over all assignments of the contracted labels, of the
complex products of the operand entries. -/
theorem C15_einsum_complex {a b : Tensor ℝ} {sa sb : List Nat} (eq : EinEq) (ha : IsCplx a sa) (hb : IsCplx b sb)
    (hok : einOk eq sa sb = true) :
    ∃ z, einsumFull eq a b = .ok z ∧ IsCplx z (eq.out.map (einSize eq sa sb)) ∧
      ∀ idx, Valid (eq.out.map (einSize eq sa sb)) idx →
        dec (centry z idx) = ((allIdx ((sumLabels eq).map (einSize eq sa sb))).map (fun sidx =>
          dec (centry a (opIdx eq.a sa (eq.out.zip idx ++ (sumLabels eq).zip sidx)))
            * dec (centry b (opIdx eq.b sb (eq.out.zip idx ++ (sumLabels eq).zip sidx))))).sum := by
  obtain ⟨z, _, hz, hc, he⟩ := C15_einsum eq ha hb hok
  refine ⟨z, hz, hc, fun idx hv => ?_⟩
  rw [he idx hv, dec_cpairSum]
  simp only [einTerms, List.map_map]
  congr 1

/-- `C15_einsum` in ℂ for an equation with exactly one contracted label `l`, of length `n`: the sum runs over `Fin n` -/
theorem einsum_single_label {a b : Tensor ℝ} {sa sb so : List Nat} {l n : ℕ} (eq : EinEq) (ha : IsCplx a sa)
    (hb : IsCplx b sb) (hok : einOk eq sa sb = true) (hso : eq.out.map (einSize eq sa sb) = so)
    (hl : sumLabels eq = [l]) (hn : einSize eq sa sb l = n) :
    ∃ z, einsum eq a b true true = .ok (.cplx z) ∧ einsumFull eq a b = .ok z ∧ IsCplx z so ∧
      ∀ idx, Valid so idx → dec (centry z idx) = ∑ t : Fin n,
        dec (centry a (opIdx eq.a sa (eq.out.zip idx ++ [(l, t.val)])))
          * dec (centry b (opIdx eq.b sb (eq.out.zip idx ++ [(l, t.val)]))) := by
  obtain ⟨z, hz, hzf, hc, he⟩ := C15_einsum eq ha hb hok
  subst hso
  refine ⟨z, hz, hzf, hc, fun idx hv => ?_⟩
  rw [he idx hv, dec_cpairSum, einTerms, hl, List.map_map, List.map_cons, List.map_nil, hn,
    sum_allIdx_singleton (fun s => (dec ∘ fun sidx => C.mul (centry a (opIdx eq.a sa (eq.out.zip idx ++ [l].zip sidx)))
      (centry b (opIdx eq.b sb (eq.out.zip idx ++ [l].zip sidx)))) s)]
  exact Finset.sum_congr rfl fun t _ => dec_mul _ _

/-- the library's gradient contraction `"ib,ibg->bg"` (complex_wavefunction.py:182) as an instance of `C15_einsum`:
`z[b, g] = Σ_{i<n} a[i, b] · y[i, b, g]` in ℂ. -/
theorem C15_einsum_ib_ibg {a y : Tensor ℝ} {n B G : ℕ} (ha : IsCplx a [n, B]) (hy : IsCplx y [n, B, G]) :
    ∃ z, einsumFull ⟨[0, 1], [0, 1, 2], [1, 2]⟩ a y = .ok z ∧ IsCplx z [B, G] ∧
      ∀ b g, b < B → g < G →
        dec (centry z [b, g]) = ∑ i : Fin n, dec (centry a [i.val, b]) * dec (centry y [i.val, b, g]) := by
  have hok : einOk ⟨[0, 1], [0, 1, 2], [1, 2]⟩ [n, B] [n, B, G] = true := by
    simp [einOk, operandOk, labelDim, labelSize, List.lookup, nodupB, bdim]
  obtain ⟨z, -, hz, hc, he⟩ := einsum_single_label (so := [B, G]) (l := 0) (n := n) _ ha hy hok
    (by simp [einSize, labelSize, labelDim, List.lookup, bdim]) (by decide)
    (by simp [einSize, labelSize, labelDim, bdim])
  refine ⟨z, hz, hc, fun b g hb hg => ?_⟩
  rw [he [b, g] (by simp [hb, hg])]
  refine Finset.sum_congr rfl fun i _ => ?_
  simp [opIdx_cons, opIdx_nil, envVal_cons, ite_one_eq_self_of_lt i.isLt, ite_one_eq_self_of_lt hb, ite_one_eq_self_of_lt hg]

/-- the equation `rj,jk->rk` (`j`, `k` by their character codes 106, 107), whatever the row label `r` (`i`, or the label
given to an ellipsis axis), is the complex matrix product -/
theorem einsum_rows_matmul {a b : Tensor ℝ} {m n p : ℕ} (r : ℕ) (h6 : r ≠ 106) (h7 : r ≠ 107) (ha : IsCplx a [m, n])
    (hb : IsCplx b [n, p]) :
    ∃ z, einsum ⟨[r, 106], [106, 107], [r, 107]⟩ a b true true = .ok (.cplx z) ∧ IsCplx z [m, p] ∧
      ∀ i k, i < m → k < p →
        dec (centry z [i, k]) = ∑ j : Fin n, dec (centry a [i, j.val]) * dec (centry b [j.val, k]) := by
  have a6 : (r == 106) = false := beq_false_of_ne h6
  have a7 : (r == 107) = false := beq_false_of_ne h7
  have b6 : (106 == r) = false := beq_false_of_ne h6.symm
  have b7 : (107 == r) = false := beq_false_of_ne h7.symm
  have hok : einOk ⟨[r, 106], [106, 107], [r, 107]⟩ [m, n] [n, p] = true := by
    simp [einOk, operandOk, labelDim, labelSize, List.lookup, nodupB, bdim, a6, a7, b6, b7, h7]
  obtain ⟨z, hz, -, hc, he⟩ := einsum_single_label (so := [m, p]) (l := 106) (n := n) _ ha hb hok
    (by simp [einSize, labelSize, labelDim, List.lookup, a6, a7, b7])
    (by simp [sumLabels, dedup, h7, h6.symm, h7.symm])
    (by simp [einSize, labelSize, labelDim, List.lookup, bdim, b6])
  refine ⟨z, hz, hc, fun i k hi hk => ?_⟩
  rw [he [i, k] (by simp [hi, hk])]
  refine Finset.sum_congr rfl fun j _ => ?_
  simp [opIdx_cons, opIdx_nil, envVal_cons, ite_one_eq_self_of_lt hi, ite_one_eq_self_of_lt j.isLt, ite_one_eq_self_of_lt hk, h6.symm, h7.symm]

/-- the implicit-output string `"ij,jk"` (no `->`; character codes `i j k` = 105 106 107) elaborates to `ij,jk->ik` and
is the complex matrix product: `z[i, k] = Σ_j a[i, j] · b[j, k]`. -/
theorem C15_einsum_implicit_matmul {a b : Tensor ℝ} {m n p : ℕ} (ha : IsCplx a [m, n]) (hb : IsCplx b [n, p]) :
    ∃ z, einsumS ⟨[.lab 105, .lab 106], [.lab 106, .lab 107], none⟩ a b true true = .ok (.cplx z) ∧ IsCplx z [m, p] ∧
      ∀ i k, i < m → k < p →
        dec (centry z [i, k]) = ∑ j : Fin n, dec (centry a [i, j.val]) * dec (centry b [j.val, k]) := by
  have hel : elabEq ⟨[.lab 105, .lab 106], [.lab 106, .lab 107], none⟩ [m, n] [n, p]
      = .ok ⟨[105, 106], [106, 107], [105, 107]⟩ := rfl
  rw [(C15_einsum_string (R := ℝ) _ ha hb true true).1 _ hel]
  exact einsum_rows_matmul 105 (by decide) (by decide) ha hb

/-- the ellipsis string `"...j,jk->...k"` on a batch of row vectors `(B, n)` and a matrix `(n, p)`: the ellipsis of the
first operand covers its batch axis (and gets the fresh label 108), the second operand has none, and
`z[t, k] = Σ_j a[t, j] · b[j, k]`. -/
theorem C15_einsum_ellipsis_batched {a b : Tensor ℝ} {B n p : ℕ} (ha : IsCplx a [B, n]) (hb : IsCplx b [n, p]) :
    ∃ z, einsumS ⟨[.ell, .lab 106], [.lab 106, .lab 107], some [.ell, .lab 107]⟩ a b true true = .ok (.cplx z) ∧
      IsCplx z [B, p] ∧
      ∀ t k, t < B → k < p →
        dec (centry z [t, k]) = ∑ j : Fin n, dec (centry a [t, j.val]) * dec (centry b [j.val, k]) := by
  have hel : elabEq ⟨[.ell, .lab 106], [.lab 106, .lab 107], some [.ell, .lab 107]⟩ [B, n] [n, p]
      = .ok ⟨[108, 106], [106, 107], [108, 107]⟩ := rfl
  rw [(C15_einsum_string (R := ℝ) _ ha hb true true).1 _ hel]
  exact einsum_rows_matmul 108 (by decide) (by decide) ha hb

end complex

/-! ### the hypotheses are satisfiable: concrete, non-trivial instances evaluated by the model itself -/
section examples

example : IsCplx (⟨[2, 2], [1, 2, 3, 4]⟩ : Tensor ℤ) [2] := ⟨rfl, rfl⟩
example : IsCplx (⟨[2, 2, 3], [1, 2, 3, 4, 5, 6, -1, -2, -3, -4, -5, -6]⟩ : Tensor ℤ) [2, 3] := ⟨rfl, rfl⟩
/-- right-aligned broadcasting with size-1 expansion on both sides -/
example : broadcastShape [3, 1, 2] [4, 1] = .ok [3, 4, 2] := rfl
example : bidx [4, 1] [2, 3, 1] = [3, 0] := rfl
example : broadcastShape [2, 3] [2] = .error .RuntimeError := rfl
/-- the library's own equations pass the einsum checks on non-trivial shapes -/
example : einOk ⟨[0, 1], [0, 1, 2], [1, 2]⟩ [3, 2] [3, 2, 4] = true := by decide
example : einOk ⟨[1], [1, 2], [2]⟩ [3] [3, 2] = true := by decide
example : einOk ⟨[0, 1, 2], [0, 1, 2, 3], [2, 3]⟩ [2, 2, 3] [2, 2, 3, 2] = true := by decide
example : einOk kronEq [2, 3] [3, 2] = true := by decide
example : einOk ⟨[0, 1], [1, 2], [0, 0]⟩ [2, 2] [2, 2] = false := by decide
/-- `⟨x|y⟩` of `(1+3i, 2+4i)` and `(5+7i, 6+8i)` is `70 − 16i` (conjugation on the LEFT; the other side would give `70 + 16i`) -/
example : innerProd (⟨[2, 2], [1, 2, 3, 4]⟩ : Tensor ℤ) ⟨[2, 2], [5, 6, 7, 8]⟩ = .ok ⟨[2], [70, -16]⟩ := by rfl
/-- `|x⟩⟨y|` of `(1+2i)` and `(3+4i, 5+6i)`: `(11+2i, 17+4i)` -/
example : outerProd (⟨[2, 1], [1, 2]⟩ : Tensor ℤ) ⟨[2, 2], [3, 5, 4, 6]⟩ = .ok ⟨[2, 1, 2], [11, 17, 2, 4]⟩ := by rfl
/-- Kronecker product of a `1×2` by a `2×1` complex matrix is `2×2` -/
example : kroneckerProd (⟨[2, 1, 2], [1, 2, 0, 1]⟩ : Tensor ℤ) ⟨[2, 2, 1], [3, 4, 1, 0]⟩
    = .ok ⟨[2, 2, 2], [3, 5, 4, 8, 1, 5, 0, 4]⟩ := by rfl
/-- conjugate transpose of a `1×2` matrix is `2×1` -/
example : conjugate (⟨[2, 1, 2], [1, 2, 3, 4]⟩ : Tensor ℤ) = .ok ⟨[2, 2, 1], [1, 2, -3, -4]⟩ := by rfl
/-- a buffer of the result shape is accepted and returned (id 3, its own dtype); a differently shaped one —
even one that broadcasts with the result — is rejected with `ValueError`; an aliasing one with `RuntimeError` even
when `y` has another dtype than `x` (so that `y.to(x)` makes a copy) -/
example : scalarMultO (⟨1, .f64, ⟨[2, 2], [1, 2, 3, 4]⟩⟩ : Obj ℤ) ⟨2, .f32, ⟨[2], [0, 1]⟩⟩
    (some ⟨3, .f32, ⟨[2, 2], [7, 7, 7, 7]⟩⟩) 4 5 = .ok ⟨3, .f32, ⟨[2, 2], [-3, -4, 1, 2]⟩⟩ := by rfl
example : scalarMultO (⟨1, .f64, ⟨[2, 2], [1, 2, 3, 4]⟩⟩ : Obj ℤ) ⟨2, .f32, ⟨[2], [0, 1]⟩⟩
    (some ⟨3, .f64, ⟨[2, 1], [7, 7]⟩⟩) 4 5 = .error .ValueError := by rfl
example : scalarMultO (⟨1, .f64, ⟨[2], [2, 3]⟩⟩ : Obj ℤ) ⟨2, .f32, ⟨[2], [0, 1]⟩⟩
    (some ⟨2, .f32, ⟨[2], [0, 1]⟩⟩) 4 5 = .error .RuntimeError := by rfl
/-- aliasing is rejected when the dtypes agree, too -/
example : scalarMultO (⟨1, .f64, ⟨[2], [1, 2]⟩⟩ : Obj ℤ) ⟨2, .f64, ⟨[2], [3, 4]⟩⟩ (some ⟨2, .f64, ⟨[2], [3, 4]⟩⟩) 4 5
    = .error .RuntimeError := by rfl
/-- the guards of the division / sigmoid theorems are satisfiable -/
example : dec (1, 2) ≠ 0 := by intro h; have := congrArg Complex.re h; simp at this
example : 1 + Complex.exp (dec (0, 0)) ≠ 0 := by
  have : dec (0, 0) = 0 := rfl
  rw [this, Complex.exp_zero]; norm_num

/-- `"b...a,a"` on shapes `(2,5,3)`, `(3)`: the ellipsis covers the middle axis and gets the fresh label 99; implicit output =
ellipsis axes first, then the once-only labels sorted: `...b` (torch returns shape `(5, 2)`) -/
example : elabEq ⟨[.lab 98, .ell, .lab 97], [.lab 97], none⟩ [2, 5, 3] [3] = .ok ⟨[98, 99, 97], [97], [99, 98]⟩ := by rfl
/-- ellipses of different lengths are aligned from the right: `"...a,...b"` on `(2,3)`, `(2,1,4)` -/
example : elabEq ⟨[.ell, .lab 97], [.ell, .lab 98], none⟩ [2, 3] [2, 1, 4] = .ok ⟨[100, 97], [99, 100, 98], [99, 100, 97, 98]⟩ := by
  rfl
/-- an ellipsis left out of an explicit output is contracted (`"...j,jk->k"`), two ellipses in one operand are rejected -/
example : (elabEq ⟨[.ell, .lab 106], [.lab 106, .lab 107], some [.lab 107]⟩ [5, 2, 3] [3, 4]).map sumLabels = .ok [108, 109, 106] := by
  rfl
example : elabEq ⟨[.ell, .lab 105, .ell], [.lab 105], some [.lab 105]⟩ [2, 2] [2] = .error .RuntimeError := by rfl
/-- upper-case labels sort before lower-case ones in an implicit output (`"a,B"` → `Ba`) -/
example : onceLabels [97, 66] = [66, 97] := by rfl
/-- `"ba,ac"` (implicit) on Gaussian integers: the output is `bc` (sorted once-only labels), contraction over `a`;
`x = [[1+i, 2]]` (`b=1, a=2`), `y = [[3], [i]]` (`a=2, c=1`): `z = (1+i)·3 + 2·i = 3 + 5i` -/
example : einsumS ⟨[.lab 98, .lab 97], [.lab 97, .lab 99], none⟩ (⟨[2, 1, 2], [1, 2, 1, 0]⟩ : Tensor ℤ) ⟨[2, 2, 1], [3, 0, 0, 1]⟩
    true true = .ok (.cplx ⟨[2, 1, 1], [3, 5]⟩) := by rfl
/-- `cscale`: per entry the larger of `|re|`, `|im|` (entries `3 − 4i` and `−1`) -/
example : cscale (⟨[2, 2], [3, -1, -4, 0]⟩ : Tensor ℝ) = .ok ⟨[2], [max |3| |(-4)|, max |(-1)| |0|]⟩ := by
  rfl

end examples
end C15
end QV.Props
