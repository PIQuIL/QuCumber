/-
C09 — The swap estimator measures the purity of the reduced state.

"For every region A of sites, the swap observable's value on a pair of basis states, averaged over
independent pairs drawn from the model's exact distribution, equals the trace of the squared reduced
density matrix of region A of the reconstructed state (pure or mixed), so the derived second Renyi
entropy is non-negative, symmetric between a region and its complement for pure states, and zero for
the empty or full region of a pure state. Within a batch each sample is paired with a cyclic neighbour
(so every sample is used once in each replica role) and the batch itself is not modified."

Specification.  A region is its membership predicate `A : Fin n → Bool`.  Configurations of the sites in
`A` / outside `A` are functions on the subtypes (`CfgIn A`, `CfgOut A`); `glue A a g` is the full
configuration equal to `a` on `A` and to `g` outside (Mathlib's `Equiv.piEquivPiSubtypeProd`).
The reduced density matrix is the partial trace over the complement,
    `reducedDM A R a b = Σ_g R (glue a g) (glue b g)`      (a `Matrix (CfgIn A) (CfgIn A) ℂ`),
and the purity is `tr (ρ_A · ρ_A)` with Mathlib's `Matrix.trace` and matrix product — i.e. the
four-fold sum `Σ_{a,b ∈ cfg(A); g,d ∈ cfg(Aᶜ)} R(a⊔g, b⊔g) · R(b⊔d, a⊔d)`.  This formulation is chosen
because it does not mention the estimator's own "exchange region A between two replicas" operation
(`combine`): that the pair sum of the estimator equals it is the content of `C09_purity`
(via `QV.Obs.purity_pairs`).  States, `Represents`, `normalised`, `dmPure`, `dmMixed`, `bornPure`,
`bornMixed` are those of C08.  `S₂ = −log tr ρ̂_A²`.

Non-negativity of `S₂` needs a STATE (positive semidefinite, trace one): `C09_pure_is_state` gives it for every wavefunction
that vanishes nowhere (all RBM wavefunctions, `C08_rbm_psi_ne_zero`), `C09_mixed_is_state` for the RBM density matrix under
C02's guard `NZ` (`C09_renyi_nonneg_mixed_rbm`); without the guard `C09_purity_pos_mixed_rbm` still gives a real, strictly
positive purity (Hermiticity and unit trace hold for all parameters).

Beyond the property text (which averages over INDEPENDENT pairs): the batch mean of `SWAP.apply` over `B ≥ 2` i.i.d. rows, and the
mean `statistics` reports for `B ≥ 2` chains started from the exact distribution, have expectation `Re tr ρ̂_A²`
(`C09_batch_mean_unbiased`, `C09_statistics_unbiased`); a one-row batch returns exactly 1 (`C09_single_row*`: an observation
about the estimate, not a violation of the pointwise statement).  NOT proved: anything from a start that is not stationary.

Model definitions: QV.Model.Observables (`swapRows`, `swapApply`, `rollIdx`, `roll1`, `swapRun`,
`normRegion`), executed against the code by the C09 correspondence check.
-/
import Mathlib.LinearAlgebra.Matrix.Trace
import Mathlib.Analysis.InnerProductSpace.Positive
import Mathlib.Analysis.SpecialFunctions.Log.Basic
import QV.Lemmas.Swap
import QV.Lemmas.Unbiased
import QV.Props.C08
import QV.Props.C02

namespace QV.Props
namespace C09
open QV.Props.C08
open QV QV.Obs Finset
open scoped ComplexConjugate ComplexOrder

variable {n : ℕ}

/-! ### Specification -/

example (A : Fin n → Bool) (a : CfgIn A) (g : CfgOut A) (j : Fin n) :
    glue A a g j = if h : A j = true then a ⟨j, h⟩ else g ⟨j, h⟩ := rfl

/-- reduced density matrix of region `A`: partial trace of `R` over the sites outside `A` -/
def reducedDM (A : Fin n → Bool) (R : Op n) : Matrix (CfgIn A) (CfgIn A) ℂ :=
  Matrix.of fun a b => ∑ g : CfgOut A, R (glue A a g) (glue A b g)

/-- `tr ρ_A²` -/
def purity (A : Fin n → Bool) (R : Op n) : ℂ := Matrix.trace (reducedDM A R * reducedDM A R)

def regionCompl (A : Fin n → Bool) : Fin n → Bool := fun j => !A j

/-- the purity as a sum over pairs of full configurations with region `A` exchanged -/
theorem purity_eq_pairs (A : Fin n → Bool) (R : Op n) :
    purity A R = ∑ s1 : Cfg n, ∑ s2 : Cfg n, R (combine s2 s1 A) s1 * R (combine s1 s2 A) s2 := by
  simp only [purity, Matrix.trace, Matrix.diag_apply, Matrix.mul_apply, reducedDM, Matrix.of_apply]
  exact purity_pairs A R

theorem trace_reducedDM (A : Fin n → Bool) (R : Op n) : Matrix.trace (reducedDM A R) = ∑ s, R s s := by
  simp only [Matrix.trace, Matrix.diag_apply, reducedDM, Matrix.of_apply]
  exact (sum_split A (fun s => R s s)).symm

/-! ### The estimator -/

/-- **C09.1** `Σ_{s₁,s₂} p(s₁) p(s₂) · SWAP_A(s₁,s₂) = Re tr(ρ̂_A²)` for every region `A` and every state
(pure or mixed) represented by the importance-sampling interface. -/
theorem C09_purity {S : ImpState ℝ n} {G : Op n} {p : Cfg n → ℝ} (h : Represents S G p)
    (A : Fin n → Bool) :
    ∑ s1, ∑ s2, p s1 * p s2 * swapApply S A s1 s2 = (purity A (normalised G)).re := by
  rw [purity_eq_pairs, Complex.re_sum]
  refine Finset.sum_congr rfl fun s1 _ => ?_
  rw [Complex.re_sum]
  refine Finset.sum_congr rfl fun s2 _ => ?_
  rw [← h.weight_mul, ← h.weight_mul, mul_mul_mul_comm, ← Complex.ofReal_mul, Complex.re_ofReal_mul, ← Obs.toC_mul]
  rfl

/-- pure states (positive / complex wavefunctions, `ψ` nowhere zero) -/
theorem C09_purity_pure (psi : Cfg n → C ℝ) (hψ : ∀ σ, psi σ ≠ (0, 0)) (A : Fin n → Bool) :
    ∑ s1, ∑ s2, bornPure psi s1 * bornPure psi s2 * swapApply (ImpState.pure psi) A s1 s2
      = (purity A (normalised (dmPure psi))).re :=
  C09_purity (C08_represents_pure psi hψ) A

/-- mixed states (`ρ σσ = probability σ ≠ 0`) -/
theorem C09_purity_mixed (rho : Cfg n → Cfg n → C ℝ) (prob : Cfg n → ℝ)
    (hdiag : ∀ σ, rho σ σ = (prob σ, 0)) (hpos : ∀ σ, prob σ ≠ 0) (A : Fin n → Bool) :
    ∑ s1, ∑ s2, bornMixed prob s1 * bornMixed prob s2 * swapApply (ImpState.mixed rho prob) A s1 s2
      = (purity A (normalised (dmMixed rho))).re :=
  C09_purity (C08_represents_mixed rho prob hdiag hpos) A

/-! ### Consequences for the second Rényi entropy -/

/-- for a Hermitian state the purity is real, non-negative, and — when the trace is one — positive. -/
theorem C09_purity_real_pos (A : Fin n → Bool) (R : Op n) (hR : ∀ σ σ', R σ' σ = conj (R σ σ')) :
    (purity A R).im = 0 ∧ 0 ≤ (purity A R).re ∧ ((∑ s, R s s) = 1 → 0 < (purity A R).re) := by
  -- `ρ_A` is Hermitian, so `tr ρ_A² = Σ_{a,b} |ρ_A(a,b)|²`
  have hP : purity A R = ((∑ a, ∑ b, Complex.normSq (reducedDM A R a b) : ℝ) : ℂ) := by
    simp only [purity, Matrix.trace, Matrix.diag_apply, Matrix.mul_apply]
    push_cast
    refine Finset.sum_congr rfl fun a _ => Finset.sum_congr rfl fun b _ => ?_
    rw [← Complex.mul_conj, reducedDM, Matrix.of_apply, Matrix.of_apply, map_sum]
    exact congrArg _ (Finset.sum_congr rfl fun g _ => hR _ _)
  have hnn : ∀ a ∈ (Finset.univ : Finset (CfgIn A)), 0 ≤ ∑ b, Complex.normSq (reducedDM A R a b) :=
    fun a _ => Finset.sum_nonneg fun b _ => Complex.normSq_nonneg _
  rw [hP, Complex.ofReal_im, Complex.ofReal_re]
  refine ⟨rfl, Finset.sum_nonneg hnn, fun htr => ?_⟩
  -- trace one: some diagonal entry of `ρ_A` is not zero
  obtain ⟨a, -, ha⟩ := Finset.exists_ne_zero_of_sum_ne_zero
    (fun h => one_ne_zero (htr.symm.trans ((trace_reducedDM A R).symm.trans h)) : ∑ a, reducedDM A R a a ≠ 0)
  exact Finset.sum_pos' hnn ⟨a, mem_univ a, Finset.sum_pos' (fun _ _ => Complex.normSq_nonneg _)
    ⟨a, mem_univ a, Complex.normSq_pos.2 ha⟩⟩

/-- **C09.2** for a positive semidefinite state of trace one, `tr ρ̂_A² ≤ 1`. -/
theorem C09_purity_le_one (A : Fin n → Bool) (R : Op n)
    (hpsd : (Matrix.of R : Matrix (Cfg n) (Cfg n) ℂ).PosSemidef) (htr : (∑ s, R s s) = 1) :
    (purity A R).re ≤ 1 := by
  obtain ⟨m, v, hv⟩ := Matrix.posSemidef_iff_eq_sum_vecMulVec.1 hpsd
  have hR : ∀ σ σ', R σ σ' = ∑ k, v k σ * conj (v k σ') := fun σ σ' => by
    have := congrFun (congrFun hv σ) σ'
    simp only [Matrix.sum_apply, Matrix.vecMulVec_apply, Pi.star_apply] at this
    exact this
  have := purity_pairs_le v A R hR
  rwa [← purity_eq_pairs, htr, Complex.one_re, one_pow] at this

/-- **C09.2'** the second Rényi entropy `S₂(A) = −log tr ρ̂_A²` of a positive semidefinite trace-one state
is non-negative (and well defined: the purity is a positive real). -/
theorem C09_renyi_nonneg (A : Fin n → Bool) (R : Op n)
    (hpsd : (Matrix.of R : Matrix (Cfg n) (Cfg n) ℂ).PosSemidef) (htr : (∑ s, R s s) = 1) :
    0 < (purity A R).re ∧ (purity A R).im = 0 ∧ 0 ≤ -Real.log (purity A R).re := by
  have hH : ∀ σ σ', R σ' σ = conj (R σ σ') := by
    intro σ σ'
    have := congrFun (congrFun hpsd.1 σ') σ
    simp only [Matrix.conjTranspose_apply, Matrix.of_apply] at this
    rw [← this]; rfl
  obtain ⟨him, _, hpos⟩ := C09_purity_real_pos A R hH
  refine ⟨hpos htr, him, ?_⟩
  have := Real.log_nonpos (hpos htr).le (C09_purity_le_one A R hpsd htr)
  linarith

/-- normalised pure states are positive semidefinite with trace one, so the bound applies to them -/
theorem C09_pure_is_state (psi : Cfg n → C ℝ) (hψ : ∀ σ, psi σ ≠ (0, 0)) :
    (Matrix.of (normalised (dmPure psi)) : Matrix (Cfg n) (Cfg n) ℂ).PosSemidef
      ∧ (∑ s, normalised (dmPure psi) s s) = 1 := by
  have hT : 0 < ∑ τ, C.normSq (psi τ) := Finset.sum_pos (fun σ _ => by
    rw [Obs.toC_normSq]; exact Complex.normSq_pos.2 (Obs.toC_ne_zero (hψ σ))) Finset.univ_nonempty
  have hTc := dmPure_trace psi
  refine ⟨?_, normalised_trace (by rw [hTc]; exact_mod_cast hT.ne')⟩
  rw [Matrix.posSemidef_iff_eq_sum_vecMulVec]
  refine ⟨1, fun _ σ => Obs.toC (psi σ) / ((Real.sqrt (∑ τ, C.normSq (psi τ)) : ℝ) : ℂ), ?_⟩
  ext σ σ'
  simp only [Matrix.of_apply, Fin.sum_univ_one, Matrix.vecMulVec_apply, Pi.star_apply, normalised,
    RCLike.star_def, map_div₀, Complex.conj_ofReal]
  rw [hTc, div_mul_div_comm, ← Complex.ofReal_mul, Real.mul_self_sqrt hT.le]
  rfl

/-- **C09.3** for pure states the purity of a region equals that of its complement
(`S₂(A) = S₂(Aᶜ)`). -/
theorem C09_pure_symmetric (psi : Cfg n → C ℝ) (A : Fin n → Bool) :
    purity (regionCompl A) (normalised (dmPure psi)) = purity A (normalised (dmPure psi)) := by
  rw [purity_eq_pairs, purity_eq_pairs]
  refine Finset.sum_congr rfl (fun s1 _ => Finset.sum_congr rfl (fun s2 _ => ?_))
  have hc : ∀ σ τ : Cfg n, combine σ τ (regionCompl A) = combine τ σ A := fun σ τ => combine_compl σ τ A
  simp only [hc, normalised, dmPure]
  ring

/-- the empty region has purity `(tr ρ̂)² = 1` for EVERY trace-one state -/
theorem C09_empty_region (R : Op n) (htr : (∑ s, R s s) = 1) : purity (fun _ => false) R = 1 := by
  rw [purity_eq_pairs]
  simp only [combine_empty]
  rw [← Finset.sum_mul_sum, htr, one_mul]

/-- **C09.4** for pure states the purity of the empty and of the full region is one
(`S₂ = −log 1 = 0`). -/
theorem C09_pure_trivial (psi : Cfg n → C ℝ) (hψ : ∀ σ, psi σ ≠ (0, 0)) :
    purity (fun _ => false) (normalised (dmPure psi)) = 1
      ∧ purity (fun _ => true) (normalised (dmPure psi)) = 1
      ∧ -Real.log (purity (fun _ => false) (normalised (dmPure psi))).re = 0
      ∧ -Real.log (purity (fun _ => true) (normalised (dmPure psi))).re = 0 := by
  have h1 := C09_empty_region _ (C09_pure_is_state psi hψ).2
  -- the full region is the complement of the empty one
  have h2 : purity (fun _ => true) (normalised (dmPure psi)) = 1 := (C09_pure_symmetric psi fun _ => false).trans h1
  refine ⟨h1, h2, ?_, ?_⟩
  · rw [h1, Complex.one_re, Real.log_one, neg_zero]
  · rw [h2, Complex.one_re, Real.log_one, neg_zero]

theorem renyi_pure (psi : Cfg n → C ℝ) (hψ : ∀ σ, psi σ ≠ (0, 0)) (A : Fin n → Bool) :
    (∑ s1, ∑ s2, bornPure psi s1 * bornPure psi s2 * swapApply (ImpState.pure psi) A s1 s2
        = (purity A (normalised (dmPure psi))).re)
      ∧ 0 < (purity A (normalised (dmPure psi))).re
      ∧ 0 ≤ -Real.log (purity A (normalised (dmPure psi))).re
      ∧ purity (regionCompl A) (normalised (dmPure psi)) = purity A (normalised (dmPure psi))
      ∧ purity (fun _ => false) (normalised (dmPure psi)) = 1
      ∧ purity (fun _ => true) (normalised (dmPure psi)) = 1 := by
  have hs := C09_pure_is_state psi hψ
  have hr := C09_renyi_nonneg A _ hs.1 hs.2
  have ht := C09_pure_trivial psi hψ
  exact ⟨C09_purity_pure psi hψ A, hr.1, hr.2.2, C09_pure_symmetric psi A, ht.1, ht.2.1⟩

/-- non-vacuity: complex RBM state, region `{0}` of two sites -/
example : let am : RBM ℝ 2 3 := ⟨fun i j => (i.val : ℝ) - j.val + 0.5, fun j => if j = 0 then -1.5 else 2,
      fun i => if i = 0 then 0.7 else -0.3⟩
    let ph : RBM ℝ 2 3 := ⟨fun i j => 0.25 * (i.val : ℝ) + j.val, fun j => if j = 0 then 1 else -2,
      fun i => if i = 0 then -0.4 else 0.9⟩
    let psi : Cfg 2 → C ℝ := fun σ => Wave.psiCplx am ph (fun j => bit (σ j))
    let A : Fin 2 → Bool := fun j => j = 0
    (∑ s1, ∑ s2, bornPure psi s1 * bornPure psi s2 * swapApply (ImpState.pure psi) A s1 s2
        = (purity A (normalised (dmPure psi))).re)
      ∧ 0 ≤ -Real.log (purity A (normalised (dmPure psi))).re := by
  intro am ph psi A
  have h := renyi_pure psi (fun σ => (C08_rbm_psi_ne_zero am ph σ).2) A
  exact ⟨h.1, h.2.2.1⟩

/-- **RBM wavefunctions, no hypotheses**: for EVERY parameter setting of the complex
wavefunction `ψ_λμ` and every region `A` the swap estimator averages to the purity of the reduced state, the purity is a
positive real ≤ 1 (second Rényi entropy well defined and non-negative), equal for `A` and its complement, and one for the
empty and the full region. (`renyi_pure`, i.e. `C09_purity_pure`, `C09_renyi_nonneg`, `C09_pure_symmetric`,
`C09_pure_trivial`, with the hypothesis `ψ ≠ 0` discharged by `C08_rbm_psi_ne_zero`.) -/
theorem C09_renyi_nonneg_pure_rbm {hid : ℕ} (am ph : RBM ℝ n hid) (A : Fin n → Bool) :
    let psi : Cfg n → C ℝ := fun σ => Wave.psiCplx am ph (fun j => bit (σ j))
    (∑ s1, ∑ s2, bornPure psi s1 * bornPure psi s2 * swapApply (ImpState.pure psi) A s1 s2
        = (purity A (normalised (dmPure psi))).re)
      ∧ 0 < (purity A (normalised (dmPure psi))).re
      ∧ 0 ≤ -Real.log (purity A (normalised (dmPure psi))).re
      ∧ purity (regionCompl A) (normalised (dmPure psi)) = purity A (normalised (dmPure psi))
      ∧ purity (fun _ => false) (normalised (dmPure psi)) = 1
      ∧ purity (fun _ => true) (normalised (dmPure psi)) = 1 :=
  renyi_pure _ (fun σ => (C08_rbm_psi_ne_zero am ph σ).2) A

/-- … and of the positive wavefunction `ψ_λ`. -/
theorem C09_renyi_nonneg_pure_rbm_pos {hid : ℕ} (am : RBM ℝ n hid) (A : Fin n → Bool) :
    let psi : Cfg n → C ℝ := fun σ => Wave.psiPos am (fun j => bit (σ j))
    (∑ s1, ∑ s2, bornPure psi s1 * bornPure psi s2 * swapApply (ImpState.pure psi) A s1 s2
        = (purity A (normalised (dmPure psi))).re)
      ∧ 0 < (purity A (normalised (dmPure psi))).re
      ∧ 0 ≤ -Real.log (purity A (normalised (dmPure psi))).re
      ∧ purity (regionCompl A) (normalised (dmPure psi)) = purity A (normalised (dmPure psi))
      ∧ purity (fun _ => false) (normalised (dmPure psi)) = 1
      ∧ purity (fun _ => true) (normalised (dmPure psi)) = 1 :=
  renyi_pure _ (fun σ => (C08_rbm_psi_ne_zero am am σ).1) A

/-! ### Mixed states: the RBM density matrix is a state (from C02)

`rbmRho am ph` / `rbmProb am` (Props/C08) are the density matrix and the reported probability on basis states exactly as the
driver instantiates `ImpState.mixed`.  Index types: C02 proves `ρ = B·Bᴴ` for `C02.rhoMat`, the matrix indexed by bit-vectors
(`rhoMat_eq_mul_conjTranspose`), which IS `Matrix.of (dmMixed (rbmRho am ph))`; no re-indexing through `Fin (2^n)` is needed. -/

section mixedRBM
variable {hid a : ℕ}

theorem rbm_normalised_trace (am ph : PRBM ℝ n hid a) : ∑ s, normalised (dmMixed (rbmRho am ph)) s s = 1 :=
  normalised_trace (by rw [rbm_trace]; exact_mod_cast (rbm_trace_pos am).ne')

/-- **the normalised RBM density matrix is a state** (positive semidefinite, trace one) under C02's guard `NZ` on all pairs of
basis states; the trace-one part needs no guard. -/
theorem C09_mixed_is_state (am ph : PRBM ℝ n hid a)
    (hz : ∀ σ τ : Fin n → Bool, C02.NZ am ph (C02.bits σ) (C02.bits τ)) :
    (Matrix.of (normalised (dmMixed (rbmRho am ph))) : Matrix (Cfg n) (Cfg n) ℂ).PosSemidef
      ∧ (∑ s, normalised (dmMixed (rbmRho am ph)) s s) = 1 := by
  refine ⟨?_, rbm_normalised_trace am ph⟩
  have hM : (Matrix.of (normalised (dmMixed (rbmRho am ph))) : Matrix (Cfg n) (Cfg n) ℂ)
      = (1 / ∑ τ, rbmProb am τ : ℝ) • C02.rhoMat am ph := by
    ext σ σ'
    simp only [Matrix.of_apply, normalised, Matrix.smul_apply, rbm_trace am ph]
    rw [Complex.real_smul]
    push_cast
    rw [div_eq_inv_mul, one_div]
    rfl
  rw [hM, C02.rhoMat_eq_mul_conjTranspose am ph hz]
  exact (Matrix.posSemidef_self_mul_conjTranspose _).smul (by have := rbm_trace_pos am; positivity)

/-- **C09.1 for the RBM density matrix, no hypotheses**: the pair average of the swap estimator is `Re tr(ρ̂_A²)` for every
parameter setting (the hypotheses of `C09_purity_mixed` hold by `C08_rbm_rho_diag`, i.e. C02_diagonal). -/
theorem C09_purity_mixed_rbm (am ph : PRBM ℝ n hid a) (A : Fin n → Bool) :
    ∑ s1, ∑ s2, bornMixed (rbmProb am) s1 * bornMixed (rbmProb am) s2
        * swapApply (ImpState.mixed (rbmRho am ph) (rbmProb am)) A s1 s2
      = (purity A (normalised (dmMixed (rbmRho am ph)))).re :=
  C09_purity_mixed _ _ (fun σ => (C08_rbm_rho_diag am ph σ).1) (fun σ => (C08_rbm_rho_diag am ph σ).2.ne') A

/-- without any guard (Hermiticity and unit trace hold for all parameters): the purity of every region of the RBM density
matrix is real and strictly positive, so `S₂ = −log tr ρ̂_A²` is well defined; the empty region has purity one. -/
theorem C09_purity_pos_mixed_rbm (am ph : PRBM ℝ n hid a) (A : Fin n → Bool) :
    (purity A (normalised (dmMixed (rbmRho am ph)))).im = 0
      ∧ 0 < (purity A (normalised (dmMixed (rbmRho am ph)))).re
      ∧ purity (fun _ => false) (normalised (dmMixed (rbmRho am ph))) = 1 := by
  have htr := rbm_normalised_trace am ph
  obtain ⟨h1, _, h3⟩ := C09_purity_real_pos A _ (C08_rbm_rho_hermitian am ph)
  exact ⟨h1, h3 htr, C09_empty_region _ htr⟩

/-- **C09.2' for mixed states**: under C02's guard `NZ` on all pairs of basis states (no auxiliary unit with
`1 + e^{x+iy} = 0`; e.g. `Σ_j |U_μ k j| < 2π`, `C02_NZ_of_phase_weights_small`) the exact pair average of the swap estimator on
the RBM density matrix lies in `(0, 1]`, i.e. the derived second Rényi entropy `−log(average)` is non-negative, for every
region.  Off the guard (a measure-zero set of parameters where the real-number model of `log 0` differs from the float code)
only `C09_purity_pos_mixed_rbm` is claimed. -/
theorem C09_renyi_nonneg_mixed_rbm (am ph : PRBM ℝ n hid a)
    (hz : ∀ σ τ : Fin n → Bool, C02.NZ am ph (C02.bits σ) (C02.bits τ)) (A : Fin n → Bool) :
    let avg := ∑ s1, ∑ s2, bornMixed (rbmProb am) s1 * bornMixed (rbmProb am) s2
        * swapApply (ImpState.mixed (rbmRho am ph) (rbmProb am)) A s1 s2
    0 < avg ∧ avg ≤ 1 ∧ 0 ≤ -Real.log avg := by
  intro avg
  have hs := C09_mixed_is_state am ph hz
  have h := C09_renyi_nonneg A _ hs.1 hs.2
  have hle := C09_purity_le_one A _ hs.1 hs.2
  have e : avg = (purity A (normalised (dmMixed (rbmRho am ph)))).re := C09_purity_mixed_rbm am ph A
  rw [e]
  exact ⟨h.1, hle, h.2.2⟩

/-- non-vacuity: the concrete mixed-state model of C02's example (`n = 2`, `h = 3`, `a = 2`, all parameters non-zero)
satisfies the guard, so the entropy bound applies to it. -/
example :
    let am : PRBM ℝ 2 3 2 := ⟨fun i j => (i.val : ℝ) - j.val + 0.5, fun k j => (k.val : ℝ) + j.val - 2.5,
      fun j => if j = 0 then -1.5 else 2, fun i => if i = 0 then 0.7 else -0.3, fun k => if k = 0 then 1.2 else -0.4⟩
    let ph : PRBM ℝ 2 3 2 := ⟨fun i j => 0.3 * (i.val : ℝ) - j.val + 0.25, fun k j => if k.val = j.val then 1 else -0.5,
      fun j => if j = 0 then 0.5 else -1, fun i => if i = 0 then -0.2 else 0.9, fun _ => 0.8⟩
    let A : Fin 2 → Bool := fun j => j = 0
    0 ≤ -Real.log (∑ s1, ∑ s2, bornMixed (rbmProb am) s1 * bornMixed (rbmProb am) s2
        * swapApply (ImpState.mixed (rbmRho am ph) (rbmProb am)) A s1 s2) := by
  intro am ph A
  refine (C09_renyi_nonneg_mixed_rbm am ph (C02.C02_NZ_of_phase_weights_small am ph fun k => ?_) A).2.2
  -- every entry of `U_μ` has modulus at most 1, there are two sites, and `π ≥ 2`
  calc ∑ j, |ph.U k j| ≤ ∑ _j : Fin 2, (1 : ℝ) :=
        Finset.sum_le_sum fun j _ => by simp only [ph]; split <;> norm_num
    _ < 2 * Real.pi := by
        rw [Finset.sum_const, Finset.card_univ, Fintype.card_fin, nsmul_eq_mul, mul_one, Nat.cast_ofNat]
        have := Real.two_le_pi
        linarith

end mixedRBM

/-! ### Pairing inside a batch, no mutation, region argument -/

/-- **C09.5** `samples2 = torch.roll(samples, 1, 0)`: row `i` is paired with row `(i − 1) mod B`; the index
map is a bijection of the batch and the second-replica batch is a permutation of the batch, so every
sample is used exactly once in each replica role. -/
theorem C09_pairing {β : Type} (l : List β) :
    (∀ i : Fin l.length, ((rollIdx l.length i).val : ℤ) = ((i.val : ℤ) - 1) % (l.length : ℤ))
    ∧ Function.Bijective (rollIdx l.length)
    ∧ (roll1 l).length = l.length
    ∧ (∀ (i : ℕ) (h : i < l.length),
        (roll1 l)[i]'(by rw [roll1_length]; exact h) = l[(rollIdx l.length ⟨i, h⟩).val])
    ∧ (roll1 l).Perm l :=
  ⟨rollIdx_int l.length, rollIdx_bijective l.length, roll1_length l, roll1_getElem l, roll1_perm l⟩

/-- **C09.6 no mutation** (any scalar type): `SWAP(A).apply` on tensor `sid` of a heap (the in-place `swap`
acts on the two `clone()`s) leaves every tensor the caller had unchanged and returns, row by row, the
per-pair value of `C09_purity` on `(samples[i], samples[(i−1) mod B])`. -/
theorem C09_no_mutation {α : Type} [Add α] [Mul α] [Neg α] [Sub α] [Div α] [Zero α] [One α] [Transc α]
    (S : ImpState α n) (A : Fin n → Bool) (h : THeap n) (sid : ℕ) (hs : sid < h.next) :
    (∀ k, k < h.next → (swapRun S A h sid).1.cells k = h.cells k) ∧
      (swapRun S A h sid).2 = List.zipWith (swapApply S A) (h.cells sid) (roll1 (h.cells sid)) := by
  have := swapRun_spec S A h sid hs
  exact ⟨this.1.2, this.2⟩

/-- the per-pair swap exchanges exactly region `A` and keeps the rest (what `swap(s1, s2, A)` does) -/
theorem C09_swap_rows (A : Fin n → Bool) (s1 s2 : Cfg n) (j : Fin n) :
    ((swapRows A s1 s2).1 j = if A j then s2 j else s1 j)
      ∧ ((swapRows A s1 s2).2 j = if A j then s1 j else s2 j) := ⟨rfl, rfl⟩

/-- torch's reading of an index `k ∈ [-n, n)`: it selects site `j` iff `k = j` or `k = j − n` -/
theorem wrapIndex_eq_iff {k : ℤ} (hk : -(n : ℤ) ≤ k ∧ k < (n : ℤ)) (j : Fin n) :
    (if k < 0 then k + (n : ℤ) else k) = (j.val : ℤ) ↔ k = (j.val : ℤ) ∨ k = (j.val : ℤ) - n := by
  have := j.isLt
  split <;> omega

/-- region argument: a list of (possibly negative, possibly repeated) site indices within `[-n, n)` denotes
the set of sites `k mod n`; anything outside raises `IndexError`. -/
theorem C09_region (A : List Int) :
    (∀ f, normRegion n A = .ok f →
        ∀ j : Fin n, f j = true ↔ ∃ k ∈ A, k = (j.val : ℤ) ∨ k = (j.val : ℤ) - n)
    ∧ ((∃ k ∈ A, k < -(n : ℤ) ∨ (n : ℤ) ≤ k) → normRegion n A = .error .IndexError) := by
  -- the guard of `normRegion` as a proposition
  simp only [normRegion, List.all_eq_true, decide_eq_true_eq]
  constructor
  · intro f hf j
    split at hf
    · next hall =>
      cases hf
      simp only [List.any_eq_true, beq_iff_eq]
      exact exists_congr fun k => and_congr_right fun hk => wrapIndex_eq_iff (hall k hk) j
    · cases hf
  · rintro ⟨k, hk, hbad⟩
    exact if_neg fun hall => by have := hall k hk; omega

/-! ### Composition with the sampler: the batch mean on i.i.d. rows

`C09_purity` averages over INDEPENDENT pairs `(s₁, s₂) ~ p ⊗ p`.  The code never forms such pairs explicitly: `apply` pairs row `i`
of the batch with row `(i − 1) mod B` (`C09_pairing`, `C09_no_mutation`: the returned list is
`zipWith swapApply rows (roll1 rows)`, i.e. entry `i` is `swapApply (rows i) (rows (rollIdx B i))`, `C09_batch_list_form`).
If the `B` rows are i.i.d. draws from `p` (e.g. `B` independent chains each started from `p` and advanced by the `k`-step sampler,
which keeps the product law `p^{⊗B}`: `C08_born_stationary`, `QV.prod_invariant`), then for `B ≥ 2` every pair `(i, i−1 mod B)`
consists of two DIFFERENT rows, hence is an independent pair, and the expectation of the batch mean is the purity
(`C09_batch_mean_unbiased`; the `B` pairs are not independent of each other — only linearity is used).  For `B = 1` the single
sample is paired with itself, the value is identically 1 and the estimate is biased whenever the purity is below 1
(`C09_single_row`, `C09_single_row_biased`). -/

section batch
open QV.Stats

/-- the list `SWAP.apply` returns on a batch with rows `vs` (by `C09_no_mutation`), entry by entry -/
theorem C09_batch_list_form (S : ImpState ℝ n) (A : Fin n → Bool) {B : ℕ} (vs : Fin B → Cfg n) :
    List.zipWith (swapApply S A) (List.ofFn vs) (roll1 (List.ofFn vs))
      = List.ofFn (fun i : Fin B => swapApply S A (vs i) (vs (rollIdx B i))) := by
  apply List.ext_getElem
  · simp [roll1_length]
  · intro i h1 h2
    have hi : i < B := by simpa using h2
    have hl : (List.ofFn vs).length = B := List.length_ofFn
    rw [List.getElem_zipWith, roll1_getElem _ i (by rw [hl]; exact hi)]
    simp only [List.getElem_ofFn]
    congr 2
    apply Fin.ext
    simp only [rollIdx_val, hl]

/-- **the batch mean of `SWAP.apply` on `B ≥ 2` i.i.d. rows is unbiased for the purity**, every region, every state the
importance-sampling interface represents (`p` a probability distribution). -/
theorem C09_batch_mean_unbiased {S : ImpState ℝ n} {G : Op n} {p : Cfg n → ℝ} (h : Represents S G p)
    (hp : ∑ σ, p σ = 1) (A : Fin n → Bool) (B : ℕ) (hB : 2 ≤ B) :
    ∑ vs : Fin B → Cfg n, (∏ b, p (vs b)) *
        ((List.zipWith (swapApply S A) (List.ofFn vs) (roll1 (List.ofFn vs))).sum / B)
      = (purity A (normalised G)).re := by
  have key : ∀ i : Fin B, ∑ vs : Fin B → Cfg n, (∏ b, p (vs b)) * swapApply S A (vs i) (vs (rollIdx B i))
      = (purity A (normalised G)).re := by
    intro i
    rw [sum_prod_marginal2 p hp i (rollIdx B i) (Ne.symm (rollIdx_ne B hB i)) (fun a c => swapApply S A a c)]
    exact C09_purity h A
  simp only [C09_batch_list_form, List.sum_ofFn]
  exact weighted_mean_of_common (by omega) _ _ _ key

/-- **one row**: a sample paired with itself has value exactly 1, whatever the state, the region and the sample. -/
theorem C09_single_row {S : ImpState ℝ n} {G : Op n} {p : Cfg n → ℝ} (h : Represents S G p) (A : Fin n → Bool)
    (s : Cfg n) : swapApply S A s s = 1 := by
  have hw : Obs.toC (S.weight s s) = 1 := by rw [C08_importance_weight h, div_self (h.nz s)]
  show (Obs.toC (C.mul (S.weight (combine s s A) s) (S.weight (combine s s A) s))).re = 1
  rw [combine_self, Obs.toC_mul, hw]
  simp

/-- … so on a one-row batch (`torch.roll` of one row is that row) `SWAP.apply` returns `[1]` and the expectation of the
"batch mean" over a row drawn from `p` is 1 — not the purity. -/
theorem C09_single_row_mean {S : ImpState ℝ n} {G : Op n} {p : Cfg n → ℝ} (h : Represents S G p)
    (hp : ∑ σ, p σ = 1) (A : Fin n → Bool) :
    (∀ vs : Fin 1 → Cfg n, List.zipWith (swapApply S A) (List.ofFn vs) (roll1 (List.ofFn vs)) = [1])
    ∧ ∑ vs : Fin 1 → Cfg n, (∏ b, p (vs b)) *
        ((List.zipWith (swapApply S A) (List.ofFn vs) (roll1 (List.ofFn vs))).sum / (1 : ℕ)) = 1 := by
  have h1 : ∀ vs : Fin 1 → Cfg n, List.zipWith (swapApply S A) (List.ofFn vs) (roll1 (List.ofFn vs)) = [1] := by
    intro vs
    rw [C09_batch_list_form]
    have : rollIdx 1 (0 : Fin 1) = 0 := Subsingleton.elim _ _
    simp [List.ofFn_succ, this, C09_single_row h A]
  refine ⟨h1, ?_⟩
  simp only [h1, List.sum_singleton, Nat.cast_one, div_one, mul_one]
  have := sum_prod_marginal1 (M := 1) p hp 0 (fun _ => (1 : ℝ))
  simpa [hp] using this

/-- the maximally mixed state of one site, as a `DensityMatrix`-style interface: `ρ = 1`, `probability ≡ 1` -/
def mixed1 : ImpState ℝ 1 :=
  ImpState.mixed (fun σ σ' => if σ = σ' then (1, 0) else (0, 0)) (fun _ => 1)

/-- **one row is biased (witness)**: for the maximally mixed state of one site and the region `{0}` the purity is `1/2`, the
i.i.d. batch mean with `B ≥ 2` rows has expectation `1/2`, the one-row "batch mean" has expectation `1`. -/
theorem C09_single_row_biased :
    let rho : Cfg 1 → Cfg 1 → C ℝ := fun σ σ' => if σ = σ' then (1, 0) else (0, 0)
    let p : Cfg 1 → ℝ := bornMixed (fun _ => 1)
    let A : Fin 1 → Bool := fun _ => true
    Represents mixed1 (dmMixed rho) p ∧ ∑ σ, p σ = 1
    ∧ (purity A (normalised (dmMixed rho))).re = 1 / 2
    ∧ ∑ vs : Fin 1 → Cfg 1, (∏ b, p (vs b)) *
        ((List.zipWith (swapApply mixed1 A) (List.ofFn vs) (roll1 (List.ofFn vs))).sum / (1 : ℕ)) = 1 := by
  intro rho p A
  have hrep : Represents mixed1 (dmMixed rho) p :=
    C08_represents_mixed rho (fun _ => 1) (fun σ => by simp [rho]) (fun _ => one_ne_zero)
  have hcard : Fintype.card (Cfg 1) = 2 := by simp
  have hp : ∑ σ, p σ = 1 := by
    simp only [p, bornMixed, Finset.sum_const, Finset.card_univ, hcard]
    norm_num
  refine ⟨hrep, hp, ?_, (C09_single_row_mean hrep hp A).2⟩
  have hT : ∑ τ : Cfg 1, dmMixed rho τ τ = 2 := by
    simp only [dmMixed, rho, if_true, Obs.toC_mk, Finset.sum_const, Finset.card_univ, hcard]
    simp [Complex.ext_iff]
  have hR : ∀ σ σ' : Cfg 1, normalised (dmMixed rho) σ σ' = if σ = σ' then 1 / 2 else 0 := by
    intro σ σ'
    simp only [normalised, hT]
    by_cases hσ : σ = σ' <;> simp [dmMixed, rho, hσ, Complex.ext_iff]
  rw [purity_eq_pairs]
  simp only [A, combine_full, hR, ite_mul, zero_mul]
  norm_num

/-- non-vacuity of `C09_batch_mean_unbiased`: the witness state, three i.i.d. rows -/
example : ∑ vs : Fin 3 → Cfg 1, (∏ b, bornMixed (fun _ => (1 : ℝ)) (vs b)) *
      ((List.zipWith (swapApply mixed1 (fun _ => true)) (List.ofFn vs) (roll1 (List.ofFn vs))).sum / (3 : ℕ)) = 1 / 2 := by
  obtain ⟨hrep, hp, hpur, _⟩ := C09_single_row_biased
  rw [← hpur]
  exact C09_batch_mean_unbiased hrep hp _ 3 (by norm_num)

end batch

/-! ### SWAP through the `statistics` loop

`C09_batch_mean_unbiased` is about ONE batch of i.i.d. rows.  `ObservableBase.statistics` draws `T = ⌈num_samples/B⌉` batches by
threading the SAME `B` chains through the sampler (`Stats.drawsProg`).  Each chain evolves independently under a kernel that
leaves `p` invariant (the batched program has the product law, `C05_batch_law`), so the product `p^{⊗B}` is invariant under every
call (`QV.prod_invariant`): at every draw the `B` rows are again i.i.d. from `p`, every draw's batch mean has expectation
`Re tr ρ̂_A²` (`C09_batch_mean_unbiased`), and by linearity over the draws (`C13_mean_stationary`; the draws are dependent, the
chains continue) so has the mean that `statistics` reports.  No independence lemma beyond the product law of ONE call is needed:
stationarity of the product measure is all `C13_mean_stationary` asks for. -/
section statsLoop
open QV.Stats Prog

/-- what `SWAP.apply` returns on the batch with rows `vs`: entry `i` pairs row `i` with row `i − 1 mod B` (`C09_no_mutation`,
`C09_batch_list_form`) -/
noncomputable def swapBatch (S : ImpState ℝ n) (A : Fin n → Bool) {B : ℕ} (vs : Fin B → Cfg n) : List ℝ :=
  List.zipWith (swapApply S A) (List.ofFn vs) (roll1 (List.ofFn vs))

theorem swapBatch_length (S : ImpState ℝ n) (A : Fin n → Bool) {B : ℕ} (vs : Fin B → Cfg n) :
    (swapBatch S A vs).length = B := by
  simp [swapBatch, roll1_length]

/-- **generic form.**  `S` represents `G` with sampling distribution `p` (a probability distribution); `B ≥ 2` chains whose
single-chain `k`-step programs `stepK k` leave `p` invariant, batched as `stepKB k` with the product law; every chain started
from `p`.  For every region `A`, `num_samples ≥ 1`, `burn_in`, `steps`, with `T = ⌈num_samples/B⌉` draws: (i) on every execution
`statistics` returns the one-pass statistics of the `T·B` swap values, the sampler having been called with
`k = [burn_in, steps, …, steps]`, and (ii) the expectation of the reported MEAN over the joint law of all `T` draws of all `B`
chains is `Re tr ρ̂_A²`. -/
theorem C09_statistics_unbiased_generic {S : ImpState ℝ n} {G : Op n} {p : Cfg n → ℝ} (h : Represents S G p)
    (hp : ∑ σ, p σ = 1) (stepK : ℕ → Cfg n → Prog ℝ (Cfg n)) (B : ℕ)
    (stepKB : ℕ → (Fin B → Cfg n) → Prog ℝ (Fin B → Cfg n))
    (hlaw : ∀ k vs ws, (stepKB k vs).law ws = ∏ b, (stepK k (vs b)).law (ws b))
    (hinv : ∀ k w, ∑ v, p v * (stepK k v).law w = p w)
    (A : Fin n → Bool) (hB : 2 ≤ B) (ns nc burnIn steps T : ℕ) (hns : 1 ≤ ns) (hT : numTimeSteps ns B = .ok T)
    (ow : Bool) (dflt : Fin B → Cfg n) :
    (∀ (s₀ : Fin B → Cfg n) (sts : List (Fin B → Cfg n)), sts.length = T →
        ∃ calls, obsStatistics (recEnv B sts dflt) (swapBatch S A) ⟨ns, nc, burnIn, steps, some s₀, ow⟩
            = .ok (C13.onePass ((sts.map (swapBatch S A)).flatten), calls)
          ∧ calls.map (·.k) = burnIn :: List.replicate (T - 1) steps)
    ∧ ∑ vs₀ : Fin B → Cfg n, (∏ b, p (vs₀ b)) *
          (drawsProg stepKB burnIn steps T 0 vs₀).expect (fun sts => C13.mean ((sts.map (swapBatch S A)).flatten))
        = (purity A (normalised G)).re := by
  refine (batch_mean_stationary p stepK B stepKB hlaw hinv (swapBatch S A) (swapBatch_length S A) (by omega) ns nc burnIn
    steps T hns hT ow dflt).imp_right fun hexp => hexp.trans ?_
  have hm : ∀ vs : Fin B → Cfg n, C13.mean (swapBatch S A vs)
      = (List.zipWith (swapApply S A) (List.ofFn vs) (roll1 (List.ofFn vs))).sum / B := by
    intro vs
    rw [C13.mean, swapBatch_length]
    rfl
  simp only [hm]
  exact C09_batch_mean_unbiased h hp A B hB

variable {hid a : ℕ}

/-- **the mean of `SWAP` reported by `statistics` is unbiased for the purity — the three RBM states, no hypotheses on the
parameters.**  `B ≥ 2` chains started i.i.d. from the state's exact sampling distribution (the caller's `initial_state`), the
loop's sampler calls being the model's batched block-Gibbs program `gibbsStepsB k` (C05) with `k = burn_in` once and `k = steps`
afterwards, `T = ⌈num_samples/B⌉` draws: the expectation of the reported mean is `Re tr ρ̂_A²` for the complex wavefunction, the
positive wavefunction and the purification density matrix, every region `A`.  (`B = 1` is excluded for the reason
`C09_single_row_biased` shows.)  NOT claimed: anything about a start that is not stationary, or about the reported variance /
standard error. -/
theorem C09_statistics_unbiased (am ph : RBM ℝ n hid) (qa qp : PRBM ℝ n hid a) (A : Fin n → Bool) (B : ℕ) (hB : 2 ≤ B)
    (ns burnIn steps T : ℕ) (hns : 1 ≤ ns) (hT : numTimeSteps ns B = .ok T) :
    let psiC : Cfg n → C ℝ := fun σ => Wave.psiCplx am ph (fun j => bit (σ j))
    let psiP : Cfg n → C ℝ := fun σ => Wave.psiPos am (fun j => bit (σ j))
    let SM := ImpState.mixed (rbmRho qa qp) (rbmProb qa)
    (∑ vs₀ : Fin B → Cfg n, (∏ b, bornPure psiC (vs₀ b)) *
        (drawsProg (fun k => am.gibbsStepsB k) burnIn steps T 0 vs₀).expect
          (fun sts => C13.mean ((sts.map (swapBatch (ImpState.pure psiC) A)).flatten))
      = (purity A (normalised (dmPure psiC))).re)
    ∧ (∑ vs₀ : Fin B → Cfg n, (∏ b, bornPure psiP (vs₀ b)) *
        (drawsProg (fun k => am.gibbsStepsB k) burnIn steps T 0 vs₀).expect
          (fun sts => C13.mean ((sts.map (swapBatch (ImpState.pure psiP) A)).flatten))
      = (purity A (normalised (dmPure psiP))).re)
    ∧ (∑ vs₀ : Fin B → Cfg n, (∏ b, bornMixed (rbmProb qa) (vs₀ b)) *
        (drawsProg (fun k => qa.gibbsStepsB k) burnIn steps T 0 vs₀).expect
          (fun sts => C13.mean ((sts.map (swapBatch SM A)).flatten))
      = (purity A (normalised (dmMixed (rbmRho qa qp)))).re) := by
  intro psiC psiP SM
  have hst := C08_born_stationary am ph qa
  have hst0 := hst 0 fun _ => false
  have hstP := C08_born_stationary am am qa
  -- the expectation clause of the generic theorem; what remains per state is: it is represented, its sampling distribution is a
  -- probability distribution, the batched sampler has the product law, and the distribution is invariant
  have gen := fun {S : ImpState ℝ n} {G : Op n} {p : Cfg n → ℝ} (h : Represents S G p) hp stepK stepKB hlaw hinv =>
    (C09_statistics_unbiased_generic h hp stepK B stepKB hlaw hinv A hB ns 0 burnIn steps T hns hT false
      fun _ _ => false).2
  exact ⟨gen (C08_represents_pure psiC fun σ => (C08_rbm_psi_ne_zero am ph σ).2) hst0.2.2.2.1 _ _ (gibbsStepsB_law am)
      fun k w => (hst k w).1,
    gen (C08_represents_pure psiP fun σ => (C08_rbm_psi_ne_zero am am σ).1) hst0.2.2.2.2.1 _ _ (gibbsStepsB_law am)
      fun k w => (hstP k w).2.1,
    gen (C08_represents_mixed _ _ (fun σ => (C08_rbm_rho_diag qa qp σ).1) fun σ => (C08_rbm_rho_diag qa qp σ).2.ne')
      hst0.2.2.2.2.2 _ _ (gibbsStepsB_law_purif qa) fun k w => (hst k w).2.2.1⟩

/-- non-vacuity: a concrete complex RBM state on two sites (`h = 3`), region `{0}`, 3 chains, 7 requested samples (= 3 draws),
burn-in 5, 2 steps between draws: the expectation of the `SWAP` mean reported by `statistics` is the purity of site 0. -/
example : let am : RBM ℝ 2 3 := ⟨fun i j => (i.val : ℝ) - j.val + 0.5, fun j => if j = 0 then -1.5 else 2,
      fun i => if i = 0 then 0.7 else -0.3⟩
    let ph : RBM ℝ 2 3 := ⟨fun i j => 0.25 * (i.val : ℝ) + j.val, fun j => if j = 0 then 1 else -2,
      fun i => if i = 0 then -0.4 else 0.9⟩
    let psi : Cfg 2 → C ℝ := fun σ => Wave.psiCplx am ph (fun j => bit (σ j))
    let A : Fin 2 → Bool := fun j => j = 0
    ∑ vs₀ : Fin 3 → Cfg 2, (∏ b, bornPure psi (vs₀ b)) *
      (drawsProg (fun k => am.gibbsStepsB k) 5 2 3 0 vs₀).expect
        (fun sts => C13.mean ((sts.map (swapBatch (ImpState.pure psi) A)).flatten))
      = (purity A (normalised (dmPure psi))).re :=
  (C09_statistics_unbiased _ _ (⟨0, 0, 0, 0, 0⟩ : PRBM ℝ 2 3 0)
    ⟨0, 0, 0, 0, 0⟩ _ 3 (by norm_num) 7 5 2 3 (by norm_num) (by decide)).1

/-- … and of the generic theorem: the maximally mixed one-site state with the identity "sampler" (`ret`, which leaves every
distribution invariant), two chains — hypotheses of `C09_statistics_unbiased_generic` are jointly satisfiable with a mixed state. -/
example : ∑ vs₀ : Fin 2 → Cfg 1, (∏ b, bornMixed (fun _ => (1 : ℝ)) (vs₀ b)) *
      (drawsProg (fun _ vs => (Prog.ret vs : Prog ℝ (Fin 2 → Cfg 1))) 0 0 2 0 vs₀).expect
        (fun sts => C13.mean ((sts.map (swapBatch mixed1 (fun _ => true))).flatten)) = 1 / 2 := by
  obtain ⟨hrep, hp, hpur, _⟩ := C09_single_row_biased
  rw [← hpur]
  refine (C09_statistics_unbiased_generic hrep hp (fun _ v => Prog.ret v) 2 (fun _ vs => Prog.ret vs) ?_ ?_ _ le_rfl
    3 0 0 0 2 (by norm_num) (by decide) false (fun _ _ => false)).2
  · intro k vs ws
    simp only [Prog.law]
    by_cases h : vs = ws
    · subst h; simp
    · obtain ⟨b, hb⟩ := Function.ne_iff.mp h
      rw [if_neg h, eq_comm]
      exact Finset.prod_eq_zero (Finset.mem_univ b) (by simp [hb])
  · intro k w
    simp [Prog.law]

end statsLoop

end C09
end QV.Props
