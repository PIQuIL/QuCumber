/-
C16 — Composite observables evaluate to the same arithmetic on their parts.

"Any observable built from observables and real scalars with unary minus, addition, subtraction and scalar
multiplication (on either side) evaluates on any batch to exactly that arithmetic expression applied to the
per-sample values of its leaves, and its statistics are those of that combined per-sample value. Combinations
that are not linear (observable times observable, non-numeric operands) are rejected when built."

All theorems: ∀ expression trees (any depth, by structural induction), ∀ batches. The value theorems hold for leaf values
in any commutative ring (ℝ, ℤ, …); which expressions build, and to which exception, needs no algebra at all; the statistics
are over a field (`C16_statistics`) or ℝ, where they compose with C13. Model definitions: QV.Model.Composite (`build`,
`Obs.apply`, `eval`, `Obs.statisticsFromSamples`, `Obs.statistics`, `mkSum`, `mkProd`; for the `name` / `symbol` strings
`buildN` and the specification `exprText`), executed over `Int` and `Float` against the real operator overloads and
constructors by the C16 correspondence check.
-/
import Mathlib.Algebra.Ring.Defs
import Mathlib.Algebra.Ring.Int.Defs
import Mathlib.Tactic.Ring
import QV.Model.Composite
import QV.Lemmas.Composite
import QV.Props.C13

namespace QV.Props
namespace C16
open QV.Props.C13
open QV QV.Composite

section value
variable {R : Type} [CommRing R]

/-- the value of whatever `build` returns (a plain scalar for an observable-free expression, else the built
observable's `apply`) is the expression evaluated on the leaf values — one sample. -/
theorem C16_value_eq_eval (vals : Nat → R) (e : Expr R) {v : Arg R} (h : build e = .ok v) :
    v.value vals = eval vals e := by
  induction e generalizing v with
  | leaf i => cases h; rfl
  | const k c => cases h; rfl
  | neg e ih =>
    unfold build at h
    split at h
    · contradiction
    · rename_i w hw
      rw [pyNeg_value vals h, ih hw]; rfl
  | add a b iha ihb =>
    unfold build at h
    split at h
    · contradiction
    · rename_i va hva
      split at h
      · contradiction
      · rename_i vb hvb
        rw [pyAdd_value vals h, iha hva, ihb hvb]; rfl
  | sub a b iha ihb =>
    unfold build at h
    split at h
    · contradiction
    · rename_i va hva
      split at h
      · contradiction
      · rename_i vb hvb
        rw [pySub_value vals h, iha hva, ihb hvb]; rfl
  | mul a b iha ihb =>
    unfold build at h
    split at h
    · contradiction
    · rename_i va hva
      split at h
      · contradiction
      · rename_i vb hvb
        rw [pyMul_value vals h, iha hva, ihb hvb]; rfl

/-- **C16.1** if the expression builds to an observable `o`, then on every batch `o.apply` is, sample by sample,
the arithmetic expression applied to the per-sample values of the leaves. -/
theorem C16_apply_eq_eval (e : Expr R) {o : Obs R} (h : build e = .ok (.obs o)) (batch : List (Nat → R)) :
    o.applyBatch batch = evalBatch e batch := by
  unfold Obs.applyBatch evalBatch
  refine List.map_congr_left (fun vals _ => ?_)
  exact C16_value_eq_eval vals e h

/-- an observable-free expression is evaluated by Python itself to the same number -/
theorem C16_scalar_eq_eval (e : Expr R) {k : Kind} {c : R} (h : build e = .ok (.scal k c)) (vals : Nat → R) :
    c = eval vals e :=
  C16_value_eq_eval vals e h

end value

/-! ### Which expressions build, and which exception the others raise -/

section shape
variable {α : Type}

/-- the expression denotes an observable (it mentions at least one leaf observable) -/
def hasLeaf : Expr α → Bool
  | .leaf _ => true
  | .const _ _ => false
  | .neg e => hasLeaf e
  | .add a b => hasLeaf a || hasLeaf b
  | .sub a b => hasLeaf a || hasLeaf b
  | .mul a b => hasLeaf a || hasLeaf b

/-- the operand is a non-numeric literal (`None`, a string, …) -/
def isBad : Expr α → Bool
  | .const .bad _ => true
  | _ => false

/-- Linear expressions: no operator has a non-numeric operand, and no product has two observable factors. -/
inductive Linear : Expr α → Prop
  | leaf (i : Nat) : Linear (.leaf i)
  | const (k : Kind) (c : α) : Linear (.const k c)
  | neg {e} : Linear e → isBad e = false → Linear (.neg e)
  | add {a b} : Linear a → Linear b → isBad a = false → isBad b = false → Linear (.add a b)
  | sub {a b} : Linear a → Linear b → isBad a = false → isBad b = false → Linear (.sub a b)
  | mul {a b} : Linear a → Linear b → isBad a = false → isBad b = false →
      (hasLeaf a && hasLeaf b) = false → Linear (.mul a b)

/-- what goes wrong AT a binary operator whose operands evaluated fine: a non-numeric operand is a `TypeError`
(checked first, by Python or by the constructors' `isinstance` tests), a product of two observables a `ValueError`. -/
def opError (isMul : Bool) (a b : Expr α) : Option PyErr :=
  if isBad a || isBad b then some .TypeError
  else if isMul && hasLeaf a && hasLeaf b then some .ValueError
  else none

/-- the first thing that goes wrong in Python's evaluation order (left operand, right operand, operator) -/
def firstError : Expr α → Option PyErr
  | .leaf _ => none
  | .const _ _ => none
  | .neg e =>
    match firstError e with
    | some k => some k
    | none => if isBad e then some .TypeError else none
  | .add a b =>
    match firstError a with
    | some k => some k
    | none => match firstError b with
      | some k => some k
      | none => opError false a b
  | .sub a b =>
    match firstError a with
    | some k => some k
    | none => match firstError b with
      | some k => some k
      | none => opError false a b
  | .mul a b =>
    match firstError a with
    | some k => some k
    | none => match firstError b with
      | some k => some k
      | none => opError true a b

theorem firstError_neg (e : Expr α) :
    firstError (.neg e) = (firstError e).or (if isBad e then some .TypeError else none) := by
  rw [firstError]
  cases firstError e <;> rfl

theorem firstError_add (a b : Expr α) :
    firstError (.add a b) = (firstError a).or ((firstError b).or (opError false a b)) := by
  rw [firstError]
  cases firstError a <;> cases firstError b <;> rfl

theorem firstError_sub (a b : Expr α) :
    firstError (.sub a b) = (firstError a).or ((firstError b).or (opError false a b)) := by
  rw [firstError]
  cases firstError a <;> cases firstError b <;> rfl

theorem firstError_mul (a b : Expr α) :
    firstError (.mul a b) = (firstError a).or ((firstError b).or (opError true a b)) := by
  rw [firstError]
  cases firstError a <;> cases firstError b <;> rfl

theorem opError_eq_none (isMul : Bool) (a b : Expr α) :
    opError isMul a b = none ↔ isBad a = false ∧ isBad b = false ∧ (isMul && hasLeaf a && hasLeaf b) = false := by
  unfold opError
  cases isBad a <;> cases isBad b <;> cases (isMul && hasLeaf a && hasLeaf b) <;> simp

theorem opError_mem {isMul : Bool} {a b : Expr α} {k : PyErr} (h : opError isMul a b = some k) :
    k = .TypeError ∨ k = .ValueError := by
  unfold opError at h
  split at h
  · cases h; exact .inl rfl
  · split at h
    · cases h; exact .inr rfl
    · cases h

theorem linear_iff_firstError_none (e : Expr α) : Linear e ↔ firstError e = none := by
  induction e with
  | leaf i => exact ⟨fun _ => rfl, fun _ => .leaf i⟩
  | const k c => exact ⟨fun _ => rfl, fun _ => .const k c⟩
  | neg e ih =>
    rw [firstError_neg, Option.or_eq_none_iff, ← ih, ite_eq_right_iff]
    exact ⟨fun | .neg h hb => ⟨h, by simp [hb]⟩, fun ⟨h, hb⟩ => .neg h (by simpa using hb)⟩
  | add a b iha ihb =>
    rw [firstError_add, Option.or_eq_none_iff, Option.or_eq_none_iff, opError_eq_none, ← iha, ← ihb]
    exact ⟨fun | .add ha hb ba bb => ⟨ha, hb, ba, bb, rfl⟩, fun ⟨ha, hb, ba, bb, _⟩ => .add ha hb ba bb⟩
  | sub a b iha ihb =>
    rw [firstError_sub, Option.or_eq_none_iff, Option.or_eq_none_iff, opError_eq_none, ← iha, ← ihb]
    exact ⟨fun | .sub ha hb ba bb => ⟨ha, hb, ba, bb, rfl⟩, fun ⟨ha, hb, ba, bb, _⟩ => .sub ha hb ba bb⟩
  | mul a b iha ihb =>
    rw [firstError_mul, Option.or_eq_none_iff, Option.or_eq_none_iff, opError_eq_none, ← iha, ← ihb]
    exact ⟨fun | .mul ha hb ba bb hl => ⟨ha, hb, ba, bb, hl⟩, fun ⟨ha, hb, ba, bb, hl⟩ => .mul ha hb ba bb hl⟩

theorem firstError_mem (e : Expr α) (k : PyErr) (h : firstError e = some k) : k = .TypeError ∨ k = .ValueError := by
  induction e with
  | leaf i => cases h
  | const kk c => cases h
  | neg e ih =>
    rw [firstError_neg, Option.or_eq_some_iff] at h
    rcases h with h | ⟨_, h⟩
    · exact ih h
    · split at h
      · cases h; exact .inl rfl
      · cases h
  | add a b iha ihb | sub a b iha ihb | mul a b iha ihb =>
    simp only [firstError_add, firstError_sub, firstError_mul, Option.or_eq_some_iff] at h
    rcases h with h | ⟨_, h | ⟨_, h⟩⟩
    · exact iha h
    · exact ihb h
    · exact opError_mem h

end shape

section classify
variable {α : Type} [Add α] [Mul α] [Neg α] [Sub α] [Zero α] [One α]

/-- Complete description of `build e`: it raises exactly `firstError e`, and otherwise returns an observable iff the
expression mentions a leaf, and a non-numeric scalar only for a bare non-numeric literal. -/
def BuildChar (e : Expr α) : Prop :=
  match firstError e with
  | some k => build e = .error k
  | none => ∃ v, build e = .ok v ∧ v.isObs = hasLeaf e ∧ isBad e = !argOk v

theorem BuildChar.neg {e : Expr α} (h : BuildChar e) : BuildChar (.neg e) := by
  unfold BuildChar at h ⊢
  rw [firstError_neg]
  unfold build
  cases hfe : firstError e <;> rw [hfe] at h
  · obtain ⟨v, hv, hl, hb⟩ := h
    have hn := pyNeg_char v
    rw [← hb] at hn
    rw [hv, Option.none_or]
    cases hbe : isBad e <;> rw [hbe] at hn
    · obtain ⟨w, hw, hwo, hwk⟩ := hn
      exact ⟨w, hw, hwo.trans hl, by rw [hwk]; rfl⟩
    · exact hn
  · rw [h]
    rfl

omit [Zero α] in
/-- `e` is `a ∘ b` for one of the three binary constructors, described by the four equations about `e` (each holds by `rfl`
or `firstError_add` … at the use site), so that the three cases of `build_char` share one proof; all that is used of the
operator is `OpChar`. -/
theorem BuildChar.bin {isMul : Bool} {op : Arg α → Arg α → Except PyErr (Arg α)} (hop : OpChar isMul op)
    {a b e : Expr α} (ha : BuildChar a) (hb : BuildChar b)
    (hfe : firstError e = (firstError a).or ((firstError b).or (opError isMul a b)))
    (hbuild : build e = match build a with
      | .error err => .error err
      | .ok va => match build b with
        | .error err => .error err
        | .ok vb => op va vb)
    (hleaf : hasLeaf e = (hasLeaf a || hasLeaf b)) (hbad : isBad e = false) : BuildChar e := by
  unfold BuildChar at ha hb ⊢
  rw [hfe, hbuild, hleaf, hbad]
  cases hfa : firstError a <;> rw [hfa] at ha
  · obtain ⟨va, hva, hla, hba⟩ := ha
    rw [hva]
    cases hfb : firstError b <;> rw [hfb] at hb
    · obtain ⟨vb, hvb, hlb, hbb⟩ := hb
      have key := hop va vb
      rw [← hba, ← hbb, hla, hlb] at key
      rw [hvb, Option.none_or, Option.none_or, opError]
      by_cases h1 : (isBad a || isBad b) = true
      · rw [if_pos h1] at key ⊢
        exact key
      · rw [if_neg h1] at key ⊢
        by_cases h2 : (isMul && hasLeaf a && hasLeaf b) = true
        · rw [if_pos h2] at key ⊢
          exact key
        · rw [if_neg h2] at key ⊢
          obtain ⟨v, hv, hvo, hvk⟩ := key
          exact ⟨v, hv, hvo, by rw [hvk]; rfl⟩
    · rw [hb]
      rfl
  · rw [ha]
    rfl

theorem build_char (e : Expr α) : BuildChar e := by
  induction e with
  | leaf i => exact ⟨_, rfl, rfl, rfl⟩
  | const k c => exact ⟨_, rfl, rfl, by cases k <;> rfl⟩
  | neg e ih => exact ih.neg
  | add a b iha ihb => exact BuildChar.bin pyAdd_char iha ihb (firstError_add a b) rfl rfl rfl
  | sub a b iha ihb => exact BuildChar.bin pySub_char iha ihb (firstError_sub a b) rfl rfl rfl
  | mul a b iha ihb => exact BuildChar.bin pyMul_char iha ihb (firstError_mul a b) rfl rfl rfl

/-- **C16.2b** otherwise it raises exactly the first error in evaluation order: `TypeError` for a non-numeric
operand, `ValueError` for an observable-times-observable product. -/
theorem C16_error_kind (e : Expr α) (k : PyErr) : build e = .error k ↔ firstError e = some k := by
  have h := build_char e
  unfold BuildChar at h
  split at h
  · rename_i k' hk'
    rw [h, hk', Except.error.injEq, Option.some.injEq]
  · rename_i hn
    obtain ⟨v, hv, _⟩ := h
    rw [hv, hn]
    exact ⟨nofun, nofun⟩

/-- **C16.2a** an expression builds (to an observable, or to a plain number when it mentions no observable) iff it
is linear: every operand is an observable or a numeric scalar and no product has two observable factors. -/
theorem C16_linear_iff_ok (e : Expr α) : (∃ v, build e = .ok v) ↔ Linear e := by
  rw [linear_iff_firstError_none]
  have h := build_char e
  unfold BuildChar at h
  split at h
  · rename_i k hk
    rw [h, hk]
    exact ⟨nofun, nofun⟩
  · rename_i hn
    obtain ⟨v, hv, _⟩ := h
    exact ⟨fun _ => hn, fun _ => ⟨v, hv⟩⟩

/-- **C16.2c** what is built is an observable object exactly when the expression mentions an observable. -/
theorem C16_result_is_observable (e : Expr α) {v : Arg α} (h : build e = .ok v) : v.isObs = hasLeaf e := by
  have hc := build_char e
  unfold BuildChar at hc
  split at hc
  · rw [hc] at h; cases h
  · obtain ⟨v', hv', ho, _⟩ := hc
    rw [hv'] at h
    cases h
    exact ho

/-- only `TypeError` and `ValueError` are ever raised while building -/
theorem C16_only_type_or_value_error (e : Expr α) (k : PyErr) (h : build e = .error k) :
    k = .TypeError ∨ k = .ValueError :=
  firstError_mem e k ((C16_error_kind e k).mp h)

end classify

/-! ### Statistics of a composite -/

section stats
variable {F : Type} [Field F] [Transc F]

/-- **C16.3** the statistics of a built composite are the (shared, C13) `statistics_from_samples` of the
expression's per-sample values. -/
theorem C16_statistics (e : Expr F) {o : Obs F} (h : build e = .ok (.obs o)) (batch : List (Nat → F)) :
    o.statisticsFromSamples batch = Stats.fromSamples (evalBatch e batch) := by
  unfold Obs.statisticsFromSamples
  rw [C16_apply_eq_eval e h batch]

/-- **C16.3'** over ℝ: mean, unbiased variance, standard error and count of the combined per-sample values. -/
theorem C16_statistics_real (e : Expr ℝ) {o : Obs ℝ} (h : build e = .ok (.obs o)) (batch : List (Nat → ℝ))
    (hb : batch ≠ []) :
    o.statisticsFromSamples batch = .ok (onePass (evalBatch e batch)) := by
  rw [C16_statistics e h batch]
  exact C13_fromSamples _ (by simpa [evalBatch] using hb)

end stats

/-! ### `statistics()` of a composite: chunked draws merged by the streaming routine (C13) -/

section sampled
variable {σ : Type}

/-- **C16.3''** `statistics()` of a built composite (any split of the requested samples into chains and successive
draws): with at least one requested sample and one chain, the call succeeds and returns the one-pass mean / unbiased
variance / standard error / count of the EXPRESSION evaluated on the leaves' per-sample values of every drawn chain
state, the count being `T·c ≥ num_samples`; the sampler calls are those of the C13 schedule. (`leaves st` = per-chain
leaf values on the chain states `st`, one entry per chain.) Composition of `C16_apply_eq_eval` with C13's
`C13_statistics_one_pass`. -/
theorem C16_statistics_sampled (env : Stats.Env σ) (e : Expr ℝ) {o : Obs ℝ} (h : build e = .ok (.obs o))
    (leaves : σ → List (Nat → ℝ)) (a : Stats.Args σ) (hns : 1 ≤ a.numSamples)
    (hc : 1 ≤ (Stats.chainSetup env a).2) (hrows : ∀ st, (leaves st).length = (Stats.chainSetup env a).2) :
    ∃ T, Stats.numTimeSteps a.numSamples (Stats.chainSetup env a).2 = .ok T ∧ 1 ≤ T ∧
      let ds := Stats.draws env (Stats.chainSetup env a).2 a.burnIn a.steps T 0 (Stats.chainSetup env a).1
      o.statistics env leaves a
        = .ok (onePass (ds.map (fun d => evalBatch e (leaves d.2))).flatten, ds.map (·.1)) ∧
      ((ds.map (fun d => evalBatch e (leaves d.2))).flatten).length = T * (Stats.chainSetup env a).2 ∧
      a.numSamples ≤ T * (Stats.chainSetup env a).2 := by
  have hfun : (fun st => o.applyBatch (leaves st)) = (fun st => evalBatch e (leaves st)) :=
    funext (fun st => C16_apply_eq_eval e h (leaves st))
  obtain ⟨T, hT, hT1, hrest⟩ := C13_statistics_one_pass env (fun st => evalBatch e (leaves st)) a hns hc
    (fun st => by simp [evalBatch, hrows st])
  refine ⟨T, hT, hT1, ?_⟩
  unfold Obs.statistics
  rw [hfun]
  exact hrest

end sampled

/-! ### The constructors called directly -/

section ctor
variable {α : Type}

/-- `SumObservable(o1, o2)` called directly: `TypeError` iff an operand is neither numeric nor an observable
(nothing else is checked — two plain numbers are accepted), else the object storing both operands in order. -/
theorem C16_constructor_sum (a b : Arg α) :
    mkSum a b = if argOk a && argOk b then .ok (.sum a b) else .error .TypeError :=
  mkSum_eq a b

/-- `ProdObservable(o1, o2)` called directly: `TypeError` iff an operand is neither numeric nor an observable;
otherwise `ValueError` unless EXACTLY one operand is an observable; then the scalar is stored on the left and the
observable on the right, whichever order they were given in. -/
theorem C16_constructor_prod (a b : Arg α) :
    ((argOk a && argOk b) = false → mkProd a b = .error .TypeError) ∧
    ((argOk a && argOk b) = true → a.isObs = b.isObs → mkProd a b = .error .ValueError) ∧
    (∀ k c o, a = .scal k c → b = .obs o → k.numeric = true → mkProd a b = .ok (.prod k c o)) ∧
    (∀ k c o, a = .obs o → b = .scal k c → k.numeric = true → mkProd a b = .ok (.prod k c o)) := by
  refine ⟨?_, ?_, ?_, ?_⟩
  · unfold mkProd
    cases argOk a <;> cases argOk b <;> intro h <;> first | rfl | cases h
  · intro h hobs
    cases a with
    | obs o =>
      cases b with
      | obs o' => rfl
      | scal k c => cases hobs
    | scal k c =>
      cases b with
      | obs o => cases hobs
      | scal k' c' =>
        revert h
        unfold mkProd
        rw [argOk_scal, argOk_scal]
        cases k.numeric <;> cases k'.numeric <;> intro h <;> first | rfl | cases h
  · rintro k c o rfl rfl hk
    rw [mkProd_scal_obs, hk]
    rfl
  · rintro k c o rfl rfl hk
    rw [mkProd_obs_scal, hk]
    rfl

end ctor

section ctor_value
variable {R : Type} [CommRing R]

/-- what the directly constructed objects evaluate to, at every sample: the sum / the product of the operands' values -/
theorem C16_constructor_value (vals : Nat → R) (a b : Arg R) {o : Obs R} :
    (mkSum a b = .ok o → o.apply vals = a.value vals + b.value vals) ∧
    (mkProd a b = .ok o → o.apply vals = a.value vals * b.value vals) :=
  ⟨mkSum_value vals, mkProd_value vals⟩

end ctor_value

/-! ### Names and symbols (the keys under which `System` / `ObservableEvaluator` report a composite: C13, C17) -/

section names
set_option linter.unusedSectionVars false
variable {α : Type} [Add α] [Mul α] [Neg α] [Sub α] [Zero α] [One α]

theorem isScalar_eq_not_hasLeaf (e : Expr α) : e.isScalar = !hasLeaf e := by
  induction e with
  | leaf i => rfl
  | const k c => rfl
  | neg e ih => exact ih
  | add a b iha ihb | sub a b iha ihb | mul a b iha ihb =>
    unfold Expr.isScalar hasLeaf
    rw [iha, ihb, Bool.not_or]

/-- the builder that also carries the `name` / `symbol` strings (`buildN`: the constructors' `name=` / `symbol=`
arguments, `__neg__`'s explicit strings, the reflected operators) is `build` plus strings: the same object or the
same exception. -/
theorem buildN_arg (R : Render α) (ids : Nat → Ident) (e : Expr α) : (buildN R ids e).map NArg.arg = build e := by
  induction e with
  | leaf i => rfl
  | const k c => rfl
  | neg a ih =>
    unfold buildN build
    rw [← ih]
    cases buildN R ids a with
    | error err => rfl
    | ok va => exact pyNegN_arg R va
  | add a b iha ihb | sub a b iha ihb | mul a b iha ihb =>
    unfold buildN build
    rw [← iha, ← ihb]
    cases buildN R ids a with
    | error err => rfl
    | ok va =>
      cases buildN R ids b with
      | error err => rfl
      | ok vb =>
        simp only [pyAddN_arg, pySubN_arg, pyMulN_arg]
        rfl

theorem build_of_buildN {R : Render α} {ids : Nat → Ident} {e : Expr α} {v : NArg α} (h : buildN R ids e = .ok v) :
    build e = .ok v.arg := by
  rw [← buildN_arg R ids e, h]
  rfl

theorem isObs_of_buildN {R : Render α} {ids : Nat → Ident} {e : Expr α} {v : NArg α} (h : buildN R ids e = .ok v) :
    v.arg.isObs = !e.isScalar := by
  rw [C16_result_is_observable e (build_of_buildN h), isScalar_eq_not_hasLeaf, Bool.not_not]

/-- the strings of a scalar expression need no induction: `scalText` reads them off `build e` -/
theorem buildN_text_of_scalar {R : Render α} {ids : Nat → Ident} {e : Expr α} {v : NArg α} (h : buildN R ids e = .ok v)
    (hs : e.isScalar = true) (nm : Bool) : v.text R nm = exprText R ids nm e := by
  have ho := isObs_of_buildN h
  rw [exprText_scalar R ids nm e hs, scalText, build_of_buildN h]
  cases v with
  | scal k c => rfl
  | obs n => rw [hs] at ho; cases ho

section text
variable {R : Render α} {ids : Nat → Ident} {nm : Bool} {a b : Expr α}

theorem buildN_text_neg (ih : ∀ v, buildN R ids a = .ok v → v.text R nm = exprText R ids nm a) (w : NArg α)
    (h : buildN R ids (.neg a) = .ok w) : w.text R nm = exprText R ids nm (.neg a) := by
  cases hs : a.isScalar
  · unfold buildN at h
    split at h
    · cases h
    · rename_i va hva
      have ho := isObs_of_buildN hva
      cases va with
      | scal k c => rw [hs] at ho; cases ho
      | obs n =>
        rw [pyNegN_text R n h, ih _ hva]
        exact (if_neg (hs ▸ Bool.false_ne_true)).symm
  · exact buildN_text_of_scalar h hs nm

/-- `hbuild` says that `e` is a binary node with operator `opN` (at the use sites it is `rfl`, for any of the three operators) -/
theorem buildN_bin_ok {opN : NArg α → NArg α → Except PyErr (NArg α)} {e : Expr α} {w : NArg α}
    (hbuild : buildN R ids e = match buildN R ids a with
      | .error err => .error err
      | .ok va => match buildN R ids b with
        | .error err => .error err
        | .ok vb => opN va vb) (h : buildN R ids e = .ok w) (hs : (a.isScalar && b.isScalar) = false) :
    ∃ va vb, buildN R ids a = .ok va ∧ buildN R ids b = .ok vb ∧ opN va vb = .ok w ∧
      (va.arg.isObs || vb.arg.isObs) = true := by
  rw [hbuild] at h
  split at h
  · cases h
  · rename_i va hva
    split at h
    · cases h
    · rename_i vb hvb
      refine ⟨va, vb, hva, hvb, h, ?_⟩
      rw [isObs_of_buildN hva, isObs_of_buildN hvb, ← Bool.not_and, hs]
      rfl

theorem buildN_text_add (iha : ∀ v, buildN R ids a = .ok v → v.text R nm = exprText R ids nm a)
    (ihb : ∀ v, buildN R ids b = .ok v → v.text R nm = exprText R ids nm b) (w : NArg α)
    (h : buildN R ids (.add a b) = .ok w) : w.text R nm = exprText R ids nm (.add a b) := by
  cases hs : a.isScalar && b.isScalar
  · obtain ⟨va, vb, hva, hvb, h, ho⟩ := buildN_bin_ok rfl h hs
    rw [pyAddN_text R ho h, iha _ hva, ihb _ hvb]
    exact (if_neg (hs ▸ Bool.false_ne_true)).symm
  · exact buildN_text_of_scalar h hs nm

end text

theorem buildN_text (R : Render α) (ids : Nat → Ident) (nm : Bool) (e : Expr α) :
    ∀ v, buildN R ids e = .ok v → v.text R nm = exprText R ids nm e := by
  induction e with
  | leaf i => intro v h; cases h; cases nm <;> rfl
  | const k c => intro v h; cases h; rfl
  | neg a ih => exact buildN_text_neg ih
  | add a b iha ihb => exact buildN_text_add iha ihb
  | sub a b iha ihb =>
    -- unless both sides are scalars, `a - b` is built, and reads, as `a + (-b)`
    intro w h
    cases hs : a.isScalar && b.isScalar
    · have h' : buildN R ids (.add a (.neg b)) = .ok w := by
        obtain ⟨va, vb, hva, hvb, h, ho⟩ := buildN_bin_ok rfl h hs
        rw [pySubN_of_obs R ho] at h
        rw [buildN, buildN, hva, hvb]
        exact h
      have hc : ¬ (a.isScalar && b.isScalar) = true := hs ▸ Bool.false_ne_true
      have ht : exprText R ids nm (.sub a b) = exprText R ids nm (.add a (.neg b)) := (if_neg hc).trans (if_neg hc).symm
      rw [ht]
      exact buildN_text_add iha (buildN_text_neg ihb) w h'
    · exact buildN_text_of_scalar h hs nm
  | mul a b iha ihb =>
    intro w h
    cases hs : a.isScalar && b.isScalar
    · obtain ⟨va, vb, hva, hvb, h, ho⟩ := buildN_bin_ok rfl h hs
      rw [pyMulN_text R ho h, iha _ hva, ihb _ hvb, isObs_of_buildN hva, Bool.not_not]
      exact (if_neg (hs ▸ Bool.false_ne_true)).symm
    · exact buildN_text_of_scalar h hs nm

/-- **C16 names** — the object `buildN` returns is the object `build` returns (same structure, or the same
exception), so every C16 theorem about `build` speaks about the named object. -/
theorem C16_named_build_is_build (R : Render α) (ids : Nat → Ident) (e : Expr α) :
    (match buildN R ids e with
      | .ok v => Except.ok v.arg
      | .error err => .error err) = build e := by
  rw [← buildN_arg R ids e]
  cases buildN R ids e <;> rfl

/-- **C16 names** — the `name` (and the `symbol`) of the observable built from an expression is the stated function
`exprText` of the expression tree: leaves read as their own name (class name by default, the string given through the
setter otherwise), scalar sub-expressions as Python prints their folded value, `-e` as `-E`, `a + b` as `(A + B)`,
`a - b` as `(A + -B)`, and a product as `(c * E)` with the scalar FIRST on whichever side it was written. For every
expression tree, by structural induction through the operator overloads, the reflected operators, `__neg__`'s
explicit strings and the two constructors' default strings. -/
theorem C16_name_of_build (R : Render α) (ids : Nat → Ident) (e : Expr α) (n : NObs α)
    (h : buildN R ids e = .ok (.obs n)) :
    n.name = exprText R ids true e ∧ n.symbol = exprText R ids false e ∧ build e = .ok (.obs n.o) :=
  ⟨buildN_text R ids true e _ h, buildN_text R ids false e _ h, build_of_buildN h⟩

/-- consequence: the two ways of writing a scalar multiple have the SAME name (`System` merges them: harmless, they
are the same observable). Not stated here: `-e` and `(-1) * e`, which have the same values, read `-E` and `(-1 * E)`. -/
theorem C16_name_prod_side (R : Render α) (ids : Nat → Ident) (k : Kind) (c : α) (i : Nat) :
    exprText R ids true (.mul (.const k c) (.leaf i)) = exprText R ids true (.mul (.leaf i) (.const k c)) := by
  simp [exprText, Expr.isScalar]

end names

/-- the names of a list of built observables are the texts of their expressions -/
theorem C16_names_of_built {α : Type} [Add α] [Mul α] [Neg α] [Sub α] [Zero α] [One α]
    (R : Render α) (ids : Nat → Ident) :
    ∀ (es : List (Expr α)) (ns : List (NObs α)),
      List.Forall₂ (fun e n => buildN R ids e = .ok (.obs n)) es ns → ns.map (·.name) = es.map (exprText R ids true)
  | _, _, .nil => rfl
  | _, _, .cons h1 h2 => congrArg₂ List.cons (C16_name_of_build R ids _ _ h1).1 (C16_names_of_built R ids _ _ h2)

/-- **names as dictionary keys (C13)** — observables built from the expressions `es` and handed to `System`: the keys
of the dictionary `System.statistics` returns are the texts `exprText … e` of the expressions, each once, in order of
first occurrence. Two built observables are therefore reported separately iff their expressions READ differently
(`2 * X` and `X * 2` read the same and are the same observable; two leaves of one class with different options read the
same and are NOT the same observable — known finding F19). -/
theorem C16_system_keys_of_built {σ : Type} (env : Stats.Env σ) (R : Render ℝ) (ids : Nat → Ident)
    (es : List (Expr ℝ)) (ns : List (NObs ℝ)) (hb : List.Forall₂ (fun e n => buildN R ids e = .ok (.obs n)) es ns)
    (vals : NObs ℝ → σ → List ℝ) (a : Stats.Args σ) (hne : ∀ n ∈ ns, ∀ st, vals n st ≠ [])
    (r : List (String × Stats.Stat ℝ) × List (Stats.SampleCall σ))
    (h : Stats.systemStatistics env (ns.map (fun n => (n.name, vals n))) a = .ok r) :
    r.1.map (·.1) = Stats.firstOcc (es.map (exprText R ids true)) := by
  refine (C13_system_keys_of_names env _ a ?_ r h).trans ?_
  · intro o ho st
    obtain ⟨n, hn, rfl⟩ := List.mem_map.mp ho
    exact hne n hn st
  · rw [List.map_map, ← C16_names_of_built R ids es ns hb]
    rfl

/-! ### Non-vacuity -/

/-- `-O₀ - 3*O₁ + 1` (the expression of the repository's smoke test) builds, to the nested
Sum/Prod object the overloads produce. -/
example : build (α := ℤ) (.add (.sub (.neg (.leaf 0)) (.mul (.const .int 3) (.leaf 1))) (.const .int 1))
    = .ok (.obs (.sum (.obs (.sum (.obs (.prod .int (-1) (.leaf 0)))
        (.obs (.prod .int (-1) (.prod .int 3 (.leaf 1)))))) (.scal .int 1))) := by
  rfl

/-- `2.0 - O₀` with a numpy float on the left goes through `__rsub__`, which receives the numpy scalar itself
(`__array_ufunc__ = None`: numpy defers instead of re-dispatching with a converted Python float) -/
example : build (α := ℤ) (.sub (.const .npfloat 2) (.leaf 0))
    = .ok (.obs (.sum (.scal .npfloat 2) (.obs (.prod .int (-1) (.leaf 0))))) := by rfl

/-- a non-numeric operand on the LEFT of an observable (`None`, a `str`, a numpy array, `numpy.int64(3)`, …) is
rejected by the reflected method's constructor exactly like on the right -/
example : build (α := ℤ) (.mul (.const .bad 0) (.leaf 0)) = .error .TypeError := by rfl
example : build (α := ℤ) (.mul (.leaf 0) (.const .bad 0)) = .error .TypeError := by rfl

/-- the direct constructor calls: `SumObservable(2, 3)` is accepted (no observable inside: outside the property),
`ProdObservable(2, 3)` and `ProdObservable(O₀, O₁)` are `ValueError`s, a `None` operand a `TypeError` -/
example : mkSum (α := ℤ) (.scal .int 2) (.scal .int 3) = .ok (.sum (.scal .int 2) (.scal .int 3)) := by rfl
example : mkProd (α := ℤ) (.scal .int 2) (.scal .int 3) = .error .ValueError := by rfl
example : mkProd (α := ℤ) (.obs (.leaf 0)) (.obs (.leaf 1)) = .error .ValueError := by rfl
example : mkProd (α := ℤ) (.obs (.leaf 0)) (.scal .bad 0) = .error .TypeError := by rfl

/-- observable × observable is a `ValueError`, a `None` operand a `TypeError`, and the left one wins -/
example : build (α := ℤ) (.add (.mul (.leaf 0) (.leaf 1)) (.const .bad 0)) = .error .ValueError := by rfl
example : build (α := ℤ) (.mul (.add (.leaf 0) (.const .bad 0)) (.leaf 1)) = .error .TypeError := by rfl
example : Linear (α := ℤ) (.mul (.const .float 2) (.sub (.leaf 0) (.const .int 1))) :=
  .mul (.const _ _) (.sub (.leaf 0) (.const _ _) rfl rfl) rfl rfl rfl

/-- names: `-O₀ - 3*O₁ + 1` with leaves named `SigmaX` (built-in constant) and a user class with default name -/
example : (match buildN (α := ℤ) ⟨fun _ c => toString c, fun _ c => toString c⟩
      (fun i => if i = 0 then ⟨"SigmaX", some "SigmaX", some "X"⟩ else ⟨"MyObs", none, none⟩)
      (.add (.sub (.neg (.leaf 0)) (.mul (.leaf 1) (.const .int 3))) (.const .int 1)) with
    | .ok (.obs n) => (n.name, n.symbol)
    | _ => ("", "")) = ("((-SigmaX + -(3 * MyObs)) + 1)", "((-X + -(3 * MyObs)) + 1)") := by decide +kernel


end C16
end QV.Props
