/-
C20 — Model construction and reset honour their documented contracts.

"A state built from a user-supplied RBM uses that RBM (its parameters and sizes) as the amplitude
network and, where a phase network exists, an independent copy of it, so that changing one network
never changes the other; states built from sizes have independent amplitude and phase networks of the
requested shapes with random weights and zero biases. Reinitialising redraws all networks' parameters
with unchanged shapes, training a complex or mixed state without measurement bases is refused before
anything changes, and the phase network's auxiliary bias stays zero throughout training."

Model: QV.Model.Store (heap of tensor / network / dict objects with identities; constructors, reinit, fit
guard, history machine `step`/`run`), QV.Model.PhaseAux (numeric aux-bias gradient rows and the SGD / Adam
update rules), QV.Model.Optim (update rules as `Rule`s with per-step hyper-parameters: seven `torch.optim`
classes) and QV.Model.InitLaw (the values `initialize_parameters` writes, as a function of the generator's
draws); all are executed against the real code by the C20 correspondence check.
Identity statements are statements about object ids; "contents" are the opaque tokens read through the
heap (`viewNet`).  All theorems: every heap / history / size / hyper-parameter / number of steps.

Left out: in `QV.Model.Store` one `fit` is a single write of supplied tokens per parameter, with the phase
auxiliary bias frozen at zero by definition (`trainParams`); C20.6 justifies that definition on the numeric
model and is not derived from the history machine.  RAdam, Rprop, ASGD and the `foreach` implementations are
covered by the correspondence check only.  `DensityMatrix(module=m)` may start with a non-zero phase auxiliary
bias (C20.6').
-/
import QV.Lemmas.StoreIO
import QV.Lemmas.PhaseAux
import QV.Lemmas.Optim
import QV.Model.Density
import QV.Model.Frame
import QV.Real
import QV.Lemmas.InitLaw

namespace QV.Props
namespace C20
open QV QV.Store QV.PhaseAux QV.Optim

/-- what a freshly initialised RBM must look like: weights `w₀` (`w₁`) from the generator, ALL biases
the zero token, shapes `H×n, [A×n,] n, H[, A]`.  `freshParams`, `hiddenDefault` (and `initWeights`, `auxDefault`
below) restate the documented contract independently of the model's `paramSpecs`, `defaultH`, `weightToks`,
`defaultA`; the theorems are stated against the restatements, `freshParams_eq` / `hiddenDefault_eq` tie them to the
model. -/
def freshParams (k : NetKind) (n H A : Nat) (w : List Tok) : SD :=
  match k with
  | .binary => [("weights", [H, n], w.getD 0 0), ("visible_bias", [n], 0), ("hidden_bias", [H], 0)]
  | .purif => [("weights_W", [H, n], w.getD 0 0), ("weights_U", [A, n], w.getD 1 0),
               ("visible_bias", [n], 0), ("hidden_bias", [H], 0), ("aux_bias", [A], 0)]

/-- documented defaults: `num_hidden=None → num_visible` (for `BinaryRBM` also `0 → num_visible`, because
of `if num_hidden`), `num_aux=None → num_visible` -/
def hiddenDefault (k : NetKind) (n : Nat) (nh : Option Nat) : Nat :=
  match nh with
  | none => n
  | some x => if k = .binary ∧ x = 0 then n else x

theorem freshParams_eq (k : NetKind) (n H A : Nat) (w : List Tok) : paramSpecs k n H A w = freshParams k n H A w := by
  cases k <;> rfl

theorem hiddenDefault_eq (k : NetKind) (n : Nat) (nh : Option Nat) : defaultH k n nh = hiddenDefault k n nh := by
  cases k <;> cases nh with
  | none => rfl
  | some x => cases x <;> rfl

theorem nets_disjoint {h : Heap} (wf : HeapWF h) {st : NState} (ok : StateOK h st)
    (p q : String × Nat) (hp : p ∈ st.nets) (hq : q ∈ st.nets) (hpq : p ≠ q) :
    p.2 ≠ q.2 ∧ ∀ x ∈ netIds h p.2, x ∉ netIds h q.2 := by
  -- equal ids at two different positions contradict `Nodup`
  have hne : p.2 ≠ q.2 := fun e => hpq (List.inj_on_of_nodup_map ok.idsNodup hp hq e)
  refine ⟨hne, fun x hx hx2 => ?_⟩
  unfold netIds at hx hx2
  cases h1 : h.nets p.2 with
  | none => rw [h1] at hx; cases hx
  | some n1 =>
    cases h2 : h.nets q.2 with
    | none => rw [h2] at hx2; cases hx2
    | some n2 =>
      rw [h1] at hx
      rw [h2] at hx2
      exact wf.disj p.2 q.2 n1 n2 h1 h2 hne x hx hx2

/-! ### C20.3 — states built from sizes -/

/-- **C20_sizes.** `Kind(num_visible, num_hidden, num_aux)` on any well-formed heap: the state has the
networks of its type; network `j` is a NEW object whose parameters are NEW tensors holding generator
weights `rand[j]` and zero biases, with shapes `(H×n, [A×n,] n, H[, A])` for the requested or defaulted
`H`, `A`; the size attributes are `(n, H[, A])`; different networks share no parameter tensor (so a write
to one never changes the other, see `C20_no_alias`). -/
theorem C20_sizes {h : Heap} (wf : HeapWF h) (kind : Kind) (n : Nat) (nh na : Option Nat)
    (ud : Option (List (String × Tok))) (rand : List (List Tok)) :
    let r := constructSizes h kind n nh na ud rand
    let k := netKindOf kind
    let H := hiddenDefault k n nh
    let A := if kind = .dens then na.getD n else 0
    r.2.kind = kind ∧ r.2.nv = n ∧ r.2.nh = H ∧ r.2.na = (if kind = .dens then some A else none) ∧
    r.2.nets.map Prod.fst = netNames kind ∧
    (∀ j p, r.2.nets[j]? = some p →
        viewNet r.1 p.2 = freshParams k n H A (rand.getD j []) ∧
        h.next ≤ p.2 ∧ (∀ x ∈ netIds r.1 p.2, h.next ≤ x) ∧
        ∃ net, r.1.nets p.2 = some net ∧ net.kind = k ∧ net.nv = n ∧ net.nh = H ∧ net.na = A) ∧
    (∀ p ∈ r.2.nets, ∀ q ∈ r.2.nets, p ≠ q → ∀ x ∈ netIds r.1 p.2, x ∉ netIds r.1 q.2) := by
  intro r k H A
  obtain ⟨f1, _, f3⟩ := constructSizes_wf wf kind n nh na ud rand
  have e1 : r.1 = (allocNets h k n nh na rand 0 (netNames kind)).1 := (constructSizes_eq h kind n nh na ud rand).1
  have e2 : r.2.nets = (allocNets h k n nh na rand 0 (netNames kind)).2 := (constructSizes_eq h kind n nh na ud rand).2
  obtain ⟨_, _, _, c, _, f⟩ := allocNets_spec wf k n nh na rand 0 (netNames kind)
  have hH : defaultH k n nh = H := hiddenDefault_eq k n nh
  have hA : defaultA k n na = A := by cases kind <;> rfl
  have attrs : r.2.kind = kind ∧ r.2.nv = n ∧ r.2.nh = defaultH k n nh ∧
      r.2.na = (if kind = .dens then some (defaultA k n na) else none) := by
    cases kind <;> exact ⟨rfl, rfl, rfl, rfl⟩
  rw [hH, hA] at attrs
  refine ⟨attrs.1, attrs.2.1, attrs.2.2.1, attrs.2.2.2, e2 ▸ c, fun j p hp => ?_,
    fun p hp q hq hpq => (nets_disjoint f1 f3 p q hp hq hpq).2⟩
  rw [e2] at hp
  obtain ⟨g0, _, ps, g1, g2, g3⟩ := f j p hp
  rw [Nat.zero_add, hH, hA] at g2
  rw [e1]
  refine ⟨by rw [g2, freshParams_eq], g0, fun x hx => g3 x ?_, _, g1, rfl, rfl, hH, hA⟩
  simpa only [netIds, g1] using hx

/-! ### C20.1 — states built from a user-supplied RBM -/

/-- **C20_module.** `Kind(module=m)` on any well-formed heap, when it succeeds: the amplitude network IS
the module object `m` (same object id — hence the same parameter objects and sizes; the module object is
not modified), the state's size attributes are the module's; where a phase network exists it is a NEW
network object whose parameters are NEW tensor objects (ids not in use before, in particular none of the
module's), with the module's size attributes and with contents equal to the module's at construction. -/
theorem C20_module {h : Heap} (wf : HeapWF h) (kind : Kind) (mid : Nat) (m : Net) (hm : h.nets mid = some m)
    (ud : Option (List (String × Tok))) (h' : Heap) (st : NState)
    (hc : constructFrom h kind mid ud = .ok (h', st)) :
    st.kind = kind ∧ aget st.nets "rbm_am" = some mid ∧ h'.nets mid = some m ∧ viewNet h' mid = viewNet h mid ∧
    st.nv = m.nv ∧ st.nh = m.nh ∧ (kind = .dens → st.na = some m.na) ∧
    st.nets.map Prod.fst = netNames kind ∧
    (kind ≠ .pos → ∃ ph cp, aget st.nets "rbm_ph" = some ph ∧ h.next ≤ ph ∧ ph ≠ mid ∧
        h'.nets ph = some { m with params := cp } ∧ (∀ x ∈ ids cp, h.next ≤ x) ∧
        (∀ x ∈ ids cp, x ∉ ids m.params) ∧ viewNet h' ph = viewNet h mid) := by
  have hmid : mid < h.next := wf.net_lt mid (by rw [hm]; rfl)
  obtain ⟨_, d0, d4, cp, d1, d2, d3⟩ := deepcopyNet_spec wf mid m hm
  obtain ⟨d5, d6⟩ := d0 mid (by rw [hm]; rfl)
  rw [hm] at d5
  have hfresh : ∀ x ∈ ids cp, x ∉ ids m.params := fun x hx hx2 => by
    have h1 := d3 x hx
    have h2 := wf.lt_of_isSome x (wf.alloc mid m hm x hx2)
    omega
  unfold constructFrom at hc
  simp only [hm] at hc
  cases kind with
  | pos =>
    cases hc
    exact ⟨rfl, rfl, hm, rfl, rfl, rfl, fun hk => Kind.noConfusion hk, rfl, fun hk => absurd rfl hk⟩
  | cplx =>
    cases hc
    exact ⟨rfl, rfl, d5, d6, rfl, rfl, fun hk => Kind.noConfusion hk, rfl,
      fun _ => ⟨_, cp, rfl, d4, by omega, d1, d3, hfresh, d2⟩⟩
  | dens =>
    dsimp only at hc
    split at hc
    · cases hc
    · cases hc
      exact ⟨rfl, rfl, d5, d6, rfl, rfl, fun _ => rfl, rfl, fun _ => ⟨_, cp, rfl, d4, by omega, d1, d3, hfresh, d2⟩⟩

/-- a complex state built from a 3-hidden-unit module on 2 sites whose biases were overwritten: the
hypotheses of `C20_module` hold and the construction succeeds -/
example : ∃ h' st, constructFrom
    (writeNet (newNet Heap.empty .binary 2 (some 3) none [7]).1 (newNet Heap.empty .binary 2 (some 3) none [7]).2 [8, 9, 10])
    .cplx (newNet Heap.empty .binary 2 (some 3) none [7]).2 none = .ok (h', st) ∧ st.nets.length = 2 := by
  refine ⟨_, _, rfl, rfl⟩

/-- `DensityMatrix(module=BinaryRBM(…))` is refused (`num_aux` does not exist) -/
theorem C20_module_wrong_type {h : Heap} (mid : Nat) (m : Net) (hm : h.nets mid = some m) (hk : m.kind = .binary)
    (ud : Option (List (String × Tok))) : constructFrom h .dens mid ud = .error .AttributeError := by
  simp [constructFrom, hm, hk]

/-- **C20_module_args_ignored.** The constructor call as the caller writes it,
`Kind(num_visible, num_hidden, num_aux, unitary_dict, module=m)` (`ctorOp`, what the driver executes for every
construction): with a module, the sizes passed alongside it play no role — any two choices (nothing, the module's own
sizes, other numbers; any generator draws) give the same world and the same outcome, namely those of `Kind(module=m)`;
without a module it is the sizes branch with exactly these sizes. -/
theorem C20_module_args_ignored (w : World) (slot : Nat) (kind : Kind) (nv nv' : Nat) (nh na nh' na' : Option Nat)
    (ud : Option (List (String × Tok))) (ms : Nat) (rand rand' : List (List Tok)) :
    step w (ctorOp slot kind nv nh na ud (some ms) rand) = step w (ctorOp slot kind nv' nh' na' ud (some ms) rand') ∧
    step w (ctorOp slot kind nv nh na ud (some ms) rand) = step w (.constructFrom slot kind ms ud) ∧
    step w (ctorOp slot kind nv nh na ud none rand) = step w (.construct slot kind nv nh na ud rand) :=
  ⟨rfl, rfl, rfl⟩

/-- **C20_module_sizes_from_module.** Whatever sizes the caller passes alongside `module=m` (for every world with a
well-formed heap, every slot, every state type): if the constructor call succeeds, the state bound afterwards has the
MODULE's sizes (`num_visible`, `num_hidden`, and `num_aux` for a mixed state) and the module object itself as its
amplitude network, the module object is unchanged, and a phase network (where one exists) is a new object with the
module's size attributes — none of this depends on the arguments `nv nh na`. -/
theorem C20_module_sizes_from_module (w : World) (wf : HeapWF w.heap) (slot : Nat) (kind : Kind) (nv : Nat)
    (nh na : Option Nat) (ud : Option (List (String × Tok))) (ms : Nat) (rand : List (List Tok))
    (mid : Nat) (m : Net) (hms : w.modules ms = some mid) (hm : w.heap.nets mid = some m)
    (hok : (step w (ctorOp slot kind nv nh na ud (some ms) rand)).2 = none) :
    ∃ st, (step w (ctorOp slot kind nv nh na ud (some ms) rand)).1.states slot = some st ∧
      st.kind = kind ∧ st.nv = m.nv ∧ st.nh = m.nh ∧ (kind = .dens → st.na = some m.na) ∧
      aget st.nets "rbm_am" = some mid ∧
      (step w (ctorOp slot kind nv nh na ud (some ms) rand)).1.heap.nets mid = some m ∧
      (kind ≠ .pos → ∃ ph cp, aget st.nets "rbm_ph" = some ph ∧ ph ≠ mid ∧
        (step w (ctorOp slot kind nv nh na ud (some ms) rand)).1.heap.nets ph = some { m with params := cp }) := by
  simp only [ctorOp, step, hms] at hok ⊢
  cases hc : constructFrom w.heap kind mid ud with
  | error e => simp [hc] at hok
  | ok r =>
    obtain ⟨h', st⟩ := r
    obtain ⟨a1, a2, a3, _, a5, a6, a7, _, a9⟩ := C20_module wf kind mid m hm ud h' st hc
    refine ⟨st, by simp, a1, a5, a6, a7, a2, by simpa using a3, fun hk => ?_⟩
    obtain ⟨ph, cp, b1, _, b3, b4, _⟩ := a9 hk
    exact ⟨ph, cp, b1, b3, by simpa using b4⟩

/-- the hypotheses are satisfiable and the statement is not vacuous: a mixed state built from a 2-3-1 module together with
the inconsistent sizes `num_visible=7, num_hidden=5, num_aux=4` has the module's sizes 2 / 3 / 1 -/
example : (((run World.empty [.mkModule 0 .purif 2 (some 3) (some 1) false [5, 6],
    ctorOp 0 .dens 7 (some 5) (some 4) none (some 0) []]).states 0).map (fun st => (st.nv, st.nh, st.na)))
    = some (2, 3, some 1) := by decide +kernel

/-! ### C20.2 — no aliasing between the networks of a state, for every reachable history -/

/-- **C20_no_alias.** For EVERY history of operations (construct from sizes or modules — including several
states sharing one module —, external writes, training, reinitialise, save, load, autoload, …) and every state
bound at its end: two different networks of the state are different objects owning disjoint sets of
parameter tensors; consequently any in-place write into the parameters of one (an external write
`writeNet`, or whatever else touches only those tensors, e.g. an optimizer step on that network) leaves every
read of the other unchanged. -/
theorem C20_no_alias (ops : List Op) (slot : Nat) (st : NState)
    (hs : (run World.empty ops).states slot = some st) (p q : String × Nat)
    (hp : p ∈ st.nets) (hq : q ∈ st.nets) (hpq : p ≠ q) :
    let h := (run World.empty ops).heap
    p.2 ≠ q.2 ∧ (∀ x ∈ netIds h p.2, x ∉ netIds h q.2) ∧
    (∀ toks, viewNet (writeNet h p.2 toks) q.2 = viewNet h q.2) ∧
    (∀ h', Touches h h' (netIds h p.2) → viewNet h' q.2 = viewNet h q.2) := by
  intro h
  have wfw := run_wf World.empty WorldWF.empty ops
  have ok := wfw.stateOK hs
  obtain ⟨hne, hd⟩ := nets_disjoint wfw.heap ok p q hp hq hpq
  have hd' : ∀ x ∈ netIds h q.2, x ∉ netIds h p.2 := fun x hx hx2 => hd x hx2 hx
  have key : ∀ h', Touches h h' (netIds h p.2) → viewNet h' q.2 = viewNet h q.2 := by
    intro h' t
    exact viewNet_touches_disj t q.2 (fun net hn x hx => hd' x (by unfold netIds; rw [hn]; exact hx))
  refine ⟨hne, hd, ?_, key⟩
  intro toks
  cases hn : h.nets p.2 with
  | none => simp [writeNet, hn]
  | some net =>
    apply key
    have := touches_writeNet h p.2 toks net hn
    unfold netIds; rw [hn]; exact this

/-! ### C20.4 — reinitialise -/

/-- **C20_reinit.** `reinitialize_parameters()` on a state of a well-formed heap: EVERY network of the state
(index `j` in `self.networks`) keeps its identity and size attributes and gets NEW parameter tensors (ids not
in use before) holding generator weights `rand[j]` and zero biases; the parameter names and shapes are the
ones it had before. -/
theorem C20_reinit {h : Heap} (wf : HeapWF h) (st : NState) (ok : StateOK h st) (rand : List (List Tok))
    (j : Nat) (p : String × Nat) (hp : st.nets[j]? = some p) :
    ∃ net ps, h.nets p.2 = some net ∧ (reinit h st.nets rand).nets p.2 = some { net with params := ps } ∧
      viewNet (reinit h st.nets rand) p.2 = freshParams net.kind net.nv net.nh net.na (rand.getD j []) ∧
      (∀ x ∈ ids ps, h.next ≤ x) ∧ (∀ x ∈ ids ps, x ∉ ids net.params) ∧
      shapesOf (viewNet (reinit h st.nets rand) p.2) = shapesOf (viewNet h p.2) := by
  obtain ⟨net, a1, ps, a2, a3, a4⟩ := reinit_spec wf st.nets rand ok.nets ok.idsNodup j p hp
  refine ⟨net, ps, a1, a2, by rw [a3, freshParams_eq], a4, fun x hx hx2 => ?_, ?_⟩
  · have h1 := a4 x hx
    have h2 := wf.lt_of_isSome x (wf.alloc p.2 net a1 x hx2)
    omega
  · rw [a3, shapesOf_paramSpecs]
    simp only [viewNet, a1]
    exact (wf.shapes p.2 net a1).symm

/-! ### C20.4' — the `zero_weights` option of the RBM constructors is not remembered -/

/-- the weights a module gets from `initialize_parameters(zero_weights=b)` / the RBM constructors:
all-zero with `zero_weights=True`, otherwise the generator's draws -/
def initWeights (zeroWeights : Bool) (rand : List Tok) : List Tok := if zeroWeights then [] else rand

/-- **C20_module_ctor.** `BinaryRBM(n, nh, zero_weights=zw)` / `PurificationRBM(n, nh, na, zero_weights=zw)`:
a NEW module object with NEW tensors of the requested or defaulted shapes, zero biases, and weights that are
the generator's draws — or all zero iff `zero_weights=True` was asked for. -/
theorem C20_module_ctor (w : World) (mslot : Nat) (k : NetKind) (n : Nat) (nh na : Option Nat) (zw : Bool)
    (rand : List Tok) :
    let r := step w (.mkModule mslot k n nh na zw rand)
    r.2 = none ∧ ∃ id ps, r.1.modules mslot = some id ∧ w.heap.next ≤ id ∧
      r.1.heap.nets id = some ⟨k, n, hiddenDefault k n nh, defaultA k n na, ps⟩ ∧
      viewNet r.1.heap id = freshParams k n (hiddenDefault k n nh) (defaultA k n na) (initWeights zw rand) ∧
      (∀ x ∈ ids ps, w.heap.next ≤ x) := by
  intro r
  obtain ⟨ps, a1, a2, a3⟩ := freshNet_allocNet w.heap k n (defaultH k n nh) (defaultA k n na)
    (paramSpecs k n (defaultH k n nh) (defaultA k n na) (weightToks zw rand))
  refine ⟨rfl, (newNet w.heap k n nh na (weightToks zw rand)).2, ps, upd_same _ _ _, (allocNet_id _ _ _ _ _ _).1, ?_, ?_, a3⟩
  · rw [← hiddenDefault_eq]; exact a1
  · rw [← hiddenDefault_eq, ← freshParams_eq]; exact a2

/-- **C20_init_module.** `module.initialize_parameters()` / `module.initialize_parameters(zero_weights=b)` on a
module the caller holds — whatever created it (in particular a constructor call with `zero_weights=True`) and
whatever happened to it since: the module keeps its identity and sizes and gets NEW parameter tensors with zero
biases and weights drawn from the generator, all-zero ONLY if this very call asked for `zero_weights=True`
(`zw = none` is the call without the argument); every other network object is left alone. -/
theorem C20_init_module (w : World) (wf : HeapWF w.heap) (mslot id : Nat) (net : Net)
    (hm : w.modules mslot = some id) (hn : w.heap.nets id = some net) (zw : Option Bool) (rand : List Tok) :
    let r := step w (.initModule mslot zw rand)
    r.2 = none ∧ r.1.modules = w.modules ∧ r.1.states = w.states ∧
    (∃ ps, r.1.heap.nets id = some { net with params := ps } ∧
      viewNet r.1.heap id = freshParams net.kind net.nv net.nh net.na (initWeights (zw.getD false) rand) ∧
      (∀ x ∈ ids ps, w.heap.next ≤ x) ∧ (∀ x ∈ ids ps, x ∉ ids net.params)) ∧
    (∀ i, i ≠ id → r.1.heap.nets i = w.heap.nets i ∧ viewNet r.1.heap i = viewNet w.heap i) := by
  intro r
  have hr : r = ({ w with heap := initParams w.heap id (weightToks (zw.getD false) rand) }, none) := by
    simp only [r, step, hm]
  obtain ⟨ps, n1, n2, n3⟩ := freshNet_initParams w.heap id (weightToks (zw.getD false) rand) net hn
  rw [hr]
  refine ⟨rfl, rfl, rfl, ⟨ps, n1, ?_, n3, fun x hx hx2 => ?_⟩, fun i hi => initParams_old wf id _ i hi⟩
  · rw [← freshParams_eq]; exact n2
  · have h1 := n3 x hx
    have h2 := wf.lt_of_isSome x (wf.alloc id net hn x hx2)
    omega

/-- a module created with `zero_weights=True`, handed to a complex state and reinitialised: BOTH networks of the
state end up with generator weights (tokens 8 and 9), not with zeros — the constructor's option is not sticky -/
example :
    let w := run World.empty [.mkModule 0 .binary 2 (some 3) none true [7], .constructFrom 0 .cplx 0 none,
      .reinit 0 [[8], [9]]]
    ((w.states 0).map (fun st => st.nets.map (fun p => viewNet w.heap p.2)))
      = some [freshParams .binary 2 3 0 [8], freshParams .binary 2 3 0 [9]] := by decide +kernel

/-- … while the constructor itself honoured it: directly after `BinaryRBM(2, 3, zero_weights=True)` the weights
are the zero token, and an explicit `initialize_parameters(zero_weights=True)` zeroes them again -/
example :
    let w := run World.empty [.mkModule 0 .binary 2 (some 3) none true [7]]
    (w.modules 0).map (viewNet w.heap) = some (freshParams .binary 2 3 0 []) := by decide +kernel
example :
    let w := run World.empty [.mkModule 0 .purif 2 none (some 0) false [7, 8], .initModule 0 (some true) [5, 6]]
    (w.modules 0).map (viewNet w.heap) = some (freshParams .purif 2 2 0 []) := by decide +kernel
example :
    let w := run World.empty [.mkModule 0 .purif 2 none (some 0) true [7, 8], .initModule 0 none [5, 6]]
    (w.modules 0).map (viewNet w.heap) = some (freshParams .purif 2 2 0 [5, 6]) := by decide +kernel

/-! ### C20.5 — the `fit` guards -/

/-- **C20_fit_guard.** Training a complex or mixed state without measurement bases is a `ValueError` and the
world (every parameter of every object, every file) is exactly what it was; the positive state ignores
`input_bases`. -/
theorem C20_fit_guard (w : World) (slot : Nat) (st : NState) (hs : w.states slot = some st)
    (toks : List (List Tok)) :
    (st.kind ≠ .pos → step w (.train slot false toks) = (w, some .ValueError)) ∧
    (st.kind = .pos → step w (.train slot false toks) = step w (.train slot true toks) ∧
        (step w (.train slot false toks)).2 = none) := by
  constructor
  · intro hk
    -- the guard `st.kind != .pos && !bases` is on, so `fit` raises before it touches anything
    have hg : (st.kind != .pos && !false) = true := by simp [hk]
    simp only [step, hs, fit, hg, if_true]
  · intro hk
    simp [step, hs, fit, hk]

/-- `C20_fit_guard` / `C20_no_alias` talk about non-empty worlds: after this history slot 0 holds a mixed
state with two networks -/
example : ((run World.empty [.mkModule 0 .purif 2 (some 1) (some 3) false [5, 6], .constructFrom 0 .dens 0 none,
    .reinit 0 [[1], [2]]]).states 0).isSome = true := by decide +kernel

/-! ### C20.6 — the phase network's auxiliary bias -/

section numeric
variable {α : Type} [Field α] [Transc α]

/-- the contributions `gradient(samples, bases)[1]` accumulates for one coordinate of the phase network's
auxiliary bias: `0.0` for an all-`Z` basis, otherwise the `rotated_gradient` contraction (any rotated
amplitudes `UrhoU_v`, any inverse probabilities, any sigmoid values in `pi_grad`) of `ph_grads`. -/
inductive AuxContribution : α → Prop
  | zBasis : AuxContribution 0
  | rotated (N B : ℕ) (U : Fin N → Fin N → Fin B → C α) (inv : Fin B → α) (sig : Fin N → Fin N → Fin B → C α) :
      AuxContribution (rotatedAux N B U inv (fun i j b => phGradsAux (sig i j b)))

/-- a gradient value the code can hand to the optimizer for that coordinate: contributions of the batch's
unique bases, summed and divided by the batch size -/
def IsPhaseAuxGrad (g : α) : Prop :=
  ∃ (contribs : List α) (batchSize : α), (∀ c ∈ contribs, AuxContribution c) ∧ g = batchGradAux contribs batchSize

/-- **C20_phase_aux_grad_zero.** the aux-bias entries of `pi_grad(phase=True)`, `gamma_grad`, hence of `ph_grads`,
of the rotated gradient and of the batch gradient are identically zero. -/
theorem C20_phase_aux_grad_zero (g : α) (hg : IsPhaseAuxGrad g) : g = 0 := by
  obtain ⟨cs, bs, hc, rfl⟩ := hg
  apply batchGradAux_eq_zero
  intro c hcm
  cases hc c hcm with
  | zBasis => rfl
  | rotated N B U inv sig => exact rotatedAux_eq_zero N B U inv _ (fun i j b => phGradsAux_eq_zero _)

/-- **C20_phase_aux_bias_zero.** Every coordinate of the phase network's auxiliary bias that is zero when
training starts is zero after ANY number of optimizer steps, for SGD with any learning rate, momentum,
dampening, weight decay, with or without Nesterov, and for Adam with any learning rate, betas, eps, weight
decay — because every gradient it receives is one of `IsPhaseAuxGrad`, i.e. zero. -/
theorem C20_phase_aux_bias_zero (gs : List α) (hg : ∀ g ∈ gs, IsPhaseAuxGrad g) :
    (∀ c : SGDCfg α, (sgdRun c ⟨0, none⟩ gs).p = 0) ∧
    (∀ c : AdamCfg α, (adamRun c ⟨0, 0, 0, 0⟩ gs).p = 0) := by
  have h0 : ∀ g ∈ gs, g = 0 := fun g hm => C20_phase_aux_grad_zero g (hg g hm)
  exact ⟨fun c => sgdRun_zero c gs h0 _ rfl (Or.inl rfl), fun c => adamRun_zero c gs h0 _ rfl rfl⟩

/-- **C20_phase_aux_bias_zero_any_rule.** "ANY optimizer": for every update rule `r` that has a zero-fixed invariant
(`ZeroFixed`: the invariant forces the coordinate to be `0` and survives a zero-gradient step whatever that step's
hyper-parameters are), started in a state satisfying the invariant, and every sequence of steps whose gradients
are phase-aux gradients of the code (`IsPhaseAuxGrad`) — with hyper-parameters that may change from step to step
(a learning-rate scheduler) — the coordinate is `0` at the end AND after every single step (`trace`: what a
callback sees at each `on_batch_end`). -/
theorem C20_phase_aux_bias_zero_any_rule {κ σ : Type} (r : Rule α κ σ) (Inv : σ → Prop) (h : ZeroFixed r Inv)
    (s0 : σ) (h0 : Inv s0) (cgs : List (κ × α)) (hg : ∀ cg ∈ cgs, IsPhaseAuxGrad cg.2) :
    r.param (r.run s0 cgs) = 0 ∧ (∀ x ∈ r.trace s0 cgs, x = 0) ∧ (r.trace s0 cgs).length = cgs.length := by
  have hz : ∀ cg ∈ cgs, cg.2 = 0 := fun cg hm => C20_phase_aux_grad_zero cg.2 (hg cg hm)
  exact ⟨h.run_zero cgs hz s0 h0, h.trace_zero cgs hz s0 h0, trace_length r s0 cgs⟩

/-- **C20_phase_aux_bias_zero_torch_rules.** The instances: the single-tensor rules of `torch.optim.SGD` (weight
decay, momentum, dampening, Nesterov, maximize), `Adam` / `AdamW` (coupled or decoupled weight decay, amsgrad,
maximize), `Adadelta`, `Adagrad` (lr decay, any initial accumulator), `RMSprop` (momentum, centered), `Adamax`,
`NAdam` (momentum decay, coupled / decoupled decay) — each started from the optimizer's initial state for a
coordinate that is `0` (the accumulators may hold ANY values, only the momentum-like buffers are `0` as torch
creates them), with arbitrary and arbitrarily changing hyper-parameters: the phase auxiliary bias is `0` after
every step. (RAdam, Rprop, ASGD are exercised by the correspondence check only; LBFGS and SparseAdam cannot be
used with `fit`, which calls `optimizer.step()` without a closure and with dense gradients.) -/
theorem C20_phase_aux_bias_zero_torch_rules :
    (∀ cgs : List (SGDX α × α), (∀ cg ∈ cgs, IsPhaseAuxGrad cg.2) →
        ∀ x ∈ sgdRule.trace ⟨0, none⟩ cgs, x = 0) ∧
    (∀ (v vmax : α) (t : ℕ) (cgs : List (AdamX α × α)), (∀ cg ∈ cgs, IsPhaseAuxGrad cg.2) →
        ∀ x ∈ adamRule.trace ⟨0, 0, v, vmax, t⟩ cgs, x = 0) ∧
    (∀ (sq acc : α) (cgs : List (AdadeltaCfg α × α)), (∀ cg ∈ cgs, IsPhaseAuxGrad cg.2) →
        ∀ x ∈ adadeltaRule.trace ⟨0, sq, acc⟩ cgs, x = 0) ∧
    (∀ (acc0 : α) (t : ℕ) (cgs : List (AdagradCfg α × α)), (∀ cg ∈ cgs, IsPhaseAuxGrad cg.2) →
        ∀ x ∈ adagradRule.trace ⟨0, acc0, t⟩ cgs, x = 0) ∧
    (∀ (sq gavg : α) (cgs : List (RMSpropCfg α × α)), (∀ cg ∈ cgs, IsPhaseAuxGrad cg.2) →
        ∀ x ∈ rmspropRule.trace ⟨0, sq, gavg, 0⟩ cgs, x = 0) ∧
    (∀ (u : α) (t : ℕ) (cgs : List (AdamaxCfg α × α)), (∀ cg ∈ cgs, IsPhaseAuxGrad cg.2) →
        ∀ x ∈ adamaxRule.trace ⟨0, 0, u, t⟩ cgs, x = 0) ∧
    (∀ (v mp : α) (t : ℕ) (cgs : List (NAdamCfg α × α)), (∀ cg ∈ cgs, IsPhaseAuxGrad cg.2) →
        ∀ x ∈ nadamRule.trace ⟨0, 0, v, mp, t⟩ cgs, x = 0) :=
  ⟨fun cgs hg => (C20_phase_aux_bias_zero_any_rule _ _ zeroFixed_sgd _ ⟨rfl, Or.inl rfl⟩ cgs hg).2.1,
   fun _ _ _ cgs hg => (C20_phase_aux_bias_zero_any_rule _ _ zeroFixed_adam _ ⟨rfl, rfl⟩ cgs hg).2.1,
   fun _ _ cgs hg => (C20_phase_aux_bias_zero_any_rule _ _ zeroFixed_adadelta _ rfl cgs hg).2.1,
   fun _ _ cgs hg => (C20_phase_aux_bias_zero_any_rule _ _ zeroFixed_adagrad _ rfl cgs hg).2.1,
   fun _ _ cgs hg => (C20_phase_aux_bias_zero_any_rule _ _ zeroFixed_rmsprop _ ⟨rfl, rfl⟩ cgs hg).2.1,
   fun _ _ cgs hg => (C20_phase_aux_bias_zero_any_rule _ _ zeroFixed_adamax _ ⟨rfl, rfl⟩ cgs hg).2.1,
   fun _ _ _ cgs hg => (C20_phase_aux_bias_zero_any_rule _ _ zeroFixed_nadam _ ⟨rfl, rfl⟩ cgs hg).2.1⟩

/-- the hypothesis `ZeroFixed` is not automatic: plain gradient descent with a constant drift term — a rule that moves a
zero coordinate under a zero gradient — has no zero-fixed invariant containing its zero state (so the generic theorem
cannot be instantiated for it, as it should). -/
theorem C20_zeroFixed_not_automatic (drift : α) (hd : drift ≠ 0) :
    ¬ ∃ Inv : α → Prop, Inv 0 ∧ ZeroFixed (⟨fun (_ : Unit) p g => p + (-g) + drift, fun p => p⟩ : Rule α Unit α) Inv := by
  rintro ⟨Inv, h0, h⟩
  have h1 := h.step_zero () 0 h0
  have h2 := h.param_zero _ h1
  simp at h2
  exact hd h2

end numeric

/-- a non-trivial gradient history for `C20_phase_aux_bias_zero` over ℝ: one all-`Z` batch and one rotated batch -/
example : ∀ g ∈ [batchGradAux [(0 : ℝ)] 2,
      batchGradAux [rotatedAux 1 1 (fun _ _ _ => ((3 : ℝ), 4)) (fun _ => 5) (fun _ _ _ => phGradsAux ((0.3 : ℝ), 0.7)), 0] 2],
    IsPhaseAuxGrad g := by
  intro g hg
  simp only [List.mem_cons, List.not_mem_nil, or_false] at hg
  rcases hg with rfl | rfl
  · exact ⟨[0], 2, by intro c hc; simp at hc; subst hc; exact .zBasis, rfl⟩
  · refine ⟨_, 2, ?_, rfl⟩
    intro c hc
    simp only [List.mem_cons, List.not_mem_nil, or_false] at hc
    rcases hc with rfl | rfl
    · exact .rotated 1 1 _ _ (fun _ _ _ => ((0.3 : ℝ), 0.7))
    · exact .zBasis

/-- the zero start of `C20_phase_aux_bias_zero*` is needed: under weight decay a NON-zero coordinate moves although all its gradients are zero
(one SGD step, `lr = 1`, `weight_decay = 1`: `2 ↦ 0`). -/
example : (sgdStep (α := ℝ) ⟨1, 0, 0, 1, false, false, true⟩ ⟨2, none⟩ 0).p = 0 := by
  norm_num [sgdStep]

/-! ### C20.6' — scope of the clause: a module-built phase network may carry a non-zero auxiliary bias -/

section scope
variable {α : Type} [Add α] [Mul α] [Neg α] [Sub α] [Div α] [Zero α] [One α] [Transc α]

/-- **C20_phase_aux_bias_unused.** `DensityMatrix(module=m)` copies `m` — INCLUDING a non-zero `aux_bias` — into the phase
network (`C20_module`: the copy's contents are the module's), so for such a state "stays zero" has nothing to say
(`C20_phase_aux_bias_zero*` assume a zero start). What makes the clause harmless there: the phase network's auxiliary
bias enters neither `pi` nor `rho` — replacing it by ANY other vector leaves both unchanged (the model of `pi` reads
`U_μ` only, `gamma` reads `W, b, c` only, as the code does). -/
theorem C20_phase_aux_bias_unused {n h a : ℕ} (am ph : PRBM α n h a) (d' : Fin a → α) (v vp : Fin n → α) :
    Density.rho am { ph with d := d' } v vp = Density.rho am ph v vp ∧
    Density.pi am { ph with d := d' } v vp = Density.pi am ph v vp ∧
    (∀ s, PRBM.gamma { ph with d := d' } s v vp = PRBM.gamma ph s v vp) :=
  ⟨rfl, rfl, fun _ => rfl⟩

end scope

/-! ### The initialisation LAW (values of the weights as a function of the draws)

`QV.Model.InitLaw.initParams` models `initialize_parameters` entry by entry; the theorems below relate it to
the declarative specification "`W[i][j] = z[pos + i·n + j] / √n`, `U[i][j] = z[pos + H·n + i·n + j] / √n`,
all biases 0", to the draw counts of `QV.Model.Frame` (C14) and to the documented size defaults. -/

def IsMat (M : List (List ℝ)) (r c : ℕ) : Prop := M.length = r ∧ ∀ row ∈ M, row.length = c

def entry (M : List (List ℝ)) (i j : ℕ) : ℝ := (M.getD i []).getD j 0

/-- documented default of `num_aux` (`PurificationRBM` only; a `BinaryRBM` has none: 0): `None → num_visible`,
anything else (incl. 0) kept -/
def auxDefault (k : NetKind) (n : ℕ) (na : Option ℕ) : ℕ :=
  match k, na with
  | .binary, _ => 0
  | .purif, none => n
  | .purif, some x => x

theorem isMat_tab2 (r c : ℕ) (f : ℕ → ℕ → ℝ) : IsMat (InitLaw.tab2 r c f) r c :=
  ⟨InitLaw.tab2_length _ _ _, InitLaw.tab2_row_length _ _ _⟩

/-- `torch.zeros(r, c)` and `torch.randn(r, c)` have the same shape -/
theorem isMat_genMatrix {zw : Bool} {z : ℕ → ℝ} {pos r c nv : ℕ} : IsMat (InitLaw.genMatrix zw z pos r c nv).1 r c := by
  unfold InitLaw.genMatrix
  split <;> exact isMat_tab2 _ _ _

/-- **C20_init_values.** `initialize_parameters()` (random branch) of a module with sizes `n, H, A`, for EVERY
stream of standard-normal draws `z` and stream position `pos`: the weight matrix is `H × n` with
`W[i][j] = z[pos + i·n + j] / √n` (row-major, the first `H·n` draws), for a `PurificationRBM` the second matrix is
`A × n` with `U[i][j] = z[pos + H·n + i·n + j] / √n` (the NEXT `A·n` draws: W before U), every bias is exactly 0
(length `n`, `H`, `A`), a `BinaryRBM` has no `U` / aux bias, and the stream advances by exactly `H·n` (`H·n + A·n`). -/
theorem C20_init_values (k : NetKind) (n H A : ℕ) (z : ℕ → ℝ) (pos : ℕ) :
    IsMat (InitLaw.initParams k n H A false z pos).1.W H n ∧
    (∀ i < H, ∀ j < n, entry (InitLaw.initParams k n H A false z pos).1.W i j = z (pos + (i * n + j)) / Real.sqrt n) ∧
    (InitLaw.initParams k n H A false z pos).1.b = List.replicate n 0 ∧
    (InitLaw.initParams k n H A false z pos).1.c = List.replicate H 0 ∧
    (k = .binary → (InitLaw.initParams k n H A false z pos).1.U = none ∧
        (InitLaw.initParams k n H A false z pos).1.d = none ∧
        (InitLaw.initParams k n H A false z pos).2 = pos + H * n) ∧
    (k = .purif → ∃ U, (InitLaw.initParams k n H A false z pos).1.U = some U ∧ IsMat U A n ∧
        (∀ i < A, ∀ j < n, entry U i j = z (pos + H * n + (i * n + j)) / Real.sqrt n) ∧
        (InitLaw.initParams k n H A false z pos).1.d = some (List.replicate A 0) ∧
        (InitLaw.initParams k n H A false z pos).2 = pos + H * n + A * n) := by
  have hW : ∀ i < H, ∀ j < n, entry (InitLaw.tab2 H n (fun i j => z (pos + (i * n + j)) / InitLaw.scale n)) i j
      = z (pos + (i * n + j)) / Real.sqrt n := by
    intro i hi j hj
    exact InitLaw.tab2_entry (0 : ℝ) H n _ hi hj
  cases k
  · refine ⟨isMat_tab2 _ _ _, hW, rfl, rfl, fun _ => ⟨rfl, rfl, rfl⟩, (fun h => by cases h)⟩
  · refine ⟨isMat_tab2 _ _ _, hW, rfl, rfl, (fun h => by cases h), fun _ => ?_⟩
    refine ⟨_, rfl, isMat_tab2 _ _ _, ?_, rfl, rfl⟩
    intro i hi j hj
    exact InitLaw.tab2_entry (0 : ℝ) A n _ hi hj

/-- **C20_init_draw_count.** The number of draws `initialize_parameters` consumes in the value model is the
number of `torch.randn` elements C14's call model (`QV.Frame.netInitCalls`) lists for one network of that
architecture: `H·n` for the wavefunction kinds (BinaryRBM), `H·n + A·n` for the density matrix (PurificationRBM). -/
theorem C20_init_draw_count (k : NetKind) (Ar : Frame.Arch) (hk : Ar.kind = .dens ↔ k = .purif)
    (z : ℕ → ℝ) (pos : ℕ) :
    (InitLaw.initParams k Ar.n Ar.h Ar.a false z pos).2 = pos + Frame.callsTotal (Frame.netInitCalls Ar) := by
  obtain ⟨kind, n, h, a⟩ := Ar
  -- the two architectures that `hk` admits per kind compute; the others contradict `hk`
  cases k <;> cases kind
  · rfl
  · rfl
  · exact NetKind.noConfusion (hk.1 rfl)
  · exact Frame.Kind.noConfusion (hk.2 rfl)
  · exact Frame.Kind.noConfusion (hk.2 rfl)
  · exact Nat.add_assoc _ _ _

/-- **C20_init_zero_weights.** `initialize_parameters(zero_weights=True)`: NO draw is consumed (the stream position
is returned unchanged), the result does not depend on the stream at all, the shapes are the same as in the random
branch, and every entry of every weight matrix and every bias is exactly 0. -/
theorem C20_init_zero_weights (k : NetKind) (n H A : ℕ) (z z' : ℕ → ℝ) (pos pos' : ℕ) :
    (InitLaw.initParams k n H A true z pos).2 = pos ∧
    (InitLaw.initParams k n H A true z pos).1 = (InitLaw.initParams k n H A true z' pos').1 ∧
    IsMat (InitLaw.initParams k n H A true z pos).1.W H n ∧
    (∀ row ∈ (InitLaw.initParams k n H A true z pos).1.W, ∀ x ∈ row, x = 0) ∧
    (∀ U, (InitLaw.initParams k n H A true z pos).1.U = some U → k = .purif ∧ IsMat U A n ∧ ∀ row ∈ U, ∀ x ∈ row, x = 0) ∧
    (k = .purif → (InitLaw.initParams k n H A true z pos).1.U ≠ none) ∧
    (InitLaw.initParams k n H A true z pos).1.b = List.replicate n 0 ∧
    (InitLaw.initParams k n H A true z pos).1.c = List.replicate H 0 ∧
    (∀ d, (InitLaw.initParams k n H A true z pos).1.d = some d → d = List.replicate A 0) := by
  have h0 : ∀ r c, ∀ row ∈ InitLaw.tab2 r c (fun _ _ => (0 : ℝ) / InitLaw.scale n), ∀ x ∈ row, x = 0 := by
    intro r c row hrow x hx
    rw [InitLaw.tab2_mem_const r c _ row hrow x hx, zero_div]
  cases k
  · refine ⟨rfl, rfl, isMat_tab2 _ _ _, h0 _ _, ?_, (fun h => by cases h), rfl, rfl, ?_⟩
    · intro U hU; cases hU
    · intro d hd; cases hd
  · refine ⟨rfl, rfl, isMat_tab2 _ _ _, h0 _ _, ?_, (fun _ h => by cases h), rfl, rfl, ?_⟩
    · intro U hU
      cases hU
      exact ⟨rfl, isMat_tab2 _ _ _, h0 _ _⟩
    · intro d hd; cases hd; rfl

/-- **C20_default_sizes.** The constructors `BinaryRBM(n, num_hidden)` / `PurificationRBM(n, num_hidden, num_aux)` produce
exactly what `initialize_parameters` produces for the DOCUMENTED sizes: `num_hidden` omitted → `n` (BinaryRBM: also 0 → `n`),
`num_aux` omitted → `n` (NOT `num_hidden`); in particular the weight matrices have shapes `hiddenDefault × n` and
`auxDefault × n` and the biases lengths `n`, `hiddenDefault`, `auxDefault`, with or without `zero_weights`. -/
theorem C20_default_sizes (k : NetKind) (n : ℕ) (nh na : Option ℕ) (zw : Bool) (z : ℕ → ℝ) (pos : ℕ) :
    InitLaw.construct k n nh na zw z pos
      = InitLaw.initParams k n (hiddenDefault k n nh) (auxDefault k n na) zw z pos ∧
    IsMat (InitLaw.construct k n nh na zw z pos).1.W (hiddenDefault k n nh) n ∧
    (InitLaw.construct k n nh na zw z pos).1.b.length = n ∧
    (InitLaw.construct k n nh na zw z pos).1.c.length = hiddenDefault k n nh ∧
    (k = .purif → ∃ U d, (InitLaw.construct k n nh na zw z pos).1.U = some U ∧ IsMat U (auxDefault k n na) n ∧
        (InitLaw.construct k n nh na zw z pos).1.d = some d ∧ d.length = auxDefault k n na) := by
  have hA : defaultA k n na = (auxDefault k n na) := by
    cases k <;> cases na <;> rfl
  have e : InitLaw.construct k n nh na zw z pos
      = InitLaw.initParams k n (hiddenDefault k n nh) (auxDefault k n na) zw z pos := by
    simp only [InitLaw.construct, InitLaw.ctorSizes, hiddenDefault_eq, hA]
  rw [e]
  refine ⟨rfl, ?_⟩
  cases k
  · exact ⟨isMat_genMatrix, List.length_replicate, List.length_replicate, fun h => nomatch h⟩
  · exact ⟨isMat_genMatrix, List.length_replicate, List.length_replicate,
      fun _ => ⟨_, _, rfl, isMat_genMatrix, rfl, List.length_replicate⟩⟩

/-- a non-trivial instance of `C20_init_values` / `C20_default_sizes`: `PurificationRBM(4)` (both sizes omitted) from the
stream `z_t = t` at position 5: `num_aux = 4`, and `U[1][2] = z[5 + 16 + 6] / √4`. -/
example : ∃ U, (InitLaw.construct .purif 4 none none false (fun t => (t : ℝ)) 5).1.U = some U ∧ IsMat U 4 4 ∧
    entry U 1 2 = (27 : ℝ) / Real.sqrt 4 ∧
    (InitLaw.construct .purif 4 none none false (fun t => (t : ℝ)) 5).2 = 37 := by
  obtain ⟨_, _, _, _, _, hp⟩ := C20_init_values .purif 4 4 4 (fun t => (t : ℝ)) 5
  obtain ⟨U, hU, hM, hE, _, hc⟩ := hp rfl
  refine ⟨U, hU, hM, ?_, hc⟩
  have := hE 1 (by norm_num) 2 (by norm_num)
  rw [this]; norm_num

end C20
end QV.Props
