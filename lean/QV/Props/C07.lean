/-
C07 — Every epoch uses every training sample once, paired with its own basis.

"In each training epoch every row of the training data appears in exactly one positive-phase batch,
together with exactly its own row of measurement bases; batches have the requested size except possibly
the last, and there are ceil(N / batch size) of them. Negative-phase chains are started from
neg_batch_size rows of the training data (only rows measured entirely in the reference basis when bases
are supplied), and training never modifies the caller's data or bases."

All theorems: ∀ N ≥ 1, ∀ batch sizes ≥ 1, ∀ `perm` that `torch.randperm(N)` can return (any permutation of
`0 … N-1`), ∀ `negIdx` that `torch.randint` can return, ∀ row contents (duplicates allowed), with and
without bases. Model: `QV.Batching.shuffleData` / `epochBatches` / `extractRefbasis` / `epochOnHeap`
(QV/Model/Batching.lean), executed against `NeuralStateBase._shuffle_data` / `fit` by the C07 correspondence
check with the recorded `randperm` / `randint` results (these results are inputs of the model: which permutation
`torch.randperm` returns is not modelled). Positional call forms of `fit`: `QV.Model.CallForm` (`C07_positional_call`); the
conversion of the caller's data object into `train_samples`: `QV.Model.ArgConv` (`C07_train_samples_value`).
-/
import QV.Model.Batching
import QV.Lemmas.Batching
import QV.Model.CallForm
import QV.Lemmas.CallForm
import QV.Lemmas.ArgConv

namespace QV.Props
namespace C07
open QV QV.Batching

/-! ## Specification vocabulary -/

/-- what `torch.randint(high, size=(size,))` can return -/
def IsRandint (high size : Nat) (idx : List Nat) : Prop := idx.length = size ∧ ∀ i ∈ idx, i < high

/-- Inputs on which `_shuffle_data` is called by `fit` without raising: `N ≥ 1` rows, batch sizes `≥ 1`,
`perm` a permutation of `0 … N-1`, `numBatches = ⌈N / pos_batch_size⌉`; if bases are given there is one basis
row per sample and at least one reference-basis sample, and `negIdx` is a `randint` result over them of size
`numBatches * neg_batch_size`; without bases and with different batch sizes `negIdx` is such a result over all
`N` rows (with equal batch sizes `randint` is not called and `negIdx` is irrelevant). -/
structure Valid {ρ : Type} (samples : List ρ) (bases : Option (List (List String))) (z : List ρ)
    (perm negIdx : List Nat) (posB negB nb : Nat) : Prop where
  hN : 1 ≤ samples.length
  hB : 1 ≤ posB
  hnB : 1 ≤ negB
  hperm : perm.Perm (List.range samples.length)
  hnb : nb = ceilDiv samples.length posB
  hbases : ∀ bs, bases = some bs → bs.length = samples.length ∧ 1 ≤ z.length ∧ IsRandint z.length (nb * negB) negIdx
  hnobases : bases = none → negB ≠ posB → IsRandint samples.length (nb * negB) negIdx

/-! ## The closed form of a valid call -/

/-- the shape of a successful `_shuffle_data` call -/
theorem shuffle_shape {ρ : Type} {samples : List ρ} {bases : Option (List (List String))} {z : List ρ}
    {perm negIdx : List Nat} {posB negB nb : Nat} (v : Valid samples bases z perm negIdx posB negB nb) :
    ∃ out sp sn, shuffleData perm negIdx posB negB nb samples bases z = .ok out ∧ Rows samples perm sp ∧
      out.batches.map (·.pos) = slices posB sp ∧ out.batches.map (·.neg) = slices negB sn ∧
      (∀ bs, bases = some bs → Rows z negIdx sn ∧ out.randint = some (z.length, nb * negB) ∧
          ∃ sb, Rows bs perm sb ∧ out.batches.map (·.bases) = (slices posB sb).map some) ∧
      (bases = none → (∀ b ∈ out.batches, b.bases = none) ∧
          ((negB = posB ∧ sn = sp ∧ out.randint = none) ∨
           (negB ≠ posB ∧ Rows samples negIdx sn ∧ out.randint = some (samples.length, nb * negB)))) := by
  have hpl := perm_mem_lt v.hperm
  have hplen := perm_length v.hperm
  -- `num_batches · neg_batch_size` negative rows make as many slices as the `N` positive rows: `zip` drops nothing
  have hlen : ∀ {sp xs sn : List ρ}, Rows samples perm sp → Rows xs negIdx sn → negIdx.length = nb * negB →
      (slices posB sp).length = (slices negB sn).length := fun hsp hsn hl => by
    rw [slices_length, slices_length, hsp.length, hsn.length, hplen, hl, ceilDiv_mul nb negB v.hnB, v.hnb]
  cases hb : bases with
  | none =>
    by_cases heq : negB = posB
    · subst heq
      obtain ⟨sp, hsp, hs⟩ := shuffleData_mirror perm negIdx negB nb samples z v.hB hpl
      obtain ⟨p1, p2, p3⟩ := zip2_proj (slices negB sp) _ rfl
      exact ⟨_, sp, sp, hs, hsp, p1, p2, fun bs h => (nomatch h), fun _ => ⟨p3, Or.inl ⟨rfl, rfl, rfl⟩⟩⟩
    · obtain ⟨hl, hlt⟩ := v.hnobases hb heq
      obtain ⟨sp, sn, hsp, hsn, hs⟩ := shuffleData_randint perm negIdx posB negB nb samples z heq v.hB v.hnB v.hN hpl hlt
      obtain ⟨p1, p2, p3⟩ := zip2_proj _ _ (hlen hsp hsn hl)
      exact ⟨_, sp, sn, hs, hsp, p1, p2, fun bs h => (nomatch h), fun _ => ⟨p3, Or.inr ⟨heq, hsn, rfl⟩⟩⟩
  | some bs =>
    obtain ⟨hbl, hz, hl, hlt⟩ := v.hbases bs hb
    obtain ⟨sp, sn, sb, hsp, hsn, hsb, hs⟩ := shuffleData_bases perm negIdx posB negB nb samples z bs v.hB v.hnB hz hpl
      hplen (fun i hi => by rw [hbl]; exact hpl i hi) hlt
    have hlen' : (slices posB sp).length = (slices posB sb).length := by
      rw [slices_length, slices_length, hsp.length, hsb.length]
    obtain ⟨p1, p2, p3⟩ := zip3_proj _ _ _ (hlen hsp hsn hl) hlen'
    exact ⟨_, sp, sn, hs, hsp, p1, p2, fun bs' h => by cases h; exact ⟨hsn, rfl, sb, hsb, p3⟩, fun h => (nomatch h)⟩

theorem flatMap_eq_flatten_map {α β : Type} (l : List α) (f : α → List β) : l.flatMap f = (l.map f).flatten :=
  List.flatMap_def

/-! ## Property theorems -/

section
variable {ρ : Type} {samples : List ρ} {bases : Option (List (List String))} {z : List ρ}
  {perm negIdx : List Nat} {posB negB nb : Nat}

/-- **C07.1** One epoch's positive batches partition the data: their concatenation is the `perm`-reindexed data,
hence a permutation of the rows as a multiset (duplicate rows are counted); in terms of row indices, the batches
are the consecutive slices `idxB` of `perm`, whose concatenation is `perm`, a permutation of `0 … N-1` — every row
index occurs in exactly one batch, exactly once. -/
theorem C07_partition (v : Valid samples bases z perm negIdx posB negB nb) :
    ∃ out, shuffleData perm negIdx posB negB nb samples bases z = .ok out ∧
      Rows samples perm (out.batches.map (·.pos)).flatten ∧
      ((out.batches.map (·.pos)).flatten).Perm samples ∧
      ∃ idxB : List (List Nat), idxB.flatten = perm ∧ idxB.flatten.Perm (List.range samples.length) ∧
        idxB.length = out.batches.length ∧
        ∀ (j : Nat) (idx : List Nat) (b : Batch ρ), idxB[j]? = some idx → out.batches[j]? = some b → Rows samples idx b.pos := by
  obtain ⟨out, sp, sn, hs, hsp, hpos, -⟩ := shuffle_shape v
  have hflat : (out.batches.map (·.pos)).flatten = sp := by rw [hpos, slices_flatten posB sp v.hB]
  have hidx := slices_flatten posB perm v.hB
  refine ⟨out, hs, hflat ▸ hsp, hflat ▸ hsp.perm v.hperm, slices posB perm, hidx, hidx.symm ▸ v.hperm, ?_,
    fun j idx b hi hb => hsp.getElem?_slices hi (getElem?_of_map_eq hpos hb)⟩
  rw [slices_length, perm_length v.hperm, batches_length hsp v.hperm hpos]

/-- **C07.2** With bases, row `i` of positive batch `j` and row `i` of the bases batch `j` are
`(samples[p], bases[p])` for one and the same index `p = idxB[j][i]` (the slices of the single permutation). -/
theorem C07_own_basis (bs : List (List String)) (hb : bases = some bs)
    (v : Valid samples bases z perm negIdx posB negB nb) :
    ∃ out, shuffleData perm negIdx posB negB nb samples bases z = .ok out ∧
      ∃ idxB : List (List Nat), idxB.flatten = perm ∧ idxB.length = out.batches.length ∧
        ∀ (j : Nat) (idx : List Nat) (b : Batch ρ), idxB[j]? = some idx → out.batches[j]? = some b →
          ∃ bb, b.bases = some bb ∧ Rows samples idx b.pos ∧ Rows bs idx bb ∧
            ∀ (i p : Nat), idx[i]? = some p →
              ∃ (r : ρ) (β : List String), b.pos[i]? = some r ∧ samples[p]? = some r ∧ bb[i]? = some β ∧ bs[p]? = some β := by
  obtain ⟨out, sp, sn, hs, hsp, hpos, -, hbase, -⟩ := shuffle_shape v
  obtain ⟨-, -, sb, hsb, hbb⟩ := hbase bs hb
  refine ⟨out, hs, slices posB perm, slices_flatten posB perm v.hB, ?_, fun j idx b hi hbj => ?_⟩
  · rw [slices_length, perm_length v.hperm, batches_length hsp v.hperm hpos]
  · have h2 := getElem?_of_map_eq hbb hbj
    rw [List.getElem?_map] at h2
    obtain ⟨bb, hq, hbb'⟩ := Option.map_eq_some_iff.1 h2
    have r1 := hsp.getElem?_slices hi (getElem?_of_map_eq hpos hbj)
    have r2 := hsb.getElem?_slices hi hq
    refine ⟨bb, hbb'.symm, r1, r2, fun i p hp => ?_⟩
    obtain ⟨r, g1, g2⟩ := rows_get r1 i p hp
    obtain ⟨β, g3, g4⟩ := rows_get r2 i p hp
    exact ⟨r, β, g1, g2, g3, g4⟩

/-- **C07.3** There are `⌈N / pos_batch_size⌉` batches; batch `j` has `min(B, N - jB)` rows, i.e. all have `B` rows
except the last, which has `N - (⌈N/B⌉ - 1)·B ∈ [1, B]`; a bases batch has as many rows as its positive batch.
(`zip` drops nothing here — see `C07_zip_truncation` for when it could.) -/
theorem C07_sizes (v : Valid samples bases z perm negIdx posB negB nb) :
    ∃ out, shuffleData perm negIdx posB negB nb samples bases z = .ok out ∧
      out.batches.length = ceilDiv samples.length posB ∧
      ∀ (j : Nat) (b : Batch ρ), out.batches[j]? = some b →
        b.pos.length = min posB (samples.length - j * posB) ∧ 1 ≤ b.pos.length ∧ b.pos.length ≤ posB ∧
        (j + 1 < ceilDiv samples.length posB → b.pos.length = posB) ∧
        (j + 1 = ceilDiv samples.length posB →
          b.pos.length = samples.length - (ceilDiv samples.length posB - 1) * posB) ∧
        ∀ bb, b.bases = some bb → bb.length = b.pos.length := by
  obtain ⟨out, sp, sn, hs, hsp, hpos, -, hbase, hnob⟩ := shuffle_shape v
  refine ⟨out, hs, batches_length hsp v.hperm hpos, fun j b hbj => ?_⟩
  obtain ⟨hj, hl, -⟩ := slice_length posB sp j b.pos (getElem?_of_map_eq hpos hbj)
  rw [hsp.length, perm_length v.hperm] at hj hl
  obtain ⟨a1, a2, a3, a4⟩ := batch_size_arith samples.length posB j v.hB v.hN hj
  rw [← hl] at a1 a2 a3 a4
  refine ⟨hl, a1, a2, a3, a4, fun bb hbb => ?_⟩
  cases hb : bases with
  | none => rw [(hnob hb).1 b (List.mem_of_getElem? hbj)] at hbb; cases hbb
  | some bs =>
    obtain ⟨-, -, sb, hsb, hbbs⟩ := hbase bs hb
    have h2 := getElem?_of_map_eq hbbs hbj
    rw [List.getElem?_map, hbb] at h2
    obtain ⟨bb', hq, e⟩ := Option.map_eq_some_iff.1 h2
    cases e
    obtain ⟨-, hlb, -⟩ := slice_length posB sb j bb hq
    rw [hlb, hl, hsb.length, perm_length v.hperm]

/-- **C07.3b** When could `zip` truncate? For an arbitrary `num_batches` argument the number of zipped batches is
`min(⌈N/B⌉, num_batches)` in the two `randint` modes (the negative list has exactly `num_batches` slices) and `⌈N/B⌉`
in the mirrored mode: tail batches would be dropped iff `num_batches < ⌈N/B⌉`. `fit` passes `⌈N/B⌉` (`C07_fit_batches`),
so nothing is dropped. -/
theorem C07_zip_truncation (hN : 1 ≤ samples.length) (hB : 1 ≤ posB) (hnB : 1 ≤ negB)
    (hperm : perm.Perm (List.range samples.length))
    (hbases : ∀ bs, bases = some bs → bs.length = samples.length ∧ 1 ≤ z.length ∧ IsRandint z.length (nb * negB) negIdx)
    (hnobases : bases = none → negB ≠ posB → IsRandint samples.length (nb * negB) negIdx) :
    ∃ out, shuffleData perm negIdx posB negB nb samples bases z = .ok out ∧
      out.batches.length =
        if bases = none ∧ negB = posB then ceilDiv samples.length posB else min (ceilDiv samples.length posB) nb := by
  have hpl := perm_mem_lt hperm
  have hplen := perm_length hperm
  cases hb : bases with
  | none =>
    by_cases heq : negB = posB
    · subst heq
      obtain ⟨sp, hsp, hs⟩ := shuffleData_mirror perm negIdx negB nb samples z hB hpl
      refine ⟨_, hs, ?_⟩
      simp only [zip2_length, slices_length, hsp.length, hplen, and_self, if_true, Nat.min_self]
    · obtain ⟨hl, hlt⟩ := hnobases hb heq
      obtain ⟨sp, sn, hsp, hsn, hs⟩ := shuffleData_randint perm negIdx posB negB nb samples z heq hB hnB hN hpl hlt
      refine ⟨_, hs, ?_⟩
      simp only [zip2_length, slices_length, hsp.length, hsn.length, hplen, hl, ceilDiv_mul nb negB hnB, heq,
        and_false, if_false]
  | some bs =>
    obtain ⟨hbl, hz, hl, hlt⟩ := hbases bs hb
    obtain ⟨sp, sn, sb, hsp, hsn, hsb, hs⟩ := shuffleData_bases perm negIdx posB negB nb samples z bs hB hnB hz hpl
      hplen (fun i hi => by rw [hbl]; exact hpl i hi) hlt
    refine ⟨_, hs, ?_⟩
    simp only [zip3_length, slices_length, hsp.length, hsn.length, hsb.length, hplen, hl, ceilDiv_mul nb negB hnB,
      reduceCtorEq, false_and, if_false]
    exact Nat.min_eq_left (Nat.min_le_left _ _)

/-- **C07.4a** Every negative-phase row is a training row — with bases, a row of the reference-basis sample list `z`
(see `C07_refbasis`); negative batches mirror the positive ones when no bases are given and the sizes coincide, and
otherwise have exactly `neg_batch_size` rows each. -/
theorem C07_negative (v : Valid samples bases z perm negIdx posB negB nb) :
    ∃ out, shuffleData perm negIdx posB negB nb samples bases z = .ok out ∧
      (∀ b ∈ out.batches, ∀ r ∈ b.neg, (bases = none → r ∈ samples) ∧ (∀ bs, bases = some bs → r ∈ z)) ∧
      (bases = none → negB = posB → ∀ b ∈ out.batches, b.neg = b.pos) ∧
      ((bases ≠ none ∨ negB ≠ posB) → ∀ b ∈ out.batches, b.neg.length = negB) := by
  obtain ⟨out, sp, sn, hs, hsp, hpos, hneg, hbase, hnob⟩ := shuffle_shape v
  refine ⟨out, hs, fun b hb r hr => ?_, fun hnone heq b hb => ?_, fun hmode b hb => ?_⟩
  · obtain ⟨j, hj⟩ := List.mem_iff_getElem?.mp hb
    obtain ⟨-, -, hmem⟩ := slice_length negB sn j b.neg (getElem?_of_map_eq hneg hj)
    have hrsn : r ∈ sn := hmem r hr
    refine ⟨fun hnone => ?_, fun bs hbs => (hbase bs hbs).1.mem r hrsn⟩
    rcases (hnob hnone).2 with ⟨-, rfl, -⟩ | ⟨-, hrows, -⟩
    · exact hsp.mem r hrsn
    · exact hrows.mem r hrsn
  · rcases (hnob hnone).2 with ⟨-, rfl, -⟩ | ⟨hne, -, -⟩
    · exact List.map_inj_left.mp (by rw [hneg, hpos, heq]) b hb
    · exact absurd heq hne
  · obtain ⟨j, hj⟩ := List.mem_iff_getElem?.mp hb
    obtain ⟨hjlt, hl, -⟩ := slice_length negB sn j b.neg (getElem?_of_map_eq hneg hj)
    have hsnl : sn.length = nb * negB := by
      cases hb' : bases with
      | none =>
        rcases (hnob hb').2 with ⟨heq, -, -⟩ | ⟨hne, hrows, -⟩
        · exact absurd heq (hmode.resolve_left (not_not.2 hb'))
        · rw [hrows.length]; exact (v.hnobases hb' hne).1
      | some bs => rw [(hbase bs hb').1.length]; exact (v.hbases bs hb').2.2.1
    rw [hsnl, ceilDiv_mul nb negB v.hnB] at hjlt
    rw [hl, hsnl]
    have h3 : (j + 1) * negB ≤ nb * negB := Nat.mul_le_mul_right negB hjlt
    rw [Nat.succ_mul, Nat.add_comm] at h3
    exact Nat.min_eq_left (Nat.le_sub_of_add_le h3)

end

/-- **C07.4b** `extract_refbasis_samples` returns exactly the rows whose basis row consists of `"Z"` only, in their
original order (a sub-list of the data; duplicates kept); a bases array of the wrong length is an `IndexError`. -/
theorem C07_refbasis {ρ : Type} (samples : List ρ) (bs : List (List String)) :
    (bs.length = samples.length → ∃ z, extractRefbasis samples bs = .ok z ∧ z.Sublist samples ∧
      z = ((samples.zip bs).filter (fun p => allZ p.2)).map Prod.fst ∧
      ∀ r, r ∈ z ↔ ∃ (k : Nat) (row : List String), samples[k]? = some r ∧ bs[k]? = some row ∧ ∀ s ∈ row, s = "Z") ∧
    (bs.length ≠ samples.length → extractRefbasis samples bs = .error .IndexError) := by
  constructor
  · intro hl
    refine ⟨_, by simp [extractRefbasis, hl], ?_, filterMap_allZ _, ?_⟩
    · rw [filterMap_allZ]
      have h1 : List.Sublist (((samples.zip bs).filter (fun p => allZ p.2)).map Prod.fst)
          ((samples.zip bs).map Prod.fst) := List.Sublist.map _ List.filter_sublist
      rwa [List.map_fst_zip (by omega)] at h1
    · intro r
      rw [filterMap_allZ]
      simp only [List.mem_map, List.mem_filter, Prod.exists, exists_and_right, exists_eq_right]
      constructor
      · rintro ⟨row, hmem, hz⟩
        obtain ⟨k, hk⟩ := List.mem_iff_getElem?.mp hmem
        rw [List.getElem?_zip_eq_some] at hk
        refine ⟨k, row, hk.1, hk.2, ?_⟩
        intro s hs
        have := List.all_eq_true.mp hz s hs
        simpa using this
      · rintro ⟨k, row, h1, h2, h3⟩
        refine ⟨row, List.mem_iff_getElem?.mpr ⟨k, List.getElem?_zip_eq_some.mpr ⟨h1, h2⟩⟩, ?_⟩
        exact List.all_eq_true.mpr (fun s hs => by simpa using h3 s hs)
  · intro hl
    simp [extractRefbasis, hl]

/-- `z = extract_refbasis_samples(data, bases)`: a sub-list of the data, non-empty as soon as one basis row is all `Z`, holding exactly
the rows whose basis row is all `Z` -/
theorem refbasis_facts {ρ : Type} {data z : List ρ} {bs : List (List String)} (hl : bs.length = data.length)
    (hrow : ∃ row ∈ bs, ∀ s ∈ row, s = "Z") (hz : extractRefbasis data bs = .ok z) :
    z.Sublist data ∧ 1 ≤ z.length ∧
      ∀ r, r ∈ z ↔ ∃ (k : Nat) (row : List String), data[k]? = some r ∧ bs[k]? = some row ∧ ∀ s ∈ row, s = "Z" := by
  obtain ⟨row, hrow, hallz⟩ := hrow
  obtain ⟨z', hz', hsub, -, hmem⟩ := (C07_refbasis data bs).1 hl
  cases Except.ok.inj (hz.symm.trans hz')
  refine ⟨hsub, ?_, hmem⟩
  obtain ⟨k, hk⟩ := List.mem_iff_getElem?.mp hrow
  have hklt : k < data.length := hl ▸ (List.getElem?_eq_some_iff.mp hk).1
  exact List.length_pos_of_mem ((hmem data[k]).2 ⟨k, row, List.getElem?_eq_getElem hklt, hk, hallz⟩)

/-- **C07.5a** What `fit` passes to `_shuffle_data`: its own copy of the data (equal contents), the caller's bases,
`neg_batch_size` defaulted to `pos_batch_size` when `None` (or 0), `num_batches = ⌈N / pos_batch_size⌉`, and
`z_samples = extract_refbasis_samples(data, bases)` when bases are given. -/
theorem C07_fit_batches {ρ : Type} (data : List ρ) (bases : Option (List (List String))) (posB : Nat)
    (negB : Option Nat) (perm negIdx : List Nat) (hB : 1 ≤ posB)
    (hbl : ∀ bs, bases = some bs → bs.length = data.length) :
    ∃ z, (∀ bs, bases = some bs → extractRefbasis data bs = .ok z) ∧ (bases = none → z = []) ∧
      epochBatches data bases posB negB perm negIdx =
        shuffleData perm negIdx posB (effNegB negB posB) (ceilDiv data.length posB) data bases z ∧
      1 ≤ effNegB negB posB ∧ (negB = none → effNegB negB posB = posB) ∧
      (∀ k, 1 ≤ k → negB = some k → effNegB negB posB = k) := by
  have heff : 1 ≤ effNegB negB posB := by
    cases negB with
    | none => exact hB
    | some k => cases k with
      | zero => exact hB
      | succ k => exact Nat.succ_pos k
  have hnb : numBatches data.length posB = .ok (ceilDiv data.length posB) := by
    rw [numBatches, if_neg (by omega)]; rfl
  have hk : ∀ k, 1 ≤ k → negB = some k → effNegB negB posB = k := by
    intro k hk h; subst h
    cases k with
    | zero => omega
    | succ k => rfl
  cases hb : bases with
  | none =>
    refine ⟨[], fun bs h => (by cases h), fun _ => rfl, ?_, heff, fun h => (by subst h; rfl), hk⟩
    simp [epochBatches, prepare, hnb, bind, Except.bind, pure, Except.pure]
  | some bs =>
    have hl := hbl bs hb
    obtain ⟨z, hz, _⟩ := (C07_refbasis data bs).1 hl
    refine ⟨z, fun bs' h => (by cases h; exact hz), fun h => (by cases h), ?_, heff, fun h => (by subst h; rfl), hk⟩
    simp [epochBatches, prepare, hnb, hz, bind, Except.bind, pure, Except.pure]

/-- **C07.5b** Frame statement: `fit`'s data flow (preamble + one epoch) only *reads* the caller's data and bases
objects and allocates new ones — every object that existed before is unchanged afterwards, and every batch handed to
`compute_batch_gradients` is a view of a freshly allocated object, so it shares no storage with anything the caller
owns (in-place work on a batch cannot reach the caller's data either). -/
theorem C07_no_mutation {ρ : Type} (h : Heap ρ) (dataId : Nat) (basesId : Option Nat) (posB : Nat) (negB : Option Nat)
    (perm negIdx : List Nat) (h' : Heap ρ) (refs : List BatchRef)
    (hok : epochOnHeap h dataId basesId posB negB perm negIdx = .ok (h', refs)) :
    (∀ id, id < h.objs.length → h'.objs[id]? = h.objs[id]?) ∧
    ∀ r ∈ refs, h.objs.length ≤ r.pos.storage ∧ h.objs.length ≤ r.neg.storage ∧
      ∀ v, r.bases = some v → h.objs.length ≤ v.storage := by
  suffices hs : (∃ extra, h'.objs = h.objs ++ extra) ∧
      ∀ r ∈ refs, h.objs.length ≤ r.pos.storage ∧ h.objs.length ≤ r.neg.storage ∧
        ∀ v, r.bases = some v → h.objs.length ≤ v.storage by
    obtain ⟨⟨extra, he⟩, h2⟩ := hs
    exact ⟨fun id hid => by rw [he, List.getElem?_append_left hid], h2⟩
  have hl : ∀ l, h.objs.length ≤ (h.objs ++ l).length := fun l => by
    rw [List.length_append]; exact Nat.le_add_right _ _
  -- a successful run passed every stage: peel the stages off one by one (no case split on the unfolded body)
  unfold epochOnHeap at hok
  simp only [bind, pure, Except.pure, throw, throwThe, MonadExceptOf.throw, Heap.alloc] at hok
  by_cases hp : posB = 0
  · rw [if_pos hp] at hok; cases hok
  rw [if_neg hp] at hok
  obtain ⟨data, -, hok⟩ := bind_ok hok
  cases basesId with
  | none =>
    obtain ⟨sp, -, hok⟩ := bind_ok hok
    obtain ⟨sn, -, hok⟩ := bind_ok (guard_bind_ok hok)
    cases hok
    simp only [List.append_assoc]
    exact ⟨⟨_, rfl⟩, storage_zipRef2 _ _ _ _ _ _ _ (hl _) (hl _)⟩
  | some bid =>
    obtain ⟨bs, -, hok⟩ := bind_ok hok
    obtain ⟨z, -, hok⟩ := bind_ok hok
    obtain ⟨sp, -, hok⟩ := bind_ok hok
    obtain ⟨_, -, hok⟩ := bind_ok hok
    obtain ⟨sn, -, hok⟩ := bind_ok hok
    obtain ⟨sb, -, hok⟩ := bind_ok hok
    cases hok
    simp only [List.append_assoc]
    exact ⟨⟨_, rfl⟩, storage_zipRef3 _ _ _ _ _ _ _ _ _ _ (hl _) (hl _) (hl _)⟩

/-- **C07.5c (fit-level corollary)** One epoch of `fit(data, pos_batch_size, neg_batch_size, input_bases)` with NOTHING to assemble by
hand: for `N ≥ 1` rows, `pos_batch_size ≥ 1`, any `neg_batch_size` (given, `None` or `0`), any permutation `perm` that `randperm(N)` can
return, bases (if given) with one row per sample and at least one all-`Z` row, and any `randint` result `negIdx` of the size and range
`fit` requests (over `z = extract_refbasis_samples(data, bases)` with bases; over the `N` rows without bases when the sizes differ):
`epochBatches` succeeds and
(1) the positive batches concatenate to the `perm`-reindexed data, a permutation of the rows (multiset);
(2) there are `⌈N/B⌉` batches, batch `j` has `min(B, N − jB) ∈ [1, B]` rows, a bases batch as many as its positive batch;
(3) with bases, row `i` of batch `j` and row `i` of its bases batch are `(data[p], bases[p])` for the same `p` (the slices of `perm`);
(4) every negative row is a data row — with bases a row of `z`, i.e. `data[k]` for some `k` whose basis row is all `Z`; negative batches equal
the positive ones (no bases, equal sizes) or have exactly the effective `neg_batch_size` rows. -/
theorem C07_fit_epoch {ρ : Type} (data : List ρ) (bases : Option (List (List String))) (posB : Nat) (negB : Option Nat)
    (perm negIdx : List Nat) (hN : 1 ≤ data.length) (hB : 1 ≤ posB) (hperm : perm.Perm (List.range data.length))
    (hbases : ∀ bs, bases = some bs → bs.length = data.length ∧ (∃ row ∈ bs, ∀ s ∈ row, s = "Z") ∧
      ∀ z, extractRefbasis data bs = .ok z → IsRandint z.length (ceilDiv data.length posB * effNegB negB posB) negIdx)
    (hnobases : bases = none → effNegB negB posB ≠ posB →
      IsRandint data.length (ceilDiv data.length posB * effNegB negB posB) negIdx) :
    ∃ z out, (∀ bs, bases = some bs → extractRefbasis data bs = .ok z) ∧
      epochBatches data bases posB negB perm negIdx = .ok out ∧
      Valid data bases z perm negIdx posB (effNegB negB posB) (ceilDiv data.length posB) ∧
      (Rows data perm (out.batches.map (·.pos)).flatten ∧ ((out.batches.map (·.pos)).flatten).Perm data) ∧
      (out.batches.length = ceilDiv data.length posB ∧
        ∀ (j : Nat) (b : Batch ρ), out.batches[j]? = some b →
          b.pos.length = min posB (data.length - j * posB) ∧ 1 ≤ b.pos.length ∧ b.pos.length ≤ posB ∧
          ∀ bb, b.bases = some bb → bb.length = b.pos.length) ∧
      (∀ bs, bases = some bs → ∃ idxB : List (List Nat), idxB.flatten = perm ∧ idxB.length = out.batches.length ∧
        ∀ (j : Nat) (idx : List Nat) (b : Batch ρ), idxB[j]? = some idx → out.batches[j]? = some b →
          ∃ bb, b.bases = some bb ∧ ∀ (i p : Nat), idx[i]? = some p →
            ∃ (r : ρ) (β : List String), b.pos[i]? = some r ∧ data[p]? = some r ∧ bb[i]? = some β ∧ bs[p]? = some β) ∧
      (∀ b ∈ out.batches, ∀ r ∈ b.neg, r ∈ data ∧ ∀ bs, bases = some bs →
        r ∈ z ∧ ∃ (k : Nat) (row : List String), data[k]? = some r ∧ bs[k]? = some row ∧ ∀ s ∈ row, s = "Z") ∧
      (bases = none → effNegB negB posB = posB → ∀ b ∈ out.batches, b.neg = b.pos) ∧
      ((bases ≠ none ∨ effNegB negB posB ≠ posB) → ∀ b ∈ out.batches, b.neg.length = effNegB negB posB) := by
  obtain ⟨z, hz, hznone, hep, heff, _, _⟩ := C07_fit_batches data bases posB negB perm negIdx hB
    (fun bs h => (hbases bs h).1)
  have hzfacts := fun bs hb => refbasis_facts (hbases bs hb).1 (hbases bs hb).2.1 (hz bs hb)
  have v : Valid data bases z perm negIdx posB (effNegB negB posB) (ceilDiv data.length posB) :=
    { hN := hN, hB := hB, hnB := heff, hperm := hperm, hnb := rfl,
      hbases := fun bs hb => ⟨(hbases bs hb).1, (hzfacts bs hb).2.1, (hbases bs hb).2.2 z (hz bs hb)⟩,
      hnobases := fun hb hne => hnobases hb hne }
  obtain ⟨out, hs, hrows, hpermrows, _⟩ := C07_partition v
  obtain ⟨_, hs2, hlen, hsz⟩ := C07_sizes v
  cases Except.ok.inj (hs.symm.trans hs2)
  obtain ⟨_, hs3, hnegmem, hmirror, hneglen⟩ := C07_negative v
  cases Except.ok.inj (hs.symm.trans hs3)
  refine ⟨z, out, hz, by rw [hep]; exact hs, v, ⟨hrows, hpermrows⟩, ⟨hlen, fun j b hb => ?_⟩, fun bs hb => ?_,
    fun b hb r hr => ?_, hmirror, hneglen⟩
  · obtain ⟨a1, a2, a3, _, _, a6⟩ := hsz j b hb
    exact ⟨a1, a2, a3, a6⟩
  · obtain ⟨_, hs4, idxB, hflat, hlenB, hpair⟩ := C07_own_basis bs hb v
    cases Except.ok.inj (hs.symm.trans hs4)
    refine ⟨idxB, hflat, hlenB, fun j idx b hi hbj => ?_⟩
    obtain ⟨bb, hbb, _, _, hpt⟩ := hpair j idx b hi hbj
    exact ⟨bb, hbb, hpt⟩
  · obtain ⟨hn1, hn2⟩ := hnegmem b hb r hr
    refine ⟨?_, fun bs hbs => ?_⟩
    · cases hbcase : bases with
      | none => exact hn1 hbcase
      | some bs => exact (hzfacts bs hbcase).1.subset (hn2 bs hbcase)
    · exact ⟨hn2 bs hbs, ((hzfacts bs hbs).2.2 r).1 (hn2 bs hbs)⟩

/-! ## Call forms (positional arguments in the documented order) -/

/-- **C07.6 (call forms)** `state.fit(a₁, …, a_j, **kw)` with the first `j` documented parameters given POSITIONALLY (in the documented
order `data, epochs, pos_batch_size, neg_batch_size, k, lr[, input_bases], progbar, starting_epoch, time, callbacks, optimizer,
optimizer_args, scheduler, scheduler_args`; `ps₁` = those `j` names, any split of the signature) binds exactly what the keyword call
`state.fit(**{ps₁[i]: aᵢ}, **kw)` binds; each positional value reaches the parameter documented at its position — so the batch sizes
/ number of epochs / bases the batching theorems (`C07_fit_epoch`) speak about are the values the caller wrote at the documented
positions — and every other parameter has the caller's keyword of that name, else the documented default. For all three state
types (`hasBases = false`: `PositiveWaveFunction`, which trains without bases whatever the caller passes). -/
theorem C07_positional_call (hasBases : Bool) (ps₁ ps₂ : List String) (hsig : CallForm.fitParams hasBases = ps₁ ++ ps₂)
    (vs₁ : List CallForm.Arg) (hlen : vs₁.length = ps₁.length) (kw : List (String × CallForm.Arg))
    (hkw : ∀ p ∈ ps₁, CallForm.kwLookup kw p = none) :
    CallForm.fitBind hasBases vs₁ kw = CallForm.fitBind hasBases [] (ps₁.zip vs₁ ++ kw)
    ∧ ∀ r, CallForm.fitBind hasBases vs₁ kw = .ok r →
        (∀ p v, (p, v) ∈ ps₁.zip vs₁ → CallForm.bound r p = some v)
        ∧ (∀ p ∈ ps₂, CallForm.bound r p = CallForm.kwOrDefault CallForm.fitDefault kw p)
        ∧ (hasBases = false → CallForm.bound r "input_bases" = some CallForm.Arg.none) :=
  CallForm.fitBind_positional hasBases ps₁ ps₂ hsig vs₁ hlen kw hkw

/-- the positional form documented for the positive state: `fit(data, 2, 4, 3, 1, lr = …)` trains with `epochs = 2`,
`pos_batch_size = 4`, `neg_batch_size = 3`, `k = 1` (and never with bases) -/
example : (CallForm.fitBind false [.ref 7, .int 2, .int 4, .int 3, .int 1] [("lr", .ref 9)]).toOption.map
      (fun r => (CallForm.bound r "epochs", CallForm.bound r "pos_batch_size", CallForm.bound r "neg_batch_size", CallForm.bound r "k",
        CallForm.bound r "lr", CallForm.bound r "input_bases"))
    = some (some (.int 2), some (.int 4), some (.int 3), some (.int 1), some (.ref 9), some .none) :=
  -- instance search gives up on the equality of 6-tuples: the instance is named, its evaluation left to the kernel
  @of_decide_eq_true _ (@Option.instDecidableEq _ instDecidableEqProd _ _) (by decide +kernel)

/-- a keyword repeating a positionally bound parameter is refused; too many positional arguments are refused -/
example : CallForm.fitBind true [.ref 7, .int 2] [("epochs", .int 5)] = .error .TypeError := by decide +kernel
example : CallForm.fitBind false (List.replicate 15 (.int 1)) [] = .error .TypeError := by decide +kernel

/-! ## Non-vacuity -/

/-- a concrete valid input with duplicate rows, bases, `N = 3 = 1·2 + 1`, `neg_batch_size ≠ pos_batch_size` -/
example : Valid (ρ := Nat) [10, 20, 10] (some [["Z", "Z"], ["X", "Z"], ["Z", "Z"]]) [10, 10]
    [2, 0, 1] [1, 0, 0, 1, 1, 0] 2 3 2 where
  hN := by decide
  hB := by decide
  hnB := by decide
  hperm := by decide
  hnb := by decide
  hbases := by
    intro bs h; cases h
    exact ⟨rfl, by decide, rfl, by decide⟩
  hnobases := by intro h; cases h

/-- … on which the model produces two batches pairing each row with its own basis -/
example : (shuffleData (ρ := Nat) [2, 0, 1] [0, 0, 0, 0, 0, 0] 2 3 2 [10, 20, 30]
      (some [["Z", "Z"], ["X", "Z"], ["Z", "Y"]]) [10]).toOption.map (fun o => o.batches.map (fun b => (b.pos, b.bases)))
    = some [([30, 10], some [["Z", "Y"], ["Z", "Z"]]), ([20], some [["X", "Z"]])] := by decide

/-- the hypotheses of `C07_fit_epoch` are satisfiable: 3 rows with a duplicate, bases with two all-Z rows, `pos_batch_size = 2`,
`neg_batch_size = None`, `randint` over the two reference-basis rows of size `⌈3/2⌉ · 2 = 4` -/
example : ∃ z out, epochBatches (ρ := Nat) [10, 20, 10] (some [["Z", "Z"], ["X", "Z"], ["Z", "Z"]]) 2 none [2, 0, 1] [1, 0, 0, 1] = .ok out ∧
    Valid [10, 20, 10] (some [["Z", "Z"], ["X", "Z"], ["Z", "Z"]]) z [2, 0, 1] [1, 0, 0, 1] 2 (effNegB none 2) (ceilDiv 3 2) := by
  obtain ⟨z, out, _, h2, h3, _⟩ := C07_fit_epoch (ρ := Nat) [10, 20, 10] (some [["Z", "Z"], ["X", "Z"], ["Z", "Z"]]) 2 none
    [2, 0, 1] [1, 0, 0, 1] (by decide) (by decide) (by decide)
    (by
      intro bs h; cases h
      refine ⟨rfl, ⟨["Z", "Z"], by simp, by simp⟩, ?_⟩
      intro z hz
      have : z = [10, 10] := by
        have h' : extractRefbasis (ρ := Nat) [10, 20, 10] [["Z", "Z"], ["X", "Z"], ["Z", "Z"]] = .ok [10, 10] := rfl
        rw [h'] at hz; exact (Except.ok.inj hz).symm
      subst this
      exact ⟨rfl, by decide⟩)
    (by intro h; cases h)
  exact ⟨z, out, h2, h3⟩

/-- the hypothesis of `C07_no_mutation` is satisfiable -/
example : ∃ h' refs, epochOnHeap (ρ := Nat) ⟨[.samples [10, 20, 10], .bases [["Z"], ["X"], ["Z"]]]⟩ 0 (some 1) 2 none
    [2, 0, 1] [1, 0, 0, 1] = .ok (h', refs) := ⟨_, _, rfl⟩


/-! ## `fit`'s conversion of the caller's data object

`ArgConv.fitConvertData` models `neural_state.py:575-580` on a heap of storages: `data.clone().detach().to(device, dtype=double)` for a
torch tensor, `torch.tensor(data, device, dtype=double)` for everything else (numpy array, nested list / tuple), with torch's allocation
behaviour. `ArgConv.fitPrepareArg` is the data preamble of `fit` from the caller's OBJECT on (`Batching.prepare` reads the rows of the
converted tensor's storage). `input_bases` is not converted by the code (kept by reference: proposed/O23_C07_bases_live.md). -/

open ArgConv in
/-- **C07.7** for EVERY accepted container form of the data (torch tensor or numpy array of any element type — double, float, int64,
uint8, bool, … —, rectangular nested list of Python bools / ints / floats / numpy scalars) `fit` trains on a tensor `train_samples`
* of element type double whose rows are exactly the caller's rows at the time of the call (the target type is handed to
  `torch.tensor` / reached by a widening `.to`: no rounding on the way, whatever torch's default dtype is);
* in a storage that did not exist before the call, while no storage of the caller is written — so whatever the caller later writes
  in place into ANY of its storages (a buffer re-used for the next acquisition while `fit` is running), the rows `fit` batches are
  still the rows it was given;
* and everything `fit` derives from the data (`Batching.prepare`: `z_samples`, `num_batches`, hence `C07_fit_epoch`) is what the
  batching theorems state for those rows.
A ragged list or an object that is not array-like is refused. -/
theorem C07_train_samples_value {ρ : Type} (castRow : DType → ρ → ρ) (hc : ∀ r, castRow .float64 r = r) (dd : Bool)
    (h : ArgConv.Heap (List ρ)) (o : Obj) :
    (∀ src rows, srcDType o.box = some src → h.read o.sid = some rows →
      ∃ h' t, fitConvertData (castRows castRow) dd h o = .ok (h', t) ∧
        (∀ i, i < h.cells.length → h'.read i = h.read i) ∧
        h.cells.length ≤ t.sid ∧ t.dt = .float64 ∧ h'.read t.sid = some rows ∧
        (∀ i, i < h.cells.length → ∀ w, (h'.write i w).read t.sid = some rows) ∧
        (∀ bases posB negB, fitPrepareArg castRow dd h o bases posB negB
          = (prepare rows bases posB negB).map (fun p => (h', t, p)))) ∧
    (srcDType o.box = none → ∀ bases posB negB, ∃ e, fitPrepareArg castRow dd h o bases posB negB = .error e) := by
  have hcl : ∀ v : List ρ, castRows castRow DType.float64 v = v := by
    intro v; rw [castRows, show castRow DType.float64 = id from funext hc]; simp
  refine ⟨?_, ?_⟩
  · intro src rows hsrc hv
    obtain ⟨h', t, e, f, d⟩ := fitConvertData_spec (castRows castRow) hcl dd hsrc hv
    refine ⟨h', t, e, fun i hi => read_of_prefix f.ext hi, f.fresh, d, f.val, ?_, ?_⟩
    · intro i hi w
      rw [write_read_ne _ (by have := f.fresh; omega)]
      exact f.val
    · intro bases posB negB
      simp only [fitPrepareArg, e, f.val, bind, Except.bind]
      cases prepare rows bases posB negB <;> rfl
  · intro hb bases posB negB
    obtain ⟨e, he⟩ := fitConvertData_refused (castRows castRow) dd h o hb
    exact ⟨e, by simp [fitPrepareArg, he, bind, Except.bind]⟩

/-- the hypotheses are satisfiable by non-trivial calls, in a heap that holds another object too: a uint8 tensor (storage 2 is the
`clone()`, the result is storage 3, the copy made by `.to(dtype=double)`), a float32 numpy array (`torch.tensor` copies once: storage
2); a ragged list is refused -/
example : (ArgConv.fitConvertData (fun _ (rs : List (List Nat)) => rs) false ⟨[[[0, 1], [1, 1], [0, 1]], [[9]]]⟩ ⟨.tensor .uint8, 0⟩).toOption.map
    (fun r => (r.2, r.1.cells)) = some (⟨3, .float64⟩, [[[0, 1], [1, 1], [0, 1]], [[9]], [[0, 1], [1, 1], [0, 1]], [[0, 1], [1, 1], [0, 1]]]) := rfl
example : (ArgConv.fitConvertData (fun _ (rs : List (List Nat)) => rs) false ⟨[[[0, 1], [1, 1], [0, 1]], [[9]]]⟩ ⟨.ndarray .float32, 0⟩).toOption.map
    (fun r => r.2) = some ⟨2, .float64⟩ := rfl
example : ArgConv.fitConvertData (fun _ (rs : List (List Nat)) => rs) false ⟨[[[0, 1], [1]]]⟩ ⟨.ragged, 0⟩ = .error .ValueError := rfl

end C07
end QV.Props
