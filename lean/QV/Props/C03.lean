/-
C03 — Training gradients are the exact gradients of the negative log-likelihood.

"For every state type, parameter setting, dataset and assignment of measurement bases, the gradient the
library computes for training (data-driven positive phase plus exact model-driven negative phase) equals
the derivative, with respect to every parameter of every network, of the dataset's negative
log-likelihood under the Born rule in each sample's own measurement basis (for mixed states up to the
library's 1e-8 regularisation of rotated probabilities), in the same parameter order in which training
writes gradients into the model. The positive-phase gradient of a batch is the mean of its per-sample
gradients however the batch is ordered or grouped by basis, and every public method that returns such a
gradient is callable and agrees."

Derivatives are stated along ARBITRARY differentiable parameter curves `r : ℝ → RBM ℝ n h` with velocity `dr`
(`RBM.CurveAt`): the loss composed with the curve has derivative `G.pair dr = Σ_k G_k · dr_k`, where `G` is the
model's gradient record. Taking coordinate lines gives every partial derivative; linearity in `dr` gives the
total derivative. Model: QV.Model.Grads (executed against the code by the C03 correspondence).

Further down: the losses differentiated here ARE the Born-rule negative log-likelihood of the
dense Kronecker rotation of C04 (`C03_nll_is_born_complex`, `C03_nll_is_born_density`, normalisation
`C03_born_complex_normalised`, `C03_born_density_normalised`); `p̃ + ε > 0` follows from the guard and `ε > 0`
(`C03_exact_gradient_density_eps_pos`); the pairing is the dot product of the flattened records in `parameters()` order
(`C03_layout`, `C03_layout_prbm`, `C03_exact_gradient_*_flat`); batch of one (`C03_single_sample*`); `bases=None` / all-Z rows
(`C03_bases_none*`); the unused default branch of `pi_grad` (`C03_pi_grad_branches_*`); the rotated-gradient component and the
sigmoid of `pi_grad` in terms of the complex kernel as coded (`C03_rot_comp_textbook`, `C03_pi_grad_sigmoid`);
the call forms of `bases` (`C03_bases_forms_*`), the zero rotated amplitude (`C03_zero_amplitude_*`) and the batch layout of
`gamma_grad` / `pi_grad` (`C03_gamma_grad_layout`, `C03_pi_grad_layout`).

Guards: complex state `Upsi ≠ 0` for every sample (the NLL is finite; the code yields `nan` otherwise,
`C03_zero_amplitude_iff_infinite_nll`); mixed state `NZall` (`1 + e^{x_k + i y_k} ≠ 0` for every auxiliary unit and pair of basis
states, see C02). The Born-rule theorems assume that the dictionary maps the letter `Z` to the identity (the fast paths test the
LETTER; true for `create_dict()`, `C03_default_dictionary_ok`) and, for the normalisation statements only, per-site unitarity.
The positive state ignores `bases` (as the code documents): `C03_exact_gradient_positive` is about the reference-basis NLL.
Left out: rounding error; the clause "every public method … is callable and agrees" has no theorem (`compute_exact_grads` is an
alias with the one model definition `exactGradientsPos`; callability is checked on the implementation); the refusals of
`C03_bases_forms_refused` are statements about the model `normBases`.
-/
import Mathlib.Analysis.SpecialFunctions.Log.Deriv
import QV.Lemmas.Deriv
import QV.Lemmas.GradLin
import QV.Lemmas.Hilbert
import QV.Lemmas.CplxGrad
import QV.Lemmas.Grouping
import QV.Lemmas.DMGrad
import QV.Lemmas.GradArgs
import Mathlib.Analysis.SpecialFunctions.Log.ENNRealLog
import QV.Props.C01
import QV.Props.C02
import QV.Props.C04

namespace QV.Props
open QV Finset Grads

variable {n h a : ℕ}

/-- **C03.1a** effective energy of the BinaryRBM: the code's per-sample gradient vector is the gradient. -/
theorem C03_energy_grad (r : ℝ → RBM ℝ n h) (dr : RBM ℝ n h) (t : ℝ) (hr : RBM.CurveAt r dr t) (v : Fin n → ℝ) :
    HasDerivAt (fun s => (r s).effEnergy v) (((r t).effEnergyGrad1 v).pair dr) t :=
  RBM.hasDerivAt_effEnergy r dr t hr v

/-- **C03.1b** the same for the PurificationRBM (auxiliary units traced out), in the layout `[W, U, b, c, d]`. -/
theorem C03_energy_grad_prbm (r : ℝ → PRBM ℝ n h a) (dr : PRBM ℝ n h a) (t : ℝ) (hr : PRBM.CurveAt r dr t)
    (v : Fin n → ℝ) :
    HasDerivAt (fun s => (r s).effEnergy v) (((r t).effEnergyGrad1 v).pair dr) t :=
  PRBM.hasDerivAt_effEnergy r dr t hr v

/-- partition function as the plain sum over the generated space (what `compute_exact_gradients` uses) -/
noncomputable def Zsum (am : RBM ℝ n h) : ℝ := ∑ k : Fin (2 ^ n), Real.exp (-(am.effEnergy (spaceRow n k.val)))

theorem Zsum_pos (am : RBM ℝ n h) : 0 < Zsum am :=
  Finset.sum_pos (fun _ _ => Real.exp_pos _) ⟨⟨0, Nat.pos_of_ne_zero (by positivity)⟩, mem_univ _⟩

theorem hasDerivAt_log_sum_exp_neg {ι : Type*} [Fintype ι] {E : ι → ℝ → ℝ} {E' : ι → ℝ} {t : ℝ}
    (hE : ∀ k, HasDerivAt (E k) (E' k) t) (hZ : ∑ k, Real.exp (-(E k t)) ≠ 0) :
    HasDerivAt (fun s => Real.log (∑ k, Real.exp (-(E k s))))
      (-∑ k, Real.exp (-(E k t)) / (∑ k, Real.exp (-(E k t))) * E' k) t := by
  refine ((HasDerivAt.fun_sum fun k _ => (hE k).fun_neg.exp).log hZ).congr_deriv ?_
  rw [Finset.sum_div, ← Finset.sum_neg_distrib]
  exact Finset.sum_congr rfl fun k _ => by ring

theorem pair_negPhaseExact (am d : RBM ℝ n h) :
    (negPhaseExact am).pair d
      = ∑ k : Fin (2 ^ n), Real.exp (-(am.effEnergy (spaceRow n k.val))) / Zsum am
          * (am.effEnergyGrad1 (spaceRow n k.val)).pair d := by
  -- the negative phase is the weighted combination of the per-state gradients with the Boltzmann weights
  rw [← RBM.pair_weighted]
  simp only [negPhaseExact, sumFin_eq, transc_exp, Zsum]

/-- **C03.2** `d/dt log Z = −Σ_σ p(σ) ⟨∇E(σ), θ'⟩`, and the model's exact negative phase is that weighted average. -/
theorem C03_logZ_grad (r : ℝ → RBM ℝ n h) (dr : RBM ℝ n h) (t : ℝ) (hr : RBM.CurveAt r dr t) :
    HasDerivAt (fun s => Real.log (Zsum (r s))) (-((negPhaseExact (r t)).pair dr)) t := by
  rw [pair_negPhaseExact]
  exact hasDerivAt_log_sum_exp_neg (fun k => RBM.hasDerivAt_effEnergy r dr t hr (spaceRow n k.val)) (Zsum_pos (r t)).ne'

/-- the negative log-likelihood of a dataset of computational-basis outcomes under the positive state:
`−(1/B) Σ_b log( probability(v_b) / Z )` with the model's `probability` and `Z = Σ_σ probability(σ)`. -/
noncomputable def nllPos (am : RBM ℝ n h) {B : ℕ} (vs : Fin B → Fin n → ℝ) : ℝ :=
  -((∑ b, Real.log (Wave.probability am (vs b) (Zsum am))) / B)

theorem nllPos_eq (am : RBM ℝ n h) {B : ℕ} (hB : 0 < B) (vs : Fin B → Fin n → ℝ) :
    nllPos am vs = (∑ b, am.effEnergy (vs b)) / B + Real.log (Zsum am) := by
  have hZ := Zsum_pos am
  have hBr : (B : ℝ) ≠ 0 := by exact_mod_cast hB.ne'
  simp only [nllPos, Wave.probability, transc_exp]
  have : ∀ b, Real.log (Real.exp (-(am.effEnergy (vs b))) / Zsum am) = -(am.effEnergy (vs b)) - Real.log (Zsum am) := by
    intro b; rw [Real.log_div (Real.exp_pos _).ne' hZ.ne', Real.log_exp]
  simp only [this, Finset.sum_sub_distrib, Finset.sum_neg_distrib, Finset.sum_const, Finset.card_univ, Fintype.card_fin,
    nsmul_eq_mul]
  field_simp
  ring

/-- **C03.3 (positive state)** `compute_exact_gradients` (= `compute_exact_grads`) is the gradient of the NLL:
along any differentiable parameter curve the NLL has derivative `Σ_k G_k θ'_k` with `G` the model's output. -/
theorem C03_exact_gradient_positive (r : ℝ → RBM ℝ n h) (dr : RBM ℝ n h) (t : ℝ) (hr : RBM.CurveAt r dr t)
    {B : ℕ} (hB : 0 < B) (vs : Fin B → Fin n → ℝ) :
    HasDerivAt (fun s => nllPos (r s) vs) ((exactGradientsPos (r t) vs).pair dr) t := by
  have hfun : (fun s => nllPos (r s) vs)
      = fun s => (∑ b, (r s).effEnergy (vs b)) / B + Real.log (Zsum (r s)) := by
    funext s; exact nllPos_eq (r s) hB vs
  rw [hfun]
  have h1 : HasDerivAt (fun s => (∑ b, (r s).effEnergy (vs b)) / (B : ℝ))
      ((∑ b, ((r t).effEnergyGrad1 (vs b)).pair dr) / B) t :=
    (HasDerivAt.fun_sum (fun b _ => RBM.hasDerivAt_effEnergy r dr t hr (vs b))).div_const _
  refine (h1.add (C03_logZ_grad r dr t hr)).congr_deriv ?_
  simp only [exactGradientsPos, positivePhasePos, gradientPos, RBM.pair_sub, RBM.pair_sdiv, RBM.pair_effEnergyGrad,
    transc_ofNat]
  ring

/-- **C03.5 (positive)** the positive phase is the mean of the per-sample gradients (pairing form) … -/
theorem C03_batch_is_sum_positive (am d : RBM ℝ n h) {B : ℕ} (vs : Fin B → Fin n → ℝ) :
    (positivePhasePos am vs).pair d = (∑ b, (am.effEnergyGrad1 (vs b)).pair d) / B := by
  simp only [positivePhasePos, gradientPos, RBM.pair_sdiv, RBM.pair_effEnergyGrad, transc_ofNat]

/-- … hence invariant under any permutation of the batch. -/
theorem C03_perm_invariant_positive (am d : RBM ℝ n h) {B : ℕ} (vs : Fin B → Fin n → ℝ) (e : Equiv.Perm (Fin B)) :
    (positivePhasePos am (fun b => vs (e b))).pair d = (positivePhasePos am vs).pair d := by
  rw [C03_batch_is_sum_positive, C03_batch_is_sum_positive,
    Equiv.sum_comp e (fun b => (am.effEnergyGrad1 (vs b)).pair d)]

/-! ### complex wavefunction, arbitrary measurement bases -/

open Unitaries

theorem allZ_rot {smp : Sample n} (hz : smp.allZ = true) (j : Fin n) : smp.rot j = false := by
  simpa using List.all_eq_true.mp hz j (List.mem_finRange j)

/-- the per-sample rotated amplitude of the gradient model IS the model of `rotate_psi_inner_prod` (C04), hence by
`C04_inner_prod` entry σ of the dense basis rotation applied to ψ: the loss below is the Born-rule loss. -/
theorem C03_upsi_is_rotated_amplitude (am ph : RBM ℝ n h) (dict : Char → M2 ℝ) (smp : Sample n) :
    cplxUpsi am ph dict smp
      = rotatePsiInnerProd n (fun j => dict (smp.letter j)) smp.rot (fun τ => Wave.psiCplx am ph (visOf τ)) smp.σ := rfl

theorem cplxUpsi_allZ (am ph : RBM ℝ n h) (dict : Char → M2 ℝ) (smp : Sample n) (hz : smp.allZ = true) :
    cplxUpsi am ph dict smp = Wave.psiCplx am ph smp.vis := by
  rw [C03_upsi_is_rotated_amplitude, ← rotatePsiInnerProdE_eq, funext (allZ_rot hz)]
  exact rotatePsiInnerProdE_of_not_rot _ _ smp.σ

/-- per-sample loss `−log p̃_β(σ)` with `p̃_β(σ) = |Σ_τ Ut_τ ψ(τ)|²` the unnormalised Born probability of outcome σ in
basis β (entry σ of the dense Kronecker rotation applied to ψ: `C03_upsi_is_dense_amplitude`, `C03_loss_is_born_complex`;
the dataset loss is the Born-rule NLL: `C03_nll_is_born_complex`). -/
noncomputable def sampleLossCplx (am ph : RBM ℝ n h) (dict : Char → M2 ℝ) (smp : Sample n) : ℝ :=
  -Real.log (Complex.normSq (toC (cplxUpsi am ph dict smp)))

/-- on a reference-basis row the loss is the fast-path value `E_λ(σ)`: `|ψ(σ)|² = exp(−E_λ(σ))`, one Born-rule loss on both
branches of `cplxGrad1` (the counterpart of `C03_loss_allZ_density`) -/
theorem sampleLossCplx_allZ (am ph : RBM ℝ n h) (dict : Char → M2 ℝ) (smp : Sample n) (hz : smp.allZ = true) :
    sampleLossCplx am ph dict smp = am.effEnergy smp.vis := by
  rw [sampleLossCplx, cplxUpsi_allZ _ _ _ _ hz, toC_psiCplx, Complex.normSq_eq_norm_sq, Complex.norm_exp]
  simp only [Complex.add_re, Complex.ofReal_re, Complex.mul_re, Complex.I_re, Complex.I_im, Complex.ofReal_im,
    mul_zero, sub_zero, mul_one, add_zero]
  rw [← Real.exp_nat_mul, Real.log_exp]
  push_cast
  ring

/-- **C03.3 (complex state, one sample)**: all-`Z` fast path and rotated path alike. -/
theorem C03_sample_gradient_complex (ram rph : ℝ → RBM ℝ n h) (dam dph : RBM ℝ n h) (t : ℝ)
    (ha : RBM.CurveAt ram dam t) (hp : RBM.CurveAt rph dph t) (dict : Char → M2 ℝ) (smp : Sample n)
    (hU : toC (cplxUpsi (ram t) (rph t) dict smp) ≠ 0) :
    HasDerivAt (fun s => sampleLossCplx (ram s) (rph s) dict smp)
      ((cplxGrad1 (ram t) (rph t) dict smp).1.pair dam + (cplxGrad1 (ram t) (rph t) dict smp).2.pair dph) t := by
  by_cases hz : smp.allZ = true
  · simp only [sampleLossCplx_allZ _ _ _ _ hz]
    refine (RBM.hasDerivAt_effEnergy ram dam t ha smp.vis).congr_deriv ?_
    simp [cplxGrad1, hz, RBM.pair_zero]
  · exact hasDerivAt_sampleLoss_rot ram rph dam dph t ha hp dict smp (by simpa using hz) hU

/-- `gradientCplx` unfolds by `rfl` (`sumRBM`, `uniqueBases`) to the nested folds of `grouped_additive`, the key being the
sample's basis string -/
theorem pair_gradientCplx (am ph d : RBM ℝ n h) (dict : Char → M2 ℝ) (D : List (Sample n)) :
    (gradientCplx am ph dict D).1.pair d = (D.map (fun s => (cplxGrad1 am ph dict s).1.pair d)).sum
    ∧ (gradientCplx am ph dict D).2.pair d = (D.map (fun s => (cplxGrad1 am ph dict s).2.pair d)).sum :=
  ⟨grouped_additive RBM.add RBM.zero (·.pair d) (RBM.pair_add · · d) (RBM.pair_zero d) D (·.basis) _,
   grouped_additive RBM.add RBM.zero (·.pair d) (RBM.pair_add · · d) (RBM.pair_zero d) D (·.basis) _⟩

/-- the dataset NLL of the complex state under the Born rule: `(1/N) Σ_s −log p̃_{β_s}(σ_s) + log Z`. -/
noncomputable def nllCplx (am ph : RBM ℝ n h) (dict : Char → M2 ℝ) (D : List (Sample n)) : ℝ :=
  (D.map (fun smp => sampleLossCplx am ph dict smp)).sum / D.length + Real.log (Zsum am)

theorem list_mean_perm {ι : Type} {D D' : List ι} (hperm : D.Perm D') (f : ι → ℝ) :
    (D.map f).sum / D.length = (D'.map f).sum / D'.length := by
  rw [(hperm.map f).sum_eq, hperm.length_eq]

theorem hasDerivAt_list_sum {ι : Type} (l : List ι) (f : ι → ℝ → ℝ) (f' : ι → ℝ) (t : ℝ)
    (hf : ∀ x ∈ l, HasDerivAt (f x) (f' x) t) :
    HasDerivAt (fun s => (l.map (fun x => f x s)).sum) ((l.map f').sum) t := by
  induction l with
  | nil => simpa using hasDerivAt_const t (0 : ℝ)
  | cons x xs ih =>
    simp only [List.map_cons, List.sum_cons]
    exact (hf x List.mem_cons_self).add (ih (fun y hy => hf y (List.mem_cons_of_mem _ hy)))

/-- **C03.3 (complex state)** `compute_exact_gradients(samples, space, bases)` — grouped by unique basis, all-`Z` rows
through the fast path — is the gradient of the dataset NLL w.r.t. every parameter of both networks, whenever every
sample has non-zero model probability in its basis (i.e. the NLL is finite). -/
theorem C03_exact_gradient_complex (ram rph : ℝ → RBM ℝ n h) (dam dph : RBM ℝ n h) (t : ℝ)
    (ha : RBM.CurveAt ram dam t) (hp : RBM.CurveAt rph dph t) (dict : Char → M2 ℝ) (D : List (Sample n))
    (hU : ∀ smp ∈ D, toC (cplxUpsi (ram t) (rph t) dict smp) ≠ 0) :
    HasDerivAt (fun s => nllCplx (ram s) (rph s) dict D)
      ((exactGradientsCplx (ram t) (rph t) dict D).1.pair dam
        + (exactGradientsCplx (ram t) (rph t) dict D).2.pair dph) t := by
  unfold nllCplx
  have h1 := (hasDerivAt_list_sum D (fun smp s => sampleLossCplx (ram s) (rph s) dict smp) _ t
    (fun smp hs => C03_sample_gradient_complex ram rph dam dph t ha hp dict smp (hU smp hs))).div_const (D.length : ℝ)
  refine (h1.add (C03_logZ_grad ram dam t ha)).congr_deriv ?_
  simp only [exactGradientsCplx, positivePhaseCplx, RBM.pair_sub, RBM.pair_sdiv, transc_ofNat,
    (pair_gradientCplx _ _ _ _ _).1, (pair_gradientCplx _ _ _ _ _).2]
  rw [List.sum_map_add]
  ring

/-- **C03.5** the positive phase of ANY batch is the mean of the per-sample gradients, whatever the grouping by
basis (pairing form) … -/
theorem C03_batch_is_sum_complex (am ph d : RBM ℝ n h) (dict : Char → M2 ℝ) (D : List (Sample n)) :
    (positivePhaseCplx am ph dict D).1.pair d = (D.map (fun s => (cplxGrad1 am ph dict s).1.pair d)).sum / D.length
    ∧ (positivePhaseCplx am ph dict D).2.pair d = (D.map (fun s => (cplxGrad1 am ph dict s).2.pair d)).sum / D.length := by
  simp only [positivePhaseCplx, RBM.pair_sdiv, transc_ofNat, (pair_gradientCplx _ _ _ _ _).1,
    (pair_gradientCplx _ _ _ _ _).2, and_self]

/-- … hence invariant under any permutation of the batch (and so under any split and regrouping). -/
theorem C03_perm_invariant_complex (am ph d : RBM ℝ n h) (dict : Char → M2 ℝ) (D D' : List (Sample n))
    (hperm : D.Perm D') :
    (positivePhaseCplx am ph dict D).1.pair d = (positivePhaseCplx am ph dict D').1.pair d
    ∧ (positivePhaseCplx am ph dict D).2.pair d = (positivePhaseCplx am ph dict D').2.pair d := by
  rw [(C03_batch_is_sum_complex am ph d dict D).1, (C03_batch_is_sum_complex am ph d dict D).2,
    (C03_batch_is_sum_complex am ph d dict D').1, (C03_batch_is_sum_complex am ph d dict D').2]
  exact ⟨list_mean_perm hperm _, list_mean_perm hperm _⟩

/-! ### mixed state (DensityMatrix), arbitrary measurement bases, with the code's `ε`-regularisation -/

/-- per-sample loss of the mixed state: `E_λ(σ)` for a reference-basis row (fast path, no regulariser) and
`−log(p̃_β(σ) + ε)` for a rotated row, `p̃_β(σ) = Σ_{τ,τ'} Re[U_τ conj(U_τ') ρ(τ,τ')]` the unnormalised Born probability
of outcome σ in basis β (the model of `rotate_rho_probs`: `C03_urhou_is_rotated_prob`; the diagonal of the dense `K ρ Kᴴ`:
`C03_urhou_is_born`; the two branches are one Born-rule loss: `C03_loss_allZ_density`, `C03_loss_is_born_density`;
dataset level: `C03_nll_is_born_density`). -/
noncomputable def sampleLossDM (am ph : PRBM ℝ n h a) (dict : Char → M2 ℝ) (eps : ℝ) (smp : Sample n) : ℝ :=
  if smp.allZ then am.effEnergy smp.vis else -Real.log (dmUrhoU am ph dict smp + eps)

/-- **C03.3 (mixed state, one sample)** the model's per-sample gradient pair is the gradient of the per-sample loss,
wherever the auxiliary-trace guard holds (`NZall`, see C02) and the regularised probability is positive. -/
theorem C03_sample_gradient_density (ram rph : ℝ → PRBM ℝ n h a) (dam dph : PRBM ℝ n h a) (t : ℝ)
    (ha : PRBM.CurveAt ram dam t) (hp : PRBM.CurveAt rph dph t) (dict : Char → M2 ℝ) (eps : ℝ) (smp : Sample n)
    (hz : NZall (ram t) (rph t)) (hpos : dmUrhoU (ram t) (rph t) dict smp + eps ≠ 0) :
    HasDerivAt (fun s => sampleLossDM (ram s) (rph s) dict eps smp)
      ((dmGrad1 (ram t) (rph t) dict eps smp).1.pair dam + (dmGrad1 (ram t) (rph t) dict eps smp).2.pair dph) t := by
  unfold sampleLossDM
  by_cases hallz : smp.allZ = true
  · simp only [hallz, if_true]
    refine (PRBM.hasDerivAt_effEnergy ram dam t ha smp.vis).congr_deriv ?_
    simp [dmGrad1, hallz, PRBM.pair_zero]
  · simp only [hallz, Bool.false_eq_true, if_false]
    have hd := ((hasDerivAt_dmUrhoU ram rph dam dph t ha hp dict smp hz).add_const eps).log hpos |>.neg
    refine hd.congr_deriv ?_
    have h1 := pair_dmRot (ram t) (rph t) dam dict eps smp
      (fun τ1 τ2 => dmAmGrads (ram t) (rph t) (visOf τ1) (visOf τ2))
    have h2 := pair_dmRot (ram t) (rph t) dph dict eps smp
      (fun τ1 τ2 => dmPhGrads (ram t) (rph t) (visOf τ1) (visOf τ2))
    simp only [dmGrad1, hallz, Bool.false_eq_true, if_false]
    rw [h1, h2, ← add_div, ← neg_add, ← Finset.sum_add_distrib, neg_div]
    congr 2
    refine Finset.sum_congr rfl (fun x _ => ?_)
    rw [mul_add, Complex.add_re]

/-- partition function of the purification RBM as the plain sum over the generated space -/
noncomputable def ZsumDM (am : PRBM ℝ n h a) : ℝ := ∑ k : Fin (2 ^ n), Real.exp (-(am.effEnergy (spaceRow n k.val)))

theorem ZsumDM_pos (am : PRBM ℝ n h a) : 0 < ZsumDM am :=
  Finset.sum_pos (fun _ _ => Real.exp_pos _) ⟨⟨0, Nat.pos_of_ne_zero (by positivity)⟩, mem_univ _⟩

theorem pair_negPhaseExactDM (am d : PRBM ℝ n h a) :
    (negPhaseExactDM am).pair d
      = ∑ k : Fin (2 ^ n), Real.exp (-(am.effEnergy (spaceRow n k.val))) / ZsumDM am
          * (am.effEnergyGrad1 (spaceRow n k.val)).pair d := by
  rw [← PRBM.pair_weighted]
  simp only [negPhaseExactDM, sumFin_eq, transc_exp, ZsumDM]

/-- **C03.2 (purification RBM)** `d/dt log Z = −⟨exact negative phase, θ'⟩`. -/
theorem C03_logZ_grad_prbm (r : ℝ → PRBM ℝ n h a) (dr : PRBM ℝ n h a) (t : ℝ) (hr : PRBM.CurveAt r dr t) :
    HasDerivAt (fun s => Real.log (ZsumDM (r s))) (-((negPhaseExactDM (r t)).pair dr)) t := by
  rw [pair_negPhaseExactDM]
  exact hasDerivAt_log_sum_exp_neg (fun k => PRBM.hasDerivAt_effEnergy r dr t hr (spaceRow n k.val))
    (ZsumDM_pos (r t)).ne'

theorem pair_gradientDM (am ph d : PRBM ℝ n h a) (dict : Char → M2 ℝ) (eps : ℝ) (D : List (Sample n)) :
    (gradientDM am ph dict eps D).1.pair d = (D.map (fun s => (dmGrad1 am ph dict eps s).1.pair d)).sum
    ∧ (gradientDM am ph dict eps D).2.pair d = (D.map (fun s => (dmGrad1 am ph dict eps s).2.pair d)).sum :=
  ⟨grouped_additive PRBM.add PRBM.zero (·.pair d) (PRBM.pair_add · · d) (PRBM.pair_zero d) D (·.basis) _,
   grouped_additive PRBM.add PRBM.zero (·.pair d) (PRBM.pair_add · · d) (PRBM.pair_zero d) D (·.basis) _⟩

/-- the dataset NLL of the mixed state with the library's regularisation of rotated probabilities -/
noncomputable def nllDM (am ph : PRBM ℝ n h a) (dict : Char → M2 ℝ) (eps : ℝ) (D : List (Sample n)) : ℝ :=
  (D.map (fun smp => sampleLossDM am ph dict eps smp)).sum / D.length + Real.log (ZsumDM am)

/-- **C03.3 (mixed state)** `compute_exact_gradients(samples, space, bases)` of the DensityMatrix is the gradient of the
(ε-regularised) dataset NLL w.r.t. every parameter of both purification networks. -/
theorem C03_exact_gradient_density (ram rph : ℝ → PRBM ℝ n h a) (dam dph : PRBM ℝ n h a) (t : ℝ)
    (ha : PRBM.CurveAt ram dam t) (hp : PRBM.CurveAt rph dph t) (dict : Char → M2 ℝ) (eps : ℝ) (D : List (Sample n))
    (hz : NZall (ram t) (rph t)) (hpos : ∀ smp ∈ D, dmUrhoU (ram t) (rph t) dict smp + eps ≠ 0) :
    HasDerivAt (fun s => nllDM (ram s) (rph s) dict eps D)
      ((exactGradientsDM (ram t) (rph t) dict eps D).1.pair dam
        + (exactGradientsDM (ram t) (rph t) dict eps D).2.pair dph) t := by
  unfold nllDM
  have h1 := (hasDerivAt_list_sum D (fun smp s => sampleLossDM (ram s) (rph s) dict eps smp) _ t
    (fun smp hs => C03_sample_gradient_density ram rph dam dph t ha hp dict eps smp hz (hpos smp hs))).div_const (D.length : ℝ)
  refine (h1.add (C03_logZ_grad_prbm ram dam t ha)).congr_deriv ?_
  simp only [exactGradientsDM, positivePhaseDM, PRBM.pair_sub, PRBM.pair_sdiv, transc_ofNat,
    (pair_gradientDM _ _ _ _ _ _).1, (pair_gradientDM _ _ _ _ _ _).2]
  rw [List.sum_map_add]
  ring

/-- **C03.5 (mixed)** positive phase = mean of per-sample gradients, whatever the grouping (permutations:
`C03_perm_invariant_density`). -/
theorem C03_batch_is_sum_density (am ph d : PRBM ℝ n h a) (dict : Char → M2 ℝ) (eps : ℝ) (D : List (Sample n)) :
    (positivePhaseDM am ph dict eps D).1.pair d = (D.map (fun s => (dmGrad1 am ph dict eps s).1.pair d)).sum / D.length
    ∧ (positivePhaseDM am ph dict eps D).2.pair d = (D.map (fun s => (dmGrad1 am ph dict eps s).2.pair d)).sum / D.length := by
  simp only [positivePhaseDM, PRBM.pair_sdiv, transc_ofNat, (pair_gradientDM _ _ _ _ _ _).1,
    (pair_gradientDM _ _ _ _ _ _).2, and_self]

/-- **C03.5 (mixed)** permutation invariance of the positive phase (any reordering / regrouping of the batch). -/
theorem C03_perm_invariant_density (am ph d : PRBM ℝ n h a) (dict : Char → M2 ℝ) (eps : ℝ) (D D' : List (Sample n))
    (hperm : D.Perm D') :
    (positivePhaseDM am ph dict eps D).1.pair d = (positivePhaseDM am ph dict eps D').1.pair d
    ∧ (positivePhaseDM am ph dict eps D).2.pair d = (positivePhaseDM am ph dict eps D').2.pair d := by
  rw [(C03_batch_is_sum_density am ph d dict eps D).1, (C03_batch_is_sum_density am ph d dict eps D).2,
    (C03_batch_is_sum_density am ph d dict eps D').1, (C03_batch_is_sum_density am ph d dict eps D').2]
  exact ⟨list_mean_perm hperm _, list_mean_perm hperm _⟩

/-! ### the loss of the gradient theorems IS the Born-rule loss (dense Kronecker rotation, C04) -/

open Matrix

/-- SPEC (Born rule, pure state): unnormalised probability of outcome `σ` when site `j` is measured in the basis whose
unitary is `us j`: `|(K ψ)_σ|²` with `K = ⊗_j us j` the DENSE tensor-product operator of C04. -/
noncomputable def bornPsi (us : Fin n → M2 ℝ) (ψ : (Fin n → Bool) → ℂ) (σ : Fin n → Bool) : ℝ :=
  Complex.normSq ((denseK us).mulVec ψ σ)

noncomputable def psiOf (am ph : RBM ℝ n h) : (Fin n → Bool) → ℂ := fun τ => toC (Wave.psiCplx am ph (visOf τ))

/-- sites beyond the end of the basis string read `Z` (`Sample.letter`), as the code treats a short row -/
def usOf (dict : Char → M2 ℝ) (smp : Sample n) : Fin n → M2 ℝ := fun j => dict (smp.letter j)

/-- **C03.4a** the rotated amplitude used by the gradient code is what `rotate_psi_inner_prod` computes BY ENUMERATION of the
expanded states (the C04 model the driver executes) … -/
theorem C03_upsi_as_coded (am ph : RBM ℝ n h) (dict : Char → M2 ℝ) (smp : Sample n) :
    cplxUpsi am ph dict smp
      = rotatePsiInnerProdE n (usOf dict smp) smp.rot (fun τ => Wave.psiCplx am ph (visOf τ)) smp.σ := by
  rw [rotatePsiInnerProdE_eq]; rfl

/-- **C03.4b** … and it is entry `σ` of the dense Kronecker rotation applied to `ψ` (`C04_inner_prod_dense`). -/
theorem C03_upsi_is_dense_amplitude (am ph : RBM ℝ n h) (dict : Char → M2 ℝ) (smp : Sample n)
    (hZ : m2c (dict 'Z') = 1) :
    toC (cplxUpsi am ph dict smp) = (denseK (usOf dict smp)).mulVec (psiOf am ph) smp.σ := by
  rw [C03_upsi_is_rotated_amplitude]
  exact C04_inner_prod_dense _ _ (fun τ => Wave.psiCplx am ph (visOf τ)) _ (fun _ hj => m2c_of_not_rot dict hZ hj)

/-- **C03.4c** the per-sample loss of `C03_sample_gradient_complex` is `−log` of the Born probability of the sample's
outcome in the sample's own basis; where that probability is non-zero, `exp(−loss)` is the probability itself. -/
theorem C03_loss_is_born_complex (am ph : RBM ℝ n h) (dict : Char → M2 ℝ) (smp : Sample n)
    (hZ : m2c (dict 'Z') = 1) :
    sampleLossCplx am ph dict smp = -Real.log (bornPsi (usOf dict smp) (psiOf am ph) smp.σ)
    ∧ (toC (cplxUpsi am ph dict smp) ≠ 0 →
        Real.exp (-(sampleLossCplx am ph dict smp)) = bornPsi (usOf dict smp) (psiOf am ph) smp.σ) := by
  have h1 : sampleLossCplx am ph dict smp = -Real.log (bornPsi (usOf dict smp) (psiOf am ph) smp.σ) := by
    unfold sampleLossCplx bornPsi
    rw [C03_upsi_is_dense_amplitude am ph dict smp hZ]
  refine ⟨h1, fun hU => ?_⟩
  rw [h1, neg_neg, Real.exp_log]
  unfold bornPsi
  rw [← C03_upsi_is_dense_amplitude am ph dict smp hZ]
  exact Complex.normSq_pos.mpr hU

/-- **C03.4d** `Z_λ` (the `log Z` term of the NLL) is the squared norm of `ψ` … -/
theorem C03_Zsum_is_norm (am ph : RBM ℝ n h) : Zsum am = ∑ τ, Complex.normSq (psiOf am ph τ) := by
  unfold Zsum
  rw [← sum_rows n (fun τ => Complex.normSq (psiOf am ph τ))]
  refine Finset.sum_congr rfl (fun k _ => ?_)
  have := C01_normSq_psi_complex am ph (visOf (rowBits n k.val))
  simp only [Wave.probability, transc_exp, div_one] at this
  rw [psiOf, Complex.normSq_apply, toC_re, toC_im, ← sq, ← sq, this]
  rfl

/-- **C03.4e** … which is also the total Born probability in EVERY basis whose per-site matrices are unitary: the
quantity under the logarithm of the NLL, divided by `Z_λ`, is a probability distribution over outcomes. -/
theorem C03_born_complex_normalised (am ph : RBM ℝ n h) (us : Fin n → M2 ℝ)
    (hU : ∀ j, (m2c (us j))ᴴ * m2c (us j) = 1) :
    ∑ σ, bornPsi us (psiOf am ph) σ = Zsum am
    ∧ ∑ σ, bornPsi us (psiOf am ph) σ / Zsum am = 1 := by
  have h1 : ∑ σ, bornPsi us (psiOf am ph) σ = Zsum am := by
    rw [C03_Zsum_is_norm am ph]
    exact unitary_mulVec_normSq _ (C04_dense_unitary us hU) _
  refine ⟨h1, ?_⟩
  rw [← Finset.sum_div, h1, div_self (Zsum_pos am).ne']

theorem list_mean_add_const {ι : Type} (l : List ι) (hl : l ≠ []) (f : ι → ℝ) (c : ℝ) :
    (l.map (fun x => f x + c)).sum / l.length = (l.map f).sum / l.length + c := by
  have hN : (l.length : ℝ) ≠ 0 := Nat.cast_ne_zero.mpr (mt List.length_eq_zero_iff.mp hl)
  rw [List.sum_map_add, List.map_const', List.sum_replicate, nsmul_eq_mul, add_div, mul_div_cancel_left₀ _ hN]

/-- **C03.4 (complex state)** the dataset loss differentiated in `C03_exact_gradient_complex` IS the negative
log-likelihood under the Born rule: the mean over the dataset of `−log( |(K_{β_s} ψ)_{σ_s}|² / ‖ψ‖² )`, `K_β` the dense
Kronecker product of the dictionary matrices of the sample's own basis string. -/
theorem C03_nll_is_born_complex (am ph : RBM ℝ n h) (dict : Char → M2 ℝ) (hZ : m2c (dict 'Z') = 1)
    (D : List (Sample n)) (hD : D ≠ []) (hU : ∀ smp ∈ D, toC (cplxUpsi am ph dict smp) ≠ 0) :
    nllCplx am ph dict D
      = (D.map (fun smp => -Real.log (bornPsi (usOf dict smp) (psiOf am ph) smp.σ
            / ∑ τ, Complex.normSq (psiOf am ph τ)))).sum / D.length := by
  have key : ∀ smp ∈ D, -Real.log (bornPsi (usOf dict smp) (psiOf am ph) smp.σ / ∑ τ, Complex.normSq (psiOf am ph τ))
      = sampleLossCplx am ph dict smp + Real.log (Zsum am) := by
    intro smp hs
    have hp : bornPsi (usOf dict smp) (psiOf am ph) smp.σ ≠ 0 := by
      unfold bornPsi
      rw [← C03_upsi_is_dense_amplitude am ph dict smp hZ]
      exact (Complex.normSq_pos.mpr (hU smp hs)).ne'
    rw [← C03_Zsum_is_norm, Real.log_div hp (Zsum_pos am).ne', (C03_loss_is_born_complex am ph dict smp hZ).1]
    ring
  rw [List.map_congr_left key, list_mean_add_const D hD, nllCplx]

/-! ### mixed state -/

open scoped ComplexOrder

/-- SPEC (Born rule, mixed state): unnormalised probability of outcome `σ` in the basis with per-site unitaries `us`:
the real part of the diagonal entry of `K ρ Kᴴ`, `K` the DENSE tensor-product operator of C04. -/
noncomputable def bornRho (us : Fin n → M2 ℝ) (ρ : Matrix (Fin n → Bool) (Fin n → Bool) ℂ) (σ : Fin n → Bool) : ℝ :=
  ((denseK us * ρ * (denseK us)ᴴ) σ σ).re

/-- `C02.rhoMat` written out; `C02_posSemidef`, `C02_hermitian` are about `rhoFullC`, the same matrix indexed by `Fin (2 ^ n)` -/
theorem rhoMat_eq_of (am ph : PRBM ℝ n h a) :
    C02.rhoMat am ph = Matrix.of fun σ τ => toC (Density.rho am ph (visOf σ) (visOf τ)) := rfl

/-- **C03.4f** `UrhoU` of `DensityMatrix.rotated_gradient` is the model of `rotate_rho_probs` (C04) applied to the
model's `rho` in the sample's basis … -/
theorem C03_urhou_is_rotated_prob (am ph : PRBM ℝ n h a) (dict : Char → M2 ℝ) (smp : Sample n) :
    dmUrhoU am ph dict smp
      = rotateRhoProbs n (usOf dict smp) smp.rot (fun τ τ' => Density.rho am ph (visOf τ) (visOf τ')) smp.σ := by
  unfold dmUrhoU rotateRhoProbs dmCoef
  congr 1; funext k; congr 1; funext l
  by_cases hc : (agreesOff n smp.rot smp.σ (fun j => spaceBit n k.val j)
      && agreesOff n smp.rot smp.σ (fun j => spaceBit n l.val j)) = true
  · simp only [hc, if_true]; rfl
  · simp only [hc, Bool.false_eq_true, if_false]; rfl

/-- … also in the as-coded form (double enumeration of the expanded states, what the C04 driver executes) … -/
theorem C03_urhou_as_coded (am ph : PRBM ℝ n h a) (dict : Char → M2 ℝ) (smp : Sample n) :
    dmUrhoU am ph dict smp
      = rotateRhoProbsE n (usOf dict smp) smp.rot (fun τ τ' => Density.rho am ph (visOf τ) (visOf τ')) smp.σ := by
  rw [rotateRhoProbsE_eq, C03_urhou_is_rotated_prob]

/-- **C03.4g** … hence the Born probability `Re (K ρ Kᴴ)_{σσ}` of the dense Kronecker rotation (`C04_rho_probs_dense`). -/
theorem C03_urhou_is_born (am ph : PRBM ℝ n h a) (dict : Char → M2 ℝ) (smp : Sample n) (hZ : m2c (dict 'Z') = 1) :
    dmUrhoU am ph dict smp = bornRho (usOf dict smp) (C02.rhoMat am ph) smp.σ := by
  rw [C03_urhou_is_rotated_prob, C04_rho_probs_dense (usOf dict smp) smp.rot _ smp.σ (fun _ hj => m2c_of_not_rot dict hZ hj)]
  rfl

/-- **C03.4h (consistency of the piecewise loss)** on a reference-basis row the rotated probability is the diagonal element
`ρ(σ,σ) = exp(−E_λ(σ))`: the fast-path loss `E_λ(σ)` of `sampleLossDM` is `−log UrhoU` (no regulariser), i.e. the same
Born-rule loss as on the rotated rows with `ε = 0`. -/
theorem C03_loss_allZ_density (am ph : PRBM ℝ n h a) (dict : Char → M2 ℝ) (smp : Sample n) (hz : smp.allZ = true) :
    dmUrhoU am ph dict smp = Real.exp (-(am.effEnergy smp.vis))
    ∧ am.effEnergy smp.vis = -Real.log (dmUrhoU am ph dict smp) := by
  have h1 : dmUrhoU am ph dict smp = Real.exp (-(am.effEnergy smp.vis)) := by
    rw [C03_urhou_is_rotated_prob, C04_rho_probs, fastK_of_not_rot _ _ (allZ_rot hz)]
    simp only [Matrix.conjTranspose_one, Matrix.mul_one, Matrix.one_mul, Matrix.of_apply, toC_re]
    rw [(C02.C02_diagonal am ph _).1]
    rfl
  exact ⟨h1, by rw [h1, Real.log_exp, neg_neg]⟩

/-- **C03.4i** the per-sample loss of `C03_sample_gradient_density` is `−log(Born probability + ε·[row is rotated])`. -/
theorem C03_loss_is_born_density (am ph : PRBM ℝ n h a) (dict : Char → M2 ℝ) (eps : ℝ) (smp : Sample n)
    (hZ : m2c (dict 'Z') = 1) :
    sampleLossDM am ph dict eps smp
      = -Real.log (bornRho (usOf dict smp) (C02.rhoMat am ph) smp.σ + (if smp.allZ then 0 else eps)) := by
  unfold sampleLossDM
  rw [← C03_urhou_is_born am ph dict smp hZ]
  by_cases hz : smp.allZ = true
  · simp only [hz, if_true, add_zero]
    exact (C03_loss_allZ_density am ph dict smp hz).2
  · simp only [hz, Bool.false_eq_true, if_false]

/-- `NZall` (guard of the gradient theorems) is the C02 guard for every pair of basis states -/
theorem NZall_iff (am ph : PRBM ℝ n h a) :
    NZall am ph ↔ ∀ σ τ : Fin n → Bool, C02.NZ am ph (C02.bits σ) (C02.bits τ) := Iff.rfl

/-- **C03.4j** under the auxiliary-trace guard the rotated probability is non-negative in every basis (ρ is positive
semidefinite by the factorisation `C02.rhoMat_eq_mul_conjTranspose`, the argument of `C02_posSemidef`), so with the code's
`ε > 0` the regularised probability is strictly positive … -/
theorem C03_urhou_nonneg (am ph : PRBM ℝ n h a) (dict : Char → M2 ℝ) (smp : Sample n) (hz : NZall am ph) :
    0 ≤ dmUrhoU am ph dict smp := by
  rw [C03_urhou_is_rotated_prob, C04_rho_probs]
  have hρ : (C02.rhoMat am ph).PosSemidef := by
    rw [C02.rhoMat_eq_mul_conjTranspose am ph ((NZall_iff am ph).mp hz)]
    exact Matrix.posSemidef_self_mul_conjTranspose _
  exact C04_rho_probs_nonneg (fastK (usOf dict smp) smp.rot) (C02.rhoMat am ph) hρ smp.σ

/-- **C03.3 (mixed state, ε > 0)** … hence `compute_exact_gradients` of the DensityMatrix is the gradient of the
ε-regularised dataset NLL for EVERY dataset and every assignment of bases, under the auxiliary-trace guard alone. -/
theorem C03_exact_gradient_density_eps_pos (ram rph : ℝ → PRBM ℝ n h a) (dam dph : PRBM ℝ n h a) (t : ℝ)
    (ha : PRBM.CurveAt ram dam t) (hp : PRBM.CurveAt rph dph t) (dict : Char → M2 ℝ) (eps : ℝ) (heps : 0 < eps)
    (D : List (Sample n)) (hz : NZall (ram t) (rph t)) :
    HasDerivAt (fun s => nllDM (ram s) (rph s) dict eps D)
      ((exactGradientsDM (ram t) (rph t) dict eps D).1.pair dam
        + (exactGradientsDM (ram t) (rph t) dict eps D).2.pair dph) t :=
  C03_exact_gradient_density ram rph dam dph t ha hp dict eps D hz
    (fun smp _ => (add_pos_of_nonneg_of_pos (C03_urhou_nonneg _ _ dict smp hz) heps).ne')

theorem rhoMat_trace_re (am ph : PRBM ℝ n h a) : ((C02.rhoMat am ph).trace).re = ZsumDM am := by
  rw [Matrix.trace, Complex.re_sum]
  refine (Finset.sum_congr rfl fun σ _ => ?_).trans (sum_rows n fun τ => Real.exp (-(am.effEnergy (visOf τ)))).symm
  simp only [Matrix.diag_apply, C02.rhoMat, C02.rhoC]
  rw [(C02.C02_diagonal am ph _).1]
  rfl

/-- **C03.4k** `Z_λ` of the mixed state is the trace of `ρ`, which is the total Born probability in every basis whose
per-site matrices are unitary (`C04_rho_probs_sum`, `C02_diagonal`). -/
theorem C03_born_density_normalised (am ph : PRBM ℝ n h a) (us : Fin n → M2 ℝ)
    (hU : ∀ j, (m2c (us j))ᴴ * m2c (us j) = 1) :
    ((C02.rhoMat am ph).trace).re = ZsumDM am
    ∧ ∑ σ, bornRho us (C02.rhoMat am ph) σ = ZsumDM am := by
  refine ⟨rhoMat_trace_re am ph, ?_⟩
  have := C04_rho_probs_sum (denseK us) (C02.rhoMat am ph) (C04_dense_unitary us hU)
  rw [← rhoMat_trace_re, ← this, Complex.re_sum]
  rfl

/-- **C03.4 (mixed state)** the dataset loss differentiated in `C03_exact_gradient_density` IS the negative log-likelihood
under the Born rule up to the library's regularisation: the mean over the dataset of
`−log( (Re (K_{β_s} ρ K_{β_s}ᴴ)_{σ_s σ_s} + ε·[β_s ≠ Z…Z]) / tr ρ )`. -/
theorem C03_nll_is_born_density (am ph : PRBM ℝ n h a) (dict : Char → M2 ℝ) (hZ : m2c (dict 'Z') = 1)
    (eps : ℝ) (heps : 0 < eps) (D : List (Sample n)) (hD : D ≠ []) (hz : NZall am ph) :
    nllDM am ph dict eps D
      = (D.map (fun smp => -Real.log ((bornRho (usOf dict smp) (C02.rhoMat am ph) smp.σ + (if smp.allZ then 0 else eps))
            / ((C02.rhoMat am ph).trace).re))).sum / D.length := by
  have key : ∀ smp ∈ D,
      -Real.log ((bornRho (usOf dict smp) (C02.rhoMat am ph) smp.σ + (if smp.allZ then 0 else eps))
            / ((C02.rhoMat am ph).trace).re)
      = sampleLossDM am ph dict eps smp + Real.log (ZsumDM am) := by
    intro smp _
    have hp : bornRho (usOf dict smp) (C02.rhoMat am ph) smp.σ + (if smp.allZ then 0 else eps) ≠ 0 := by
      rw [← C03_urhou_is_born am ph dict smp hZ]
      by_cases hzz : smp.allZ = true
      · simp only [hzz, if_true, add_zero, (C03_loss_allZ_density am ph dict smp hzz).1]
        exact (Real.exp_pos _).ne'
      · simp only [hzz, Bool.false_eq_true, if_false]
        exact (add_pos_of_nonneg_of_pos (C03_urhou_nonneg am ph dict smp hz) heps).ne'
    rw [rhoMat_trace_re, Real.log_div hp (ZsumDM_pos am).ne', C03_loss_is_born_density am ph dict eps smp hZ]
    ring
  rw [List.map_congr_left key, list_mean_add_const D hD, nllDM]

/-! ### layout — the pairing is the dot product of the flattened records in `parameters()` order -/

/-- `zipWith` stops at the shorter list; where it is used both lists are flattenings of records of one shape (`C03_layout`
gives the common length) -/
def dotList (l m : List ℝ) : ℝ := (List.zipWith (· * ·) l m).sum

theorem dotList_append (l1 l2 m1 m2 : List ℝ) (hl : l1.length = m1.length) :
    dotList (l1 ++ l2) (m1 ++ m2) = dotList l1 m1 + dotList l2 m2 := by
  unfold dotList
  rw [List.zipWith_append hl, List.sum_append]

theorem dotList_map_finRange (m : ℕ) (f g : Fin m → ℝ) :
    dotList ((List.finRange m).map f) ((List.finRange m).map g) = ∑ j, f j * g j := by
  unfold dotList
  rw [List.zipWith_map, List.zipWith_self, Fin.sum_univ_def]

theorem dotList_rows (r c : ℕ) (x y : Fin r → Fin c → ℝ) :
    dotList ((List.finRange r).flatMap (fun i => (List.finRange c).map (fun j => x i j)))
        ((List.finRange r).flatMap (fun i => (List.finRange c).map (fun j => y i j)))
      = ∑ i, ∑ j, x i j * y i j := by
  induction r with
  | zero => simp [dotList]
  | succ k ih =>
    rw [List.finRange_succ, List.flatMap_cons, List.flatMap_cons, List.flatMap_map, List.flatMap_map,
      dotList_append _ _ _ _ (by simp), dotList_map_finRange, Fin.sum_univ_succ]
    congr 1
    exact ih (fun i j => x i.succ j) (fun i j => y i.succ j)

/-- **C03.4 (layout, BinaryRBM)** the pairing used by all gradient theorems is the dot product of the FLATTENED gradient with
the FLATTENED velocity, both in the order `[W row-major, b, c]` of `parameters()` (the order the harness compares with
`parameters_to_vector`, and the order `vector_to_grads` slices, `C06_lands_on_parameter`); the flat vector has
`h·n + n + h` entries. So entry `k` of the flat gradient multiplies the velocity of flat parameter `k`. -/
theorem C03_layout (g d : RBM ℝ n h) :
    g.pair d = dotList g.flatten d.flatten ∧ g.flatten.length = h * n + n + h := by
  constructor
  · unfold RBM.pair RBM.flatten
    rw [dotList_append _ _ _ _ (by simp), dotList_append _ _ _ _ (by simp),
      dotList_rows, dotList_map_finRange, dotList_map_finRange]
  · simp only [RBM.flatten, List.length_append, length_flatMap_rows, List.length_map, List.length_finRange]

/-- **C03.4 (layout, PurificationRBM)** the same in the order `[W, U, b, c, d]`. -/
theorem C03_layout_prbm (g d : PRBM ℝ n h a) :
    g.pair d = dotList g.flatten d.flatten ∧ g.flatten.length = h * n + a * n + n + h + a := by
  constructor
  · unfold PRBM.pair PRBM.flatten
    rw [dotList_append _ _ _ _ (by simp), dotList_append _ _ _ _ (by simp),
      dotList_append _ _ _ _ (by simp), dotList_append _ _ _ _ (by simp),
      dotList_rows, dotList_rows, dotList_map_finRange, dotList_map_finRange, dotList_map_finRange]
  · simp only [PRBM.flatten, List.length_append, length_flatMap_rows, List.length_map, List.length_finRange]

/-- **C03.3 (flat form)** `compute_exact_gradients` in the flat `parameters()` layout is the gradient of the NLL with respect
to the flat parameter vector: the derivative along any curve is `⟨flatten G, flatten θ'⟩`. Positive state … -/
theorem C03_exact_gradient_positive_flat (r : ℝ → RBM ℝ n h) (dr : RBM ℝ n h) (t : ℝ) (hr : RBM.CurveAt r dr t)
    {B : ℕ} (hB : 0 < B) (vs : Fin B → Fin n → ℝ) :
    HasDerivAt (fun s => nllPos (r s) vs) (dotList (exactGradientsPos (r t) vs).flatten dr.flatten) t := by
  rw [← (C03_layout _ _).1]
  exact C03_exact_gradient_positive r dr t hr hB vs

/-- … complex state (two networks, `[amplitude, phase]`) … -/
theorem C03_exact_gradient_complex_flat (ram rph : ℝ → RBM ℝ n h) (dam dph : RBM ℝ n h) (t : ℝ)
    (ha : RBM.CurveAt ram dam t) (hp : RBM.CurveAt rph dph t) (dict : Char → M2 ℝ) (D : List (Sample n))
    (hU : ∀ smp ∈ D, toC (cplxUpsi (ram t) (rph t) dict smp) ≠ 0) :
    HasDerivAt (fun s => nllCplx (ram s) (rph s) dict D)
      (dotList (exactGradientsCplx (ram t) (rph t) dict D).1.flatten dam.flatten
        + dotList (exactGradientsCplx (ram t) (rph t) dict D).2.flatten dph.flatten) t := by
  rw [← (C03_layout _ _).1, ← (C03_layout _ _).1]
  exact C03_exact_gradient_complex ram rph dam dph t ha hp dict D hU

/-- … mixed state. -/
theorem C03_exact_gradient_density_flat (ram rph : ℝ → PRBM ℝ n h a) (dam dph : PRBM ℝ n h a) (t : ℝ)
    (ha : PRBM.CurveAt ram dam t) (hp : PRBM.CurveAt rph dph t) (dict : Char → M2 ℝ) (eps : ℝ) (heps : 0 < eps)
    (D : List (Sample n)) (hz : NZall (ram t) (rph t)) :
    HasDerivAt (fun s => nllDM (ram s) (rph s) dict eps D)
      (dotList (exactGradientsDM (ram t) (rph t) dict eps D).1.flatten dam.flatten
        + dotList (exactGradientsDM (ram t) (rph t) dict eps D).2.flatten dph.flatten) t := by
  rw [← (C03_layout_prbm _ _).1, ← (C03_layout_prbm _ _).1]
  exact C03_exact_gradient_density_eps_pos ram rph dam dph t ha hp dict eps heps D hz

/-! ### a single sample (the 1-D call form unsqueezes to a batch of one) -/

theorem sum_mean_singleton {ι : Type} {s : ι} {f₁ f₂ : ι → ℝ} {g₁ g₂ p₁ p₂ : ℝ}
    (hg : g₁ = ([s].map f₁).sum ∧ g₂ = ([s].map f₂).sum)
    (hp : p₁ = ([s].map f₁).sum / ([s].length : ℕ) ∧ p₂ = ([s].map f₂).sum / ([s].length : ℕ)) :
    g₁ = f₁ s ∧ g₂ = f₂ s ∧ p₁ = f₁ s ∧ p₂ = f₂ s := by
  simpa only [List.map_cons, List.map_nil, List.sum_cons, List.sum_nil, add_zero, List.length_singleton, Nat.cast_one,
    div_one, and_assoc] using And.intro hg hp

/-- **C03.6** `gradient` of a batch of ONE row (what the 1-D call form computes after `unsqueeze(0)`) is the per-sample
gradient, and so is its positive phase (`/ 1`), for the complex and the mixed state (pairing form). -/
theorem C03_single_sample (am ph d : RBM ℝ n h) (dict : Char → M2 ℝ) (s : Sample n) :
    (gradientCplx am ph dict [s]).1.pair d = (cplxGrad1 am ph dict s).1.pair d
    ∧ (gradientCplx am ph dict [s]).2.pair d = (cplxGrad1 am ph dict s).2.pair d
    ∧ (positivePhaseCplx am ph dict [s]).1.pair d = (cplxGrad1 am ph dict s).1.pair d
    ∧ (positivePhaseCplx am ph dict [s]).2.pair d = (cplxGrad1 am ph dict s).2.pair d :=
  sum_mean_singleton (pair_gradientCplx am ph d dict [s]) (C03_batch_is_sum_complex am ph d dict [s])

theorem C03_single_sample_density (am ph d : PRBM ℝ n h a) (dict : Char → M2 ℝ) (eps : ℝ) (s : Sample n) :
    (gradientDM am ph dict eps [s]).1.pair d = (dmGrad1 am ph dict eps s).1.pair d
    ∧ (gradientDM am ph dict eps [s]).2.pair d = (dmGrad1 am ph dict eps s).2.pair d
    ∧ (positivePhaseDM am ph dict eps [s]).1.pair d = (dmGrad1 am ph dict eps s).1.pair d
    ∧ (positivePhaseDM am ph dict eps [s]).2.pair d = (dmGrad1 am ph dict eps s).2.pair d :=
  sum_mean_singleton (pair_gradientDM am ph d dict eps [s]) (C03_batch_is_sum_density am ph d dict eps [s])

/-! ### `bases=None`: a batch of reference-basis rows -/

theorem cplxGrad1_allZ (am ph : RBM ℝ n h) (dict : Char → M2 ℝ) (s : Sample n) (hz : s.allZ = true) :
    cplxGrad1 am ph dict s = (am.effEnergyGrad1 s.vis, RBM.zero) := by
  simp [cplxGrad1, hz]

theorem dmGrad1_allZ (am ph : PRBM ℝ n h a) (dict : Char → M2 ℝ) (eps : ℝ) (s : Sample n) (hz : s.allZ = true) :
    dmGrad1 am ph dict eps s = (am.effEnergyGrad1 s.vis, PRBM.zero) := by
  simp [dmGrad1, hz]

theorem sums_finRange_of_forall {ι : Type} {B : ℕ} {smp : Fin B → ι} {f₁ f₂ : ι → ℝ} {e : Fin B → ℝ} {g₁ g₂ : ℝ}
    (hg : g₁ = (((List.finRange B).map smp).map f₁).sum ∧ g₂ = (((List.finRange B).map smp).map f₂).sum)
    (h₁ : ∀ b, f₁ (smp b) = e b) (h₂ : ∀ b, f₂ (smp b) = 0) : g₁ = ∑ b, e b ∧ g₂ = 0 := by
  obtain ⟨rfl, rfl⟩ := hg
  simp only [List.map_map, ← Fin.sum_univ_def, Function.comp, h₁, h₂, Finset.sum_const_zero, and_self]

/-- **C03.7** `gradient(samples, bases=None)` — computed by the code as `[effective_energy_gradient(samples), zeros]`, the model
`gradientPos` of the amplitude network — is what the grouped per-basis accumulation `gradient(samples, bases)` returns
when every row is a reference-basis row (whatever the strings look like, as long as every letter is `Z`): the amplitude
part is the batch energy gradient (no row lost or double-counted by the grouping), the phase part is zero. -/
theorem C03_bases_none (am ph d : RBM ℝ n h) (dict : Char → M2 ℝ) {B : ℕ} (σs : Fin B → Fin n → Bool)
    (bs : Fin B → List Char) (hz : ∀ b, (⟨σs b, bs b⟩ : Sample n).allZ = true) :
    (gradientCplx am ph dict ((List.finRange B).map (fun b => (⟨σs b, bs b⟩ : Sample n)))).1.pair d
        = (gradientPos am (fun b => visOf (σs b))).pair d
    ∧ (gradientCplx am ph dict ((List.finRange B).map (fun b => (⟨σs b, bs b⟩ : Sample n)))).2.pair d = 0 := by
  rw [gradientPos, RBM.pair_effEnergyGrad]
  exact sums_finRange_of_forall (pair_gradientCplx am ph d dict _)
    (fun b => by rw [cplxGrad1_allZ am ph dict _ (hz b)]; rfl)
    (fun b => by rw [cplxGrad1_allZ am ph dict _ (hz b)]; exact RBM.pair_zero d)

theorem C03_bases_none_density (am ph d : PRBM ℝ n h a) (dict : Char → M2 ℝ) (eps : ℝ) {B : ℕ} (σs : Fin B → Fin n → Bool)
    (bs : Fin B → List Char) (hz : ∀ b, (⟨σs b, bs b⟩ : Sample n).allZ = true) :
    (gradientDM am ph dict eps ((List.finRange B).map (fun b => (⟨σs b, bs b⟩ : Sample n)))).1.pair d
        = (am.effEnergyGrad (fun b => visOf (σs b))).pair d
    ∧ (gradientDM am ph dict eps ((List.finRange B).map (fun b => (⟨σs b, bs b⟩ : Sample n)))).2.pair d = 0 := by
  rw [PRBM.pair_effEnergyGrad]
  exact sums_finRange_of_forall (pair_gradientDM am ph d dict eps _)
    (fun b => by rw [dmGrad1_allZ am ph dict eps _ (hz b)]; rfl)
    (fun b => by rw [dmGrad1_allZ am ph dict eps _ (hz b)]; exact PRBM.pair_zero d)

/-! ### the `expand=False` (default) branch of `pi_grad` -/

theorem mixingTerm_add_eq (am : PRBM ℝ n h a) (v vp : Fin n → ℝ) (k : Fin a) :
    am.mixingTerm (fun j => v j + vp j) k = Density.piArgRe am v vp k := by
  simp only [PRBM.mixingTerm, Density.piArgRe, PRBM.preactA, sumFin_eq, two_eq, add_mul, Finset.sum_add_distrib,
    mul_left_comm _ (1 / 2 : ℝ), ← Finset.mul_sum]
  ring

theorem mixingTerm_sub_eq (ph : PRBM ℝ n h a) (v vp : Fin n → ℝ) (k : Fin a) :
    ph.mixingTerm (fun j => v j - vp j) k = Density.piArgIm ph v vp k + ph.d k := by
  simp only [PRBM.mixingTerm, Density.piArgIm, sumFin_eq, two_eq, sub_mul, Finset.sum_sub_distrib,
    mul_left_comm _ (1 / 2 : ℝ), ← Finset.mul_sum]
  ring

/-- **C03.8 (scope of `pi_grad`)** the `expand=False` branch of `pi_grad` (never used by training) evaluates the complex
sigmoid at `y_k + d_μ,k` instead of `y_k`; it therefore coincides with the `expand=True` branch — the one `am_grads` /
`ph_grads` use and whose output is proved to be the gradient of `ρ` (`hasDerivAt_toC_rho`) — exactly when … the phase
network's auxiliary bias vanishes, which training maintains (`C20`: the phase aux bias receives a zero gradient). -/
theorem C03_pi_grad_branches_agree (am ph : PRBM ℝ n h a) (phase : Bool) (v vp : Fin n → ℝ) (hd : ∀ k, ph.d k = 0) :
    piGradNoExpand am ph phase v vp = piGrad am ph phase v vp := by
  unfold piGradNoExpand piGrad
  simp only [mixingTerm_add_eq, mixingTerm_sub_eq, hd, add_zero]

/-- … and differs otherwise: one auxiliary unit, all weights 0, `d_μ = π/2`: the imaginary part of the aux-bias entry is
`1/2` on the default branch and `0` on the `expand=True` branch (and `pi`, `rho` do not depend on `d_μ` at all,
`C02_rho_indep_phase_aux_bias`, so the default branch is NOT the gradient of `pi` there). -/
theorem C03_pi_grad_branches_differ :
    let am : PRBM ℝ 1 1 1 := ⟨fun _ _ => 0, fun _ _ => 0, fun _ => 0, fun _ => 0, fun _ => 0⟩
    let ph : PRBM ℝ 1 1 1 := ⟨fun _ _ => 0, fun _ _ => 0, fun _ => 0, fun _ => 0, fun _ => Real.pi / 2⟩
    (piGradNoExpand am ph false (fun _ => 0) (fun _ => 0)).2.d 0 = 1 / 2
    ∧ (piGrad am ph false (fun _ => 0) (fun _ => 0)).2.d 0 = 0 := by
  intro am ph
  constructor
  · simp only [piGradNoExpand, Bool.false_eq_true, if_false, mixingTerm_add_eq, mixingTerm_sub_eq]
    simp [am, ph, C.csigmoidH_eq, csigmoid, Density.piArgRe, Density.piArgIm, PRBM.preactA, sumFin_eq, C.div, C.mul, C.conj, C.add,
      C.one, C.normSq]
    norm_num
  · simp [piGrad, am, ph, C.csigmoidH_eq, csigmoid, Density.piArgRe, Density.piArgIm, PRBM.preactA, sumFin_eq, C.div, C.mul, C.conj,
      C.add, C.one, C.normSq]

/-! ### the complex arithmetic of the gradient model is the kernel AS CODED AT /repo HEAD

`cplxRotComp` calls `C.invH` (`cplx.inverse` after fix F17: operand scaled by its larger component) and `piGrad` /
`piGradNoExpand` call `C.csigmoidH` (`cplx.sigmoid` after F17: `1/(1+e^{-z})` in the right half plane, `e^z/(1+e^z)` in the
left one) — the SAME scalar functions the C15 tensor model applies entrywise (`C15_inverse_entry`, `C15_sigmoid_entry`).
All derivative theorems above are therefore statements about the formulas the code executes; they go through `toC_invH`
(guard `Upsi ≠ 0`, which the theorems carry anyway) and `C.csigmoidH_eq` (unconditional) of `QV.Lemmas.CplxHead`, stated at
property level as `C15_invH_eq`, `C15_csigmoidH_eq`.  The two theorems below state what that means for the gradient
components. -/

/-- **C03.9a (rotated gradient of the complex state, HEAD's inverse)**: wherever the rotated amplitude `Upsi` is non-zero, the
component the model computes with the scaled inverse is the textbook `Re[Upsi⁻¹ · Σ_τ Upsi_v[τ] · g'(τ)]` — first as the
pair formula with `C.inv = conj z / |z|²` (the code before F17), then in ℂ. -/
theorem C03_rot_comp_textbook (am ph : RBM ℝ n h) (dict : Char → M2 ℝ) (smp : Sample n) (isPhase : Bool)
    (g : (Fin n → Bool) → ℝ) (hU : toC (cplxUpsi am ph dict smp) ≠ 0) :
    cplxRotComp am ph dict smp isPhase g
      = (C.mul (C.inv (cplxUpsi am ph dict smp)) (C.sum (2 ^ n) (fun k =>
          C.mul (cplxCoef am ph dict smp (rowBits n k.val))
            (if isPhase then (0, g (rowBits n k.val)) else (g (rowBits n k.val), 0))))).1
    ∧ cplxRotComp am ph dict smp isPhase g
      = ((toC (cplxUpsi am ph dict smp))⁻¹ * ∑ k : Fin (2 ^ n), toC (cplxCoef am ph dict smp (rowBits n k.val))
          * (if isPhase then (g (rowBits n k.val) : ℂ) * Complex.I else (g (rowBits n k.val) : ℂ))).re := by
  refine (and_iff_left_of_imp fun h1 => ?_).mpr ?_
  swap
  · unfold cplxRotComp
    rw [C.invH_eq _ ((C.ne_zero_iff _).2 hU)]
    rfl
  rw [h1, ← toC_re, toC_mul, toC_inv _ hU, toC_sum]
  refine congrArg Complex.re (congrArg _ (Finset.sum_congr rfl (fun k _ => ?_)))
  have e1 : ∀ x : ℝ, toC (x, 0) = (x : ℂ) := fun x => by apply Complex.ext <;> simp
  have e2 : ∀ x : ℝ, toC (0, x) = (x : ℂ) * Complex.I := fun x => by apply Complex.ext <;> simp
  rw [toC_mul]
  cases isPhase
  · simp only [Bool.false_eq_true, if_false, e1]
  · simp only [if_true, e2]

/-- **C03.9b (`pi_grad`, HEAD's sigmoid)**: the complex sigmoid inside `pi_grad` — computed in the overflow-free branch form —
is the textbook `e^z/(1+e^z)` pair formula for EVERY argument: the aux-bias entry of `pi_grad(phase=False)` is that number,
the `U` entries are `½ · s'_k · (v_j ± v'_j)` with `s' = s` resp. `s · i`; under the guard of the mixed-state theorems
(`1 + e^{z_k} ≠ 0`) it decodes to the complex logistic function of `z_k`. -/
theorem C03_pi_grad_sigmoid (am ph : PRBM ℝ n h a) (v vp : Fin n → ℝ) (k : Fin a) :
    ((piGrad am ph false v vp).1.d k, (piGrad am ph false v vp).2.d k)
        = csigmoid (Density.piArgRe am v vp k) (Density.piArgIm ph v vp k)
    ∧ (∀ (phase : Bool) (j : Fin n),
        ((piGrad am ph phase v vp).1.U k j, (piGrad am ph phase v vp).2.U k j)
          = C.smul (1 / 2 * (if phase then v j - vp j else v j + vp j))
              (if phase then C.mul (csigmoid (Density.piArgRe am v vp k) (Density.piArgIm ph v vp k)) C.I
               else csigmoid (Density.piArgRe am v vp k) (Density.piArgIm ph v vp k)))
    ∧ ((1 : ℂ) + Complex.exp (zArg am ph v vp k) ≠ 0 →
        toC ((piGrad am ph false v vp).1.d k, (piGrad am ph false v vp).2.d k) = sigC (zArg am ph v vp k)) := by
  have h1 : ((piGrad am ph false v vp).1.d k, (piGrad am ph false v vp).2.d k)
        = csigmoid (Density.piArgRe am v vp k) (Density.piArgIm ph v vp k) := by
    simp only [piGrad, C.csigmoidH_eq, Bool.false_eq_true, if_false]
  refine ⟨h1, fun phase j => ?_, fun hz => ?_⟩
  · cases phase
    · simp only [piGrad, C.csigmoidH_eq, C.smul, two_eq, Bool.false_eq_true, if_false]
      apply Prod.ext <;> simp only <;> ring
    · simp only [piGrad, C.csigmoidH_eq, C.smul, two_eq, if_true]
      apply Prod.ext <;> simp only <;> ring
  · rw [h1]; exact toC_csigmoid _ _ hz

/-- the guard of `C03_rot_comp_textbook` (and of the complex-state theorems) is met by every reference-basis sample of every
network (`Upsi = ψ(σ) = e^{…} ≠ 0`), all sizes and parameters -/
example (am ph : RBM ℝ n h) (dict : Char → M2 ℝ) (smp : Sample n) (hz : smp.allZ = true) :
    toC (cplxUpsi am ph dict smp) ≠ 0 := by
  rw [cplxUpsi_allZ _ _ _ _ hz, toC_psiCplx]; exact Complex.exp_ne_zero _

/-- … and the scalar equality it rests on, at a concrete non-zero number -/
example : ((3, -4) : C ℝ) ≠ (0, 0) ∧ C.invH ((3, -4) : C ℝ) = C.inv (3, -4) := by
  have h : ((3, -4) : C ℝ) ≠ (0, 0) := by intro h; have := congrArg Prod.fst h; norm_num at this
  exact ⟨h, C.invH_eq _ h⟩

/-! ### non-vacuity of the hypotheses used above -/

/-- the default dictionary `create_dict()` as a function on letters; every letter other than `X`, `Y` reads as `Z` (the
`KeyError` of a missing letter belongs to `normBases`, not to the dictionary function) -/
noncomputable def defaultDict : Char → M2 ℝ := fun c => if c = 'X' then dX else if c = 'Y' then dY else dZ

/-- the default dictionary satisfies both hypotheses of the Born-rule theorems for EVERY sample: `Z ↦ 1` and every per-site
matrix of every basis string is unitary (`C04_dX_unitary`, `C04_dY_unitary`, `C04_dZ`). -/
theorem C03_default_dictionary_ok :
    m2c (defaultDict 'Z') = 1
    ∧ ∀ (smp : Sample n) (j : Fin n), (m2c (usOf defaultDict smp j))ᴴ * m2c (usOf defaultDict smp j) = 1 := by
  refine ⟨by simp [defaultDict, C04_dZ], fun smp j => ?_⟩
  unfold usOf defaultDict
  split_ifs
  · exact C04_dX_unitary
  · exact C04_dY_unitary
  · rw [C04_dZ]; simp

/-- the guard `NZall` holds e.g. whenever the phase network's auxiliary couplings are small (`C02_NZ_of_phase_weights_small`),
in particular at `U_μ = 0`, for arbitrary other parameters -/
example (am ph : PRBM ℝ n h a) (hU : ∀ k, ∑ j, |ph.U k j| < 2 * Real.pi) : NZall am ph :=
  (NZall_iff am ph).mpr (C02.C02_NZ_of_phase_weights_small am ph hU)

/-! ## the code around the formulas: call forms of `bases`, zero rotated amplitude, batch layout -/

/-- **C03.8a (call forms of `bases`, batch)** `gradient(samples, bases)` with the arguments as the caller passes them
(`gradientArgs`, neural_state.py:339-356; `core` is the grouped accumulation `gradientCplx am ph dict` /
`gradientDM am ph dict eps` that `C03_exact_gradient_*` are about, `noBases` the `bases is None` branch): for a non-empty
batch with one basis string per sample, all of one length `L ≤ n` (the code treats missing trailing sites as `Z`) and made of
`Z` and dictionary letters, the documented `list[str]` / tuple / 1-D `ndarray` form (fix F22) and the 2-D array of letters
are ACCEPTED and return the core value on the same per-sample (outcome, basis) pairs — so every theorem about
`gradientCplx` / `gradientDM` applies to every form. A model that mis-expanded a form (e.g. read the list of strings
as ONE row of letters, or dropped/duplicated a row) would fail this. -/
theorem C03_bases_forms_agree {γ : Type} (keys : List Char) (noBases : List (Fin n → Bool) → γ)
    (core : List (Sample n) → γ) (σs : List (Fin n → Bool)) (bs : List (List Char)) (hne : σs ≠ [])
    (hlen : bs.length = σs.length) (L : ℕ) (hLn : L ≤ n) (hL : ∀ b ∈ bs, b.length = L)
    (hkeys : ∀ b ∈ bs, ∀ c ∈ b, c = 'Z' ∨ c ∈ keys) :
    gradientArgs keys noBases core (.batch σs) (.seq1 bs) = .ok (core (List.zipWith Sample.mk σs bs))
    ∧ gradientArgs keys noBases core (.batch σs) (.seq2 (bs.map lettersOf))
        = .ok (core (List.zipWith Sample.mk σs bs)) := by
  have hbs : bs ≠ [] := by
    intro h0; rw [h0] at hlen; exact hne (List.length_eq_zero_iff.mp hlen.symm)
  obtain ⟨b0, bt, rfl⟩ := List.exists_cons_of_ne_nil hbs
  have hrect : rect ((b0 :: bt).map lettersOf) = .ok ((b0 :: bt).map lettersOf) :=
    rect_ok_of_lengths _ L (List.forall_mem_map.2 fun b hb => by rw [lettersOf, List.length_map]; exact hL b hb)
  have hall : ((b0 :: bt).map lettersOf).all (rowOk keys n) = true :=
    List.all_eq_true.2 (List.forall_mem_map.2 fun b hb =>
      rowOk_lettersOf keys b n (by rw [hL b hb]; exact hLn) (hkeys b hb))
  -- both container forms give `toArray` the same rectangular array, one admissible row per sample
  have key (b : BasesArg) (hb : b ≠ .none) (h : toArray b false = .ok ((b0 :: bt).map lettersOf)) :
      gradientArgs keys noBases core (.batch σs) b = .ok (core (List.zipWith Sample.mk σs (b0 :: bt))) := by
    rw [gradientArgs_ok (samples := .batch σs) hb (normBases_ok hb h (by rw [List.length_map]; exact hlen) hall)]
    exact congrArg (fun l => Except.ok (core l)) (zipWith_toSample_lettersOf σs _)
  exact ⟨key _ nofun hrect, key _ nofun hrect⟩

/-- **C03.8b (call forms, 1-D single sample)** the 1-D call form named in the quantifier: the basis as a Python `str`, as a
list / 1-D char array of letters, as a one-row 2-D array — and the batch of one with `[str]` — all return the core value on
the single pair `(σ, b)` (`C03_single_sample*` then give the per-sample gradient). -/
theorem C03_bases_forms_agree_1d {γ : Type} (keys : List Char) (noBases : List (Fin n → Bool) → γ)
    (core : List (Sample n) → γ) (σ : Fin n → Bool) (b : List Char) (hL : b.length ≤ n)
    (hkeys : ∀ c ∈ b, c = 'Z' ∨ c ∈ keys) :
    gradientArgs keys noBases core (.one σ) (.str b) = .ok (core [⟨σ, b⟩])
    ∧ gradientArgs keys noBases core (.one σ) (.seq1 (lettersOf b)) = .ok (core [⟨σ, b⟩])
    ∧ gradientArgs keys noBases core (.one σ) (.seq2 [lettersOf b]) = .ok (core [⟨σ, b⟩])
    ∧ gradientArgs keys noBases core (.batch [σ]) (.seq1 [b]) = .ok (core [⟨σ, b⟩]) := by
  have hrow := rowOk_lettersOf keys b n hL hkeys
  have hts := toSample_lettersOf σ b
  refine ⟨?_, ?_, ?_, ?_⟩
  · simp [gradientArgs, normBases, toArray, SamplesArg.isOne, SamplesArg.rows, hrow, hts]
  · simp [gradientArgs, normBases, toArray, SamplesArg.isOne, SamplesArg.rows, hrow, hts]
  · simp [gradientArgs, normBases, toArray, rect, SamplesArg.isOne, SamplesArg.rows, hrow, hts]
  · simp [gradientArgs, normBases, toArray, rect, SamplesArg.isOne, SamplesArg.rows, hrow, hts]

/-- **C03.8c (refusals)** what `gradient` refuses, as coded: a single `str` for a 2-D batch (0-d array), an empty `bases`,
a number of basis rows different from the number of samples (either container form), strings / rows of different
lengths; and whatever it ACCEPTS has one row per sample whose entries are `"Z"` or one-letter dictionary keys. -/
theorem C03_bases_forms_refused (keys : List Char) (nS nSites : ℕ) :
    (∀ s, ∃ e, normBases (.str s) false nS nSites keys = .error e)
    ∧ (∃ e, normBases (.seq1 []) false nS nSites keys = .error e)
    ∧ (∃ e, normBases (.seq2 []) false nS nSites keys = .error e)
    ∧ (∀ l : List Letter, l.length ≠ nS → ∃ e, normBases (.seq1 l) false nS nSites keys = .error e)
    ∧ (∀ l : List (List Letter), l.length ≠ nS → ∃ e, normBases (.seq2 l) false nS nSites keys = .error e)
    ∧ (∀ (r : List Letter) (rs : List (List Letter)) (x : List Letter), x ∈ rs → x.length ≠ r.length →
        ∃ e, normBases (.seq2 (r :: rs)) false nS nSites keys = .error e)
    ∧ (∀ b oneD arr, normBases b oneD nS nSites keys = .ok arr →
        arr.length = nS ∧ ∀ row ∈ arr, ∀ e ∈ row, e = ['Z'] ∨ ∃ c ∈ keys, e = [c]) := by
  refine ⟨fun s => ⟨.ValueError, rfl⟩, ⟨.ValueError, rfl⟩, ⟨.ValueError, rfl⟩, ?_, ?_, ?_,
    fun _ _ _ => normBases_ok_entries⟩
  · intro l hl
    cases l with
    | nil => exact ⟨.ValueError, rfl⟩
    | cons s l =>
      exact normBases_error_of_rect (.seq1 (s :: l)) false ((s :: l).map lettersOf) nofun rfl (by rwa [List.length_map])
  · intro l hl
    cases l with
    | nil => exact ⟨.ValueError, rfl⟩
    | cons s l => exact normBases_error_of_rect (.seq2 (s :: l)) false (s :: l) nofun rfl hl
  · intro r rs x hx hne
    exact ⟨.ValueError, by simp only [normBases, toArray, Bool.false_eq_true, if_false, rect_error_of_ragged r rs x hx hne]⟩

/-- satisfiable, non-trivially: two samples on two sites, `list[str]` bases `["XZ", "ZY"]` with the default letters -/
example : ([[false, true], [true, true]].map (fun l => fun (j : Fin 2) => l.getD j.val false)) ≠ []
    ∧ (["XZ".toList, "ZY".toList] : List (List Char)).length = 2
    ∧ (∀ b ∈ (["XZ".toList, "ZY".toList] : List (List Char)), b.length = 2)
    ∧ (∀ b ∈ (["XZ".toList, "ZY".toList] : List (List Char)), ∀ c ∈ b, c = 'Z' ∨ c ∈ ['X', 'Y', 'Z']) :=
  ⟨List.cons_ne_nil _ _, rfl, by decide, by decide⟩

/-- **C03.9 (zero rotated amplitude)** `ComplexWaveFunction.rotated_gradient` divides by the rotated
amplitude `Upsi` with no regulariser (`cplx.inverse(Upsi)`); `C03_sample_gradient_complex` carries `Upsi ≠ 0`. That guard
excludes EXACTLY the samples on which the loss itself is undefined: `Upsi = 0` iff the Born probability of the sample's
outcome in its own basis (dense Kronecker rotation, C04) is zero iff its negative log-likelihood term, computed in the
extended reals, is `+∞`. The left side is reachable (`C03_zero_amplitude_reachable`). What the code returns at such a point
(`nan`: `0/0`, as does the Float model; counted by the harness probe `zero-amplitude`) is NOT part of this statement; the value
the real-number model takes there is the separate `C03_zero_amplitude_real_model_artifact`. -/
theorem C03_zero_amplitude_iff_infinite_nll (am ph : RBM ℝ n h) (dict : Char → M2 ℝ) (smp : Sample n)
    (hZ : m2c (dict 'Z') = 1) :
    (toC (cplxUpsi am ph dict smp) = 0 ↔ bornPsi (usOf dict smp) (psiOf am ph) smp.σ = 0)
    ∧ (bornPsi (usOf dict smp) (psiOf am ph) smp.σ = 0
        ↔ -(ENNReal.log (ENNReal.ofReal (bornPsi (usOf dict smp) (psiOf am ph) smp.σ))) = (⊤ : EReal)) := by
  refine ⟨?_, ?_⟩
  · unfold bornPsi
    rw [← C03_upsi_is_dense_amplitude am ph dict smp hZ, Complex.normSq_eq_zero]
  · rw [EReal.neg_eq_top_iff, ENNReal.log_eq_bot_iff, ENNReal.ofReal_eq_zero]
    have h0 : 0 ≤ bornPsi (usOf dict smp) (psiOf am ph) smp.σ := Complex.normSq_nonneg _
    constructor
    · intro h; rw [h]
    · intro h; exact le_antisymm h h0

/-- **ARTEFACT of totalised division — NOT a statement about the code.** At `Upsi = 0` the REAL-number model gives `0` for every
component of the rotated gradient, only because `x / 0 = 0` in Lean's ℝ (`C.invH (0, 0) = (0, 0)`). The code (and the Float
model the driver runs) computes `0/0 = nan` there: no finite gradient exists at such a point and none is claimed. Recorded so
that nobody reads the real-model value as a prediction; used by no other theorem. -/
theorem C03_zero_amplitude_real_model_artifact (am ph : RBM ℝ n h) (dict : Char → M2 ℝ) (smp : Sample n)
    (hU : toC (cplxUpsi am ph dict smp) = 0) (isPhase : Bool) (g : (Fin n → Bool) → ℝ) :
    cplxRotComp am ph dict smp isPhase g = 0 := by
  have hU0 : cplxUpsi am ph dict smp = (0, 0) := by
    by_contra hne
    exact ((C.ne_zero_iff _).1 hne) hU
  unfold cplxRotComp
  rw [hU0, C.invH_zero]
  simp [C.inv, C.mul, C.conj, C.normSq]

def zeroRBM (n h : ℕ) : RBM ℝ n h := ⟨fun _ _ => 0, fun _ => 0, fun _ => 0⟩

/-- **a reachable zero rotated amplitude** (so the left side of `C03_zero_amplitude_iff_infinite_nll` is not vacuous): one
visible unit, any number of hidden units, ALL parameters of both networks zero (`ψ(0) = ψ(1)`), default dictionary, the sample
"outcome 1 measured in basis X": `Upsi = (ψ(0) − ψ(1)) / √2 = 0`. Hence its Born probability is `0` and its NLL term `+∞`
— the data point `("1", "X")` at the uniform state `|+⟩`, where `rotated_gradient` divides `0` by `0`. -/
theorem C03_zero_amplitude_reachable (h : ℕ) :
    cplxUpsi (zeroRBM 1 h) (zeroRBM 1 h) defaultDict ⟨fun _ => true, ['X']⟩ = (0, 0)
    ∧ toC (cplxUpsi (zeroRBM 1 h) (zeroRBM 1 h) defaultDict ⟨fun _ => true, ['X']⟩) = 0
    ∧ bornPsi (usOf defaultDict (⟨fun _ => true, ['X']⟩ : Sample 1)) (psiOf (zeroRBM 1 h) (zeroRBM 1 h)) (fun _ => true) = 0
    ∧ -(ENNReal.log (ENNReal.ofReal
          (bornPsi (usOf defaultDict (⟨fun _ => true, ['X']⟩ : Sample 1)) (psiOf (zeroRBM 1 h) (zeroRBM 1 h)) (fun _ => true))))
        = (⊤ : EReal) := by
  have h0 : cplxUpsi (zeroRBM 1 h) (zeroRBM 1 h) defaultDict ⟨fun _ => true, ['X']⟩ = (0, 0) := by
    -- with all parameters zero `ψ` is the same number at both basis states
    have hp : Wave.psiCplx (zeroRBM 1 h) (zeroRBM 1 h) (visOf (fun _ : Fin 1 => false))
        = Wave.psiCplx (zeroRBM 1 h) (zeroRBM 1 h) (visOf (fun _ : Fin 1 => true)) := by
      simp [Wave.psiCplx, Wave.amplitude, Wave.phase, RBM.effEnergy, RBM.preact, zeroRBM, dot, sumFin, Fin.foldl_succ]
    simp only [cplxUpsi, C.sum, Nat.pow_one]
    simp [Fin.foldl_succ, cplxCoef, Unitaries.agreesOff, Unitaries.rotCoeff, C.prod, Sample.rot, Sample.letter, defaultDict,
      List.finRange, C.mul, C.add, C.zero, C.one, Unitaries.dX, spaceBit]
    rw [hp]
    constructor <;> ring
  have hC : toC (cplxUpsi (zeroRBM 1 h) (zeroRBM 1 h) defaultDict ⟨fun _ => true, ['X']⟩) = 0 := by
    rw [h0]; apply Complex.ext <;> simp
  have hiff := C03_zero_amplitude_iff_infinite_nll (zeroRBM 1 h) (zeroRBM 1 h) defaultDict
    (⟨fun _ => true, ['X']⟩ : Sample 1) (by simp [defaultDict, C04_dZ])
  have hB := hiff.1.1 hC
  exact ⟨h0, hC, hB, hiff.2.1 hB⟩

/-- **C03.10a (batch layout of `gamma_grad`)** the tensor `PurificationRBM.gamma_grad(v, vp, eta, expand)` returns
(`gammaGradT`: `unsqueezed`, `batch_sizes`, the `.view(*batch_sizes, -1)` index arithmetic `q ↦ [q / n, q % n]`, the offsets
of `torch.cat([W, U, b, c, d], -1)`, the squeeze) holds, at `[i, j, :]` (`expand=True`, shape `(B, B', P)`) resp. `[i, :]`
(`expand=False`, two batches of `B` rows, or `B ≠ 1` rows of `v` against a single row of `vp`, shape `(B, P)`) resp. `[:]`
(1-D operands, shape `(P,)`), the per-pair record `gammaGrad` (which `dmAmGrads` / `dmPhGrads` of
`C03_sample_gradient_density` add to `piGrad`) for the pair `(v_i, vp_j)` resp. `(v_i, vp_i)` / `(v_i, vp_0)` in the
`parameters()` order `PRBM.flatten` (the order `C03_layout_prbm` / `C06_lands_on_parameter_prbm` are about); with
`expand=False`, a `vp` with neither as many rows as `v` nor one row is refused.
A swapped `unsqueeze` axis, a transposed `view`, a wrong block order or offset in the model would fail this. -/
theorem C03_gamma_grad_layout (r : PRBM ℝ n h a) (sgn : ℝ) (v vp : RowsArg ℝ n) :
    (∃ t, gammaGradT r sgn true v vp = .ok t ∧ t.shape = [v.B, vp.B, h * n + a * n + n + h + a]
      ∧ ∀ i j q, t.get [i, j, q] = (gammaGrad r sgn (v.row i) (vp.row j)).flatten.getD q 0)
    ∧ (∀ B, v.batch = some B → vp.batch = some B →
        ∃ t, gammaGradT r sgn false v vp = .ok t ∧ t.shape = [B, h * n + a * n + n + h + a]
          ∧ ∀ i q, i < B → t.get [i, q] = (gammaGrad r sgn (v.row i) (vp.row i)).flatten.getD q 0)
    ∧ (∀ B, B ≠ 1 → v.batch = some B → vp.B = 1 →
        ∃ t, gammaGradT r sgn false v vp = .ok t ∧ t.shape = [B, h * n + a * n + n + h + a]
          ∧ ∀ i q, t.get [i, q] = (gammaGrad r sgn (v.row i) (vp.row 0)).flatten.getD q 0)
    ∧ ((v.batch = none ∨ vp.batch = none) → v.B = 1 → vp.B = 1 →
        ∃ t, gammaGradT r sgn false v vp = .ok t ∧ t.shape = [h * n + a * n + n + h + a]
          ∧ ∀ q, t.get [q] = (gammaGrad r sgn (v.row 0) (vp.row 0)).flatten.getD q 0)
    ∧ (vp.B ≠ v.B → vp.B ≠ 1 → gammaGradT r sgn false v vp = .error .RuntimeError) :=
  ⟨layoutT_expand v vp _, fun B hv hvp => layoutT_paired v vp _ B hv hvp,
   fun B hB hv hvp => layoutT_broadcast v vp _ B hB hv hvp, fun hu hB hBp => layoutT_1d v vp _ hu hB hBp,
   fun h1 h2 => layoutT_refused v vp _ h1 h2⟩

/-- **C03.10b (batch layout of `pi_grad`)** the same for `DensityMatrix.pi_grad(v, vp, phase, expand)` (`piGradT`), real and
imaginary part: `expand=True` holds the record `piGrad` of the pair `(v_i, vp_j)` at `[i, j, :]`; `expand=False` (the default,
which evaluates the sigmoid at `mixing_term(v ± vp)`: `piGradNoExpand`, see `C03_pi_grad_branches_*`) the record of
`(v_i, vp_i)` at `[i, :]`; 1-D operands give the squeezed `(P,)` record. With `expand=False`, batch sizes that neither agree
nor broadcast onto `v`'s are refused, except `phase=True` with a one-row `v`: the code accepts that call and returns a tensor that
is not a per-pair layout (`piGradOddT`; only its shape `(1, h·n + B'·a·n + n + h + a)`, squeezed for a 1-D operand, is stated). -/
theorem C03_pi_grad_layout (am ph : PRBM ℝ n h a) (phase : Bool) (v vp : RowsArg ℝ n) :
    (∃ t, piGradT am ph phase true v vp = .ok t
      ∧ t.1.shape = [v.B, vp.B, h * n + a * n + n + h + a] ∧ t.2.shape = [v.B, vp.B, h * n + a * n + n + h + a]
      ∧ ∀ i j q, t.1.get [i, j, q] = (piGrad am ph phase (v.row i) (vp.row j)).1.flatten.getD q 0
          ∧ t.2.get [i, j, q] = (piGrad am ph phase (v.row i) (vp.row j)).2.flatten.getD q 0)
    ∧ (∀ B, v.batch = some B → vp.batch = some B →
        ∃ t, piGradT am ph phase false v vp = .ok t
          ∧ t.1.shape = [B, h * n + a * n + n + h + a] ∧ t.2.shape = [B, h * n + a * n + n + h + a]
          ∧ ∀ i q, i < B → t.1.get [i, q] = (piGradNoExpand am ph phase (v.row i) (vp.row i)).1.flatten.getD q 0
              ∧ t.2.get [i, q] = (piGradNoExpand am ph phase (v.row i) (vp.row i)).2.flatten.getD q 0)
    ∧ ((v.batch = none ∨ vp.batch = none) → v.B = 1 → vp.B = 1 →
        ∃ t, piGradT am ph phase false v vp = .ok t
          ∧ t.1.shape = [h * n + a * n + n + h + a] ∧ t.2.shape = [h * n + a * n + n + h + a]
          ∧ ∀ q, t.1.get [q] = (piGradNoExpand am ph phase (v.row 0) (vp.row 0)).1.flatten.getD q 0
              ∧ t.2.get [q] = (piGradNoExpand am ph phase (v.row 0) (vp.row 0)).2.flatten.getD q 0)
    ∧ (vp.B ≠ v.B → vp.B ≠ 1 → (phase = false ∨ v.B ≠ 1) → ∃ e, piGradT am ph phase false v vp = .error e)
    ∧ (vp.B ≠ 1 → v.B = 1 → ∃ t, piGradT am ph true false v vp = .ok t
        ∧ t.1.shape = (if (v.isOne || vp.isOne) = true then [h * n + vp.B * (a * n) + n + h + a]
            else [1, h * n + vp.B * (a * n) + n + h + a])) := by
  refine ⟨?_, ?_, ?_, ?_, ?_⟩
  · obtain ⟨t1, h1, s1, g1⟩ := layoutT_expand v vp (fun i j => (piGrad am ph phase (v.row i) (vp.row j)).1)
    obtain ⟨t2, h2, s2, g2⟩ := layoutT_expand v vp (fun i j => (piGrad am ph phase (v.row i) (vp.row j)).2)
    exact ⟨(t1, t2), by simp only [piGradT, if_true, h1, h2], s1, s2, fun i j q => ⟨g1 i j q, g2 i j q⟩⟩
  · intro B hv hvp
    obtain ⟨t1, h1, s1, g1⟩ := layoutT_paired v vp (fun i j => (piGradNoExpand am ph phase (v.row i) (vp.row j)).1) B hv hvp
    obtain ⟨t2, h2, s2, g2⟩ := layoutT_paired v vp (fun i j => (piGradNoExpand am ph phase (v.row i) (vp.row j)).2) B hv hvp
    exact ⟨(t1, t2), by simp only [piGradT, Bool.false_eq_true, if_false, h1, h2], s1, s2,
      fun i q hi => ⟨g1 i q hi, g2 i q hi⟩⟩
  · intro hu hB hBp
    obtain ⟨t1, h1, s1, g1⟩ := layoutT_1d v vp (fun i j => (piGradNoExpand am ph phase (v.row i) (vp.row j)).1) hu hB hBp
    obtain ⟨t2, h2, s2, g2⟩ := layoutT_1d v vp (fun i j => (piGradNoExpand am ph phase (v.row i) (vp.row j)).2) hu hB hBp
    exact ⟨(t1, t2), by simp only [piGradT, Bool.false_eq_true, if_false, h1, h2], s1, s2, fun q => ⟨g1 q, g2 q⟩⟩
  · intro h1 h2 h3
    refine ⟨.RuntimeError, ?_⟩
    have hc : (phase && v.B == 1) = false := by
      rcases h3 with h3 | h3
      · simp [h3]
      · simp [h3]
    simp only [piGradT, Bool.false_eq_true, if_false, layoutT_refused v vp _ h1 h2, hc]
  · intro h2 hB
    have h1 : vp.B ≠ v.B := by rw [hB]; exact h2
    refine ⟨(piGradOddT am ph v vp Prod.fst, piGradOddT am ph v vp Prod.snd), ?_, ?_⟩
    · simp only [piGradT, Bool.false_eq_true, if_false, layoutT_refused v vp _ h1 h2, hB, Bool.true_and,
        beq_self_eq_true, if_true]
    · show (piGradOddT am ph v vp Prod.fst).shape = _
      rw [piGradOddT, apply_ite FT.shape]; rfl

/-- operands for the `expand=True` case with different batch sizes: `B = 2`, `B' = 3` rows on two sites -/
example : ∃ v vp : RowsArg ℝ 2, v.B = 2 ∧ vp.B = 3 ∧ v.batch = some 2 :=
  ⟨⟨some 2, fun i j => if i = 0 then 1 else j.val⟩, ⟨some 3, fun i _ => if i = 1 then 1 else 0⟩, rfl, rfl, rfl⟩

end QV.Props
