/-
C04 — Measurement-basis rotations equal the tensor-product unitary they denote.

"For every basis string over the state's unitary dictionary, rotating a wavefunction or density
matrix (given explicitly or taken from the model), and computing rotated amplitudes or rotated Born
probabilities of any batch of outcomes, gives exactly what the dense Kronecker product of the per-site
unitaries gives: U psi, U rho U^dagger, and their entries/diagonal. The default dictionary maps Z to
the identity and X, Y to unitaries whose rows are the +1 and -1 eigenvectors (in that order) of the
Pauli X and Y operators, and the rotated probabilities of a physical state are non-negative and sum to
its normalisation in every basis."

Model: QV.Model.Unitaries (executed against qucumber/utils/unitaries.py by the C04 correspondence); the keyword conversion of
`create_dict` in QV.Model.ArgConv.
The rotation theorems: ∀ n, ∀ per-site 2×2 complex matrices (not only the default dictionary), ∀ ψ, ρ.

Partial / trusted. Everything is over ℝ: no rounding bound. The fast paths `rotate_psi_inner_prod` / `rotate_rho_probs` leave
a site alone when its LETTER is `Z`: they are proved equal to `fastK` (the identity at those sites) and reach the dense product
`denseK` only for a dictionary whose `Z` entry is the identity; for `create_dict(Z=U)`, `U ≠ 1`, they differ from it (known
finding F20, witness `C04_Z_override_fast_ne_dense`). `rotate_rho` of a non-Hermitian ρ is `K ρᴴ Kᴴ` (`C04_rotate_rho`); such a
ρ is outside the property's quantifier. The explicit-operand branch of the fast paths (`psi[:, idx]`,
`rho[:, idx.unsqueeze(1), idx.unsqueeze(0)]`: the place of F2, fix 0af21d9) is not in the model: the fast-path theorems take ψ, ρ as
functions of basis states, and the lookup `ψ τ = psi[basisIndex τ]`, `ρ a b = rho[basisIndex a][basisIndex b]` is done by the driver
(`DriverLib/C04.lean`); only the index itself is proved (`C04_index_convention`, `C04_convert_basis_batch`).
-/
import Mathlib.LinearAlgebra.Matrix.PosDef
import Mathlib.LinearAlgebra.Matrix.Kronecker
import Mathlib.Analysis.SpecialFunctions.Sqrt
import QV.Lemmas.Kron
import QV.Lemmas.KronLoop
import QV.Lemmas.Hilbert
import QV.Lemmas.Expand
import QV.Real
import QV.Props.C01
import QV.Props.C02
import QV.Lemmas.ArgConv

namespace QV.Props
open QV Finset Unitaries Matrix
open scoped ComplexOrder

variable {n : ℕ}

/-- a per-site matrix decoded as a complex 2×2 matrix indexed by bits -/
def m2c (m : M2 ℝ) : Matrix Bool Bool ℂ := fun r c => toC (m r c)

/-- **Specification**: the dense tensor-product operator, `K(σ,τ) = Π_j U_j(σ_j, τ_j)`. -/
def denseK (us : Fin n → M2 ℝ) : Matrix (Fin n → Bool) (Fin n → Bool) ℂ :=
  fun σ τ => ∏ j, m2c (us j) (σ j) (τ j)

/-- a flat complex vector (position `k` ↔ basis state with big-endian index `k`) as a vector over bit-strings -/
def psiVec (ψ : ℕ → C ℝ) : (Fin n → Bool) → ℂ := fun τ => toC (ψ (idxOf τ))
/-- a flat complex matrix as a matrix over bit-strings -/
def rhoMat (ρ : ℕ → ℕ → C ℝ) : Matrix (Fin n → Bool) (Fin n → Bool) ℂ :=
  fun σ τ => toC (ρ (idxOf σ) (idxOf τ))

/-- position `k` of every array is the basis state whose big-endian expansion is `k`:
`idxOf` agrees with the model of `_convert_basis_element_to_index`. -/
theorem C04_index_convention (σ : Fin n → Bool) : basisIndex σ = idxOf σ := basisIndex_eq_sum σ

/-- **C04.1/3a** `rotate_psi` (= `_kron_mult` stage by stage, with the code's strides) is the dense
operator applied to ψ. -/
theorem C04_rotate_psi (us : Fin n → M2 ℝ) (ψ : ℕ → C ℝ) :
    psiVec (rotatePsi n us ψ) = (denseK us).mulVec (psiVec ψ) := by
  funext σ
  exact kronMult_dense (V := ℂ) C.add C.mul toC toC_add toC_mul us ψ σ

/-- row-valued `_kron_mult` is the dense operator applied to every column: a matrix product -/
theorem rhoMat_kronMult (us : Fin n → M2 ℝ) (x : ℕ → Row ℝ) :
    rhoMat (n := n) (kronMult addRow actRow n us x) = denseK us * rhoMat x := by
  ext σ τ
  exact (congrFun (kronMult_dense (V := ℕ → ℂ) addRow actRow (fun r j => toC (r j))
    (fun _ _ => funext fun _ => toC_add _ _) (fun _ _ => funext fun _ => toC_mul _ _) us x σ) (idxOf τ)).trans
    (Finset.sum_apply _ _ _)

/-- **C04.3b** `rotate_rho` is `K ρᴴ Kᴴ` for EVERY complex matrix ρ (the code conjugate-transposes between
its two `_kron_mult` calls) … -/
theorem C04_rotate_rho (us : Fin n → M2 ℝ) (ρ : ℕ → ℕ → C ℝ) :
    rhoMat (n := n) (rotateRho n us ρ) = denseK us * (rhoMat ρ)ᴴ * (denseK us)ᴴ := by
  have hc (y : ℕ → ℕ → C ℝ) : rhoMat (n := n) (fun i j => C.conj (y j i)) = (rhoMat y)ᴴ := by
    ext σ τ
    exact toC_conj _
  rw [rotateRho, rhoMat_kronMult, hc, rhoMat_kronMult, Matrix.conjTranspose_mul, Matrix.mul_assoc]

/-- … hence `K ρ Kᴴ` for a Hermitian ρ. -/
theorem C04_rotate_rho_hermitian (us : Fin n → M2 ℝ) (ρ : ℕ → ℕ → C ℝ)
    (hρ : (rhoMat (n := n) ρ).IsHermitian) :
    rhoMat (n := n) (rotateRho n us ρ) = denseK us * rhoMat ρ * (denseK us)ᴴ := by
  rw [C04_rotate_rho, hρ.eq]

/-- **C04.2** the dense operator is the iterated Kronecker product, site 0 the LEFTMOST factor … -/
theorem C04_dense_eq_kronecker (us : Fin (n + 1) → M2 ℝ) (σ τ : Fin (n + 1) → Bool) :
    denseK us σ τ
      = (Matrix.kroneckerMap (· * ·) (m2c (us 0)) (denseK (fun j : Fin n => us j.succ)))
          (σ 0, fun j => σ j.succ) (τ 0, fun j => τ j.succ) := by
  exact Fin.prod_univ_succ _

/-- … and the most significant bit of the array position (C19): `idx σ = σ_0·2^n + idx (tail σ)`. -/
theorem C04_site0_msb (σ : Fin (n + 1) → Bool) :
    idxOf σ = (if σ 0 then 2 ^ n else 0) + idxOf (fun j : Fin n => σ j.succ) := idxOf_succ σ

/-! ### the fast paths `rotate_psi_inner_prod` / `rotate_rho_probs` -/

/-- the operator the fast path applies: the dictionary matrix on rotated sites, the IDENTITY on sites whose
letter is `Z` (whatever the dictionary says for `Z`). -/
def fastK (us : Fin n → M2 ℝ) (rot : Fin n → Bool) : Matrix (Fin n → Bool) (Fin n → Bool) ℂ :=
  fun σ τ => ∏ j, if rot j then m2c (us j) (σ j) (τ j) else if σ j = τ j then 1 else 0

theorem fastK_apply (us : Fin n → M2 ℝ) (rot : Fin n → Bool) (σ τ : Fin n → Bool) :
    fastK us rot σ τ = if agreesOff n rot σ τ then toC (rotCoeff n us rot σ τ) else 0 := by
  rw [fastK, rotCoeff, toC_prod]
  by_cases h : agreesOff n rot σ τ = true
  · rw [if_pos h]
    rw [agreesOff_iff] at h
    refine Finset.prod_congr rfl fun j _ => ?_
    cases hr : rot j
    · rw [if_neg Bool.false_ne_true, if_neg Bool.false_ne_true, if_pos (h j hr).symm, toC_one]
    · rfl
  · rw [if_neg h]
    rw [agreesOff_iff] at h
    push Not at h
    obtain ⟨j, hr, hne⟩ := h
    exact Finset.prod_eq_zero (mem_univ j) (by rw [hr, if_neg Bool.false_ne_true, if_neg (Ne.symm hne)])

theorem fastK_of_not_rot (us : Fin n → M2 ℝ) (rot : Fin n → Bool) (h : ∀ j, rot j = false) : fastK us rot = 1 := by
  ext σ τ
  simp only [fastK, h, Bool.false_eq_true, if_false, Matrix.one_apply, Finset.prod_ite_zero, Finset.prod_const_one,
    Finset.mem_univ, forall_true_left, funext_iff]

/-- the fast path's operator is the dense one whenever the dictionary maps every non-rotated letter to 1 -/
theorem C04_fastK_eq_dense (us : Fin n → M2 ℝ) (rot : Fin n → Bool)
    (hZ : ∀ j, rot j = false → m2c (us j) = 1) : fastK us rot = denseK us := by
  funext σ τ
  unfold fastK denseK
  refine Finset.prod_congr rfl (fun j _ => ?_)
  by_cases hr : rot j
  · simp [hr]
  · have := hZ j (by simpa using hr)
    simp [hr, this, Matrix.one_apply]

/-- **C04.4** `rotate_psi_inner_prod(basis, σ)` is entry σ of `K ψ` (ψ from the model or given explicitly —
the explicit path only looks ψ up by index, `C04_index_convention`). -/
theorem C04_inner_prod (us : Fin n → M2 ℝ) (rot : Fin n → Bool) (ψ : (Fin n → Bool) → C ℝ)
    (σ : Fin n → Bool) :
    toC (rotatePsiInnerProd n us rot ψ σ) = (fastK us rot).mulVec (fun τ => toC (ψ τ)) σ := by
  rw [toC_rotatePsiInnerProd]
  simp only [Matrix.mulVec, dotProduct, fastK_apply, ite_mul, zero_mul]

theorem C04_inner_prod_dense (us : Fin n → M2 ℝ) (rot : Fin n → Bool) (ψ : (Fin n → Bool) → C ℝ)
    (σ : Fin n → Bool) (hZ : ∀ j, rot j = false → m2c (us j) = 1) :
    toC (rotatePsiInnerProd n us rot ψ σ) = (denseK us).mulVec (fun τ => toC (ψ τ)) σ := by
  rw [C04_inner_prod, C04_fastK_eq_dense us rot hZ]

/-- **C04.5** `rotate_rho_probs(basis, σ)` is the real part of the diagonal entry of `K ρ Kᴴ`. -/
theorem C04_rho_probs (us : Fin n → M2 ℝ) (rot : Fin n → Bool)
    (ρ : (Fin n → Bool) → (Fin n → Bool) → C ℝ) (σ : Fin n → Bool) :
    rotateRhoProbs n us rot ρ σ
      = ((fastK us rot * (Matrix.of fun a b => toC (ρ a b)) * (fastK us rot)ᴴ) σ σ).re := by
  rw [rotateRhoProbs_eq_sum]
  simp only [Matrix.mul_apply, Matrix.conjTranspose_apply, Matrix.of_apply, Complex.re_sum, Finset.sum_mul]
  conv_rhs => rw [Finset.sum_comm]
  refine Finset.sum_congr rfl fun τ1 _ => Finset.sum_congr rfl fun τ2 _ => ?_
  rw [fastK_apply, fastK_apply]
  cases agreesOff n rot σ τ1
  · simp only [Bool.false_and, Bool.false_eq_true, if_false, zero_mul, Complex.zero_re]
  cases agreesOff n rot σ τ2
  · simp only [Bool.and_false, Bool.false_eq_true, if_false, star_zero, mul_zero, Complex.zero_re]
  · simp only [Bool.and_self, if_true, ← toC_re, toC_mul, toC_conj, starRingEnd_apply, mul_right_comm]

/-- with an identity for every non-rotated letter: the diagonal of the dense `K ρ Kᴴ` -/
theorem C04_rho_probs_dense (us : Fin n → M2 ℝ) (rot : Fin n → Bool)
    (ρ : (Fin n → Bool) → (Fin n → Bool) → C ℝ) (σ : Fin n → Bool)
    (hZ : ∀ j, rot j = false → m2c (us j) = 1) :
    rotateRhoProbs n us rot ρ σ
      = ((denseK us * (Matrix.of fun a b => toC (ρ a b)) * (denseK us)ᴴ) σ σ).re := by
  rw [C04_rho_probs, C04_fastK_eq_dense us rot hZ]


/-! ### the fast paths AS CODED: `_rotate_basis_state` enumerates the expanded states (what the driver executes)

`rotatePsiInnerProdE` / `rotateRhoProbsE` fold over `expandStates n rot σ` — the list `v` the code builds by writing
`generate_hilbert_space(size = #rotated)` into the rotated sites — in list order. -/

/-- **C04.4/5 (enumeration)** what `_rotate_basis_state` enumerates, for every basis pattern and sample:
the expanded states are pairwise distinct; they are exactly the states that agree with the sample on every non-rotated
site; there are `2^#rotated` of them; the list is a reordering of the full space (in `generate_hilbert_space()` order)
filtered by `agreesOff`; and the ORDER is the code's: state number `i` carries, at the `p`-th rotated site (sites in
increasing order, `rotSites n rot = (finRange n).filter rot`), bit `m-1-p` of `i` — row `i` of the size-`m` space, big-endian. -/
theorem C04_expand_enumerates (rot σ : Fin n → Bool) :
    (expandStates n rot σ).Nodup
    ∧ (∀ τ, τ ∈ expandStates n rot σ ↔ ∀ j, rot j = false → τ j = σ j)
    ∧ (expandStates n rot σ).length = 2 ^ (univ.filter (fun s : Fin n => rot s = true)).card
    ∧ (expandStates n rot σ).Perm ((allStates n).filter (fun τ => agreesOff n rot σ τ))
    ∧ (∀ (i : ℕ) (hi : i < (expandStates n rot σ).length) (p : Fin (rotSites n rot).length),
        (expandStates n rot σ)[i] ((rotSites n rot)[p.val])
          = Nat.testBit i ((rotSites n rot).length - 1 - p.val)) := by
  refine ⟨expandStates_nodup rot σ, fun τ => ?_, expandStates_length rot σ, expandStates_perm rot σ, ?_⟩
  · rw [mem_expandStates_iff, agreesOff_iff]
  · intro i hi p
    rw [expandStates_getElem]
    exact expandAt_site rot σ i p

/-- **C04.4 (as coded)** `rotate_psi_inner_prod(basis, σ)` computed by enumerating the expanded states is entry σ of `K ψ`. -/
theorem C04_inner_prod_enum (us : Fin n → M2 ℝ) (rot : Fin n → Bool) (ψ : (Fin n → Bool) → C ℝ)
    (σ : Fin n → Bool) :
    toC (rotatePsiInnerProdE n us rot ψ σ) = (fastK us rot).mulVec (fun τ => toC (ψ τ)) σ := by
  rw [rotatePsiInnerProdE_eq, C04_inner_prod]

theorem C04_inner_prod_enum_dense (us : Fin n → M2 ℝ) (rot : Fin n → Bool) (ψ : (Fin n → Bool) → C ℝ)
    (σ : Fin n → Bool) (hZ : ∀ j, rot j = false → m2c (us j) = 1) :
    toC (rotatePsiInnerProdE n us rot ψ σ) = (denseK us).mulVec (fun τ => toC (ψ τ)) σ := by
  rw [C04_inner_prod_enum, C04_fastK_eq_dense us rot hZ]

/-- **C04.5 (as coded)** `rotate_rho_probs(basis, σ)` computed by the double enumeration is the real part of the diagonal
entry of `K ρ Kᴴ`. -/
theorem C04_rho_probs_enum (us : Fin n → M2 ℝ) (rot : Fin n → Bool)
    (ρ : (Fin n → Bool) → (Fin n → Bool) → C ℝ) (σ : Fin n → Bool) :
    rotateRhoProbsE n us rot ρ σ
      = ((fastK us rot * (Matrix.of fun a b => toC (ρ a b)) * (fastK us rot)ᴴ) σ σ).re := by
  rw [rotateRhoProbsE_eq, C04_rho_probs]

theorem C04_rho_probs_enum_dense (us : Fin n → M2 ℝ) (rot : Fin n → Bool)
    (ρ : (Fin n → Bool) → (Fin n → Bool) → C ℝ) (σ : Fin n → Bool)
    (hZ : ∀ j, rot j = false → m2c (us j) = 1) :
    rotateRhoProbsE n us rot ρ σ
      = ((denseK us * (Matrix.of fun a b => toC (ρ a b)) * (denseK us)ᴴ) σ σ).re := by
  rw [C04_rho_probs_enum, C04_fastK_eq_dense us rot hZ]

/-- the coefficients `Ut_i` paired with the states by `_rotate_basis_state` are the entries of row σ of the fast-path
operator at the enumerated states -/
theorem C04_rotate_basis_state (us : Fin n → M2 ℝ) (rot σ : Fin n → Bool) :
    (rotateBasisState n us rot σ).map (fun cv => (toC cv.1, cv.2))
      = (expandStates n rot σ).map (fun v => (fastK us rot σ v, v)) := by
  unfold rotateBasisState
  rw [List.map_map]
  refine List.map_congr_left (fun v hv => ?_)
  simp only [Function.comp, fastK_apply, (mem_expandStates_iff rot σ v).mp hv, if_true]

/-- non-vacuity / order witness: 3 sites, the middle one not rotated, sample `σ = (1,1,0)`: the four expanded states in the
code's order are `010, 011, 110, 111` (site 0 is the slow bit of the size-2 space) -/
example :
    (expandStates 3 ![true, false, true] ![true, true, false]).map (fun v => (List.finRange 3).map v)
      = [[false, true, false], [false, true, true], [true, true, false], [true, true, true]] := by
  decide


/-! ### the loop form of `_kron_mult` (what the driver executes) -/

/-- **C04.1 (loops)** `rotate_psi` computed with the code's three nested loops and in-place slice updates is the dense
operator applied to ψ. -/
theorem C04_rotate_psi_loop (us : Fin n → M2 ℝ) (ψ : List (C ℝ)) (hψ : ψ.length = 2 ^ n) :
    (fun σ : Fin n → Bool => toC ((rotatePsiL n us ψ).getD (idxOf σ) default))
      = (denseK us).mulVec (fun τ => toC (ψ.getD (idxOf τ) default)) := by
  funext σ
  calc toC ((rotatePsiL n us ψ).getD (idxOf σ) default)
      = psiVec (rotatePsi n us fun j => ψ.getD j default) σ :=
        congrArg toC (kronMultLoop_eq C.add C.mul n us ψ hψ _ (idxOf_lt σ))
    _ = _ := congrFun (C04_rotate_psi us _) σ

/-- **C04.3 (loops)** `rotate_rho` computed with the code's loops (rows carried along, conjugate transpose in between) is
`K ρᴴ Kᴴ`, entry by entry. -/
theorem C04_rotate_rho_loop (us : Fin n → M2 ℝ) (ρ : List (Row ℝ)) (hρ : ρ.length = 2 ^ n) :
    (Matrix.of fun σ τ : Fin n → Bool => toC ((rotateRhoL n us ρ).getD (idxOf σ) default (idxOf τ)))
      = denseK us * (rhoMat (fun i j => ρ.getD i default j))ᴴ * (denseK us)ᴴ := by
  rw [← C04_rotate_rho us (fun i j => ρ.getD i default j)]
  funext σ τ
  simp only [rhoMat, Matrix.of_apply]
  rw [rotateRhoL_eq n us ρ hρ _ _ (idxOf_lt σ) (idxOf_lt τ)]

/-! ### unitarity and physical probabilities -/

/-- if every per-site matrix is unitary, so is the dense operator -/
theorem C04_dense_unitary (us : Fin n → M2 ℝ) (hU : ∀ j, (m2c (us j))ᴴ * m2c (us j) = 1) :
    (denseK us)ᴴ * denseK us = 1 := by
  ext τ τ'
  calc ((denseK us)ᴴ * denseK us) τ τ'
      = ∑ σ : Fin n → Bool, ∏ j, star (m2c (us j) (σ j) (τ j)) * m2c (us j) (σ j) (τ' j) := by
        simp only [Matrix.mul_apply, Matrix.conjTranspose_apply, denseK, star_prod, Finset.prod_mul_distrib]
    _ = ∏ j, ∑ b, star (m2c (us j) b (τ j)) * m2c (us j) b (τ' j) := by
        rw [Finset.prod_univ_sum, Fintype.piFinset_univ]
    _ = (1 : Matrix _ _ ℂ) τ τ' := by
        have key (j : Fin n) : ∑ b, star (m2c (us j) b (τ j)) * m2c (us j) b (τ' j) = if τ j = τ' j then 1 else 0 := by
          rw [← Matrix.one_apply, ← hU j]
          rfl
        simp only [key, Matrix.one_apply, Finset.prod_ite_zero, Finset.prod_const_one, Finset.mem_univ, forall_true_left,
          funext_iff]

theorem unitary_mulVec_normSq {ι : Type*} [Fintype ι] [DecidableEq ι] (K : Matrix ι ι ℂ) (hK : Kᴴ * K = 1) (v : ι → ℂ) :
    ∑ σ, Complex.normSq (K.mulVec v σ) = ∑ σ, Complex.normSq (v σ) := by
  have conv (w : ι → ℂ) : ((∑ σ, Complex.normSq (w σ) : ℝ) : ℂ) = star w ⬝ᵥ w := by
    simp only [dotProduct, Pi.star_apply, Complex.ofReal_sum, Complex.normSq_eq_conj_mul_self, Complex.star_def]
  apply Complex.ofReal_injective
  rw [conv, conv, Matrix.star_mulVec, Matrix.dotProduct_mulVec, Matrix.vecMul_vecMul, hK, Matrix.vecMul_one]

/-- **C04.7a** rotated Born probabilities of a wavefunction sum to its squared norm in every basis -/
theorem C04_psi_probs_sum (us : Fin n → M2 ℝ) (hU : ∀ j, (m2c (us j))ᴴ * m2c (us j) = 1) (ψ : ℕ → C ℝ) :
    ∑ σ : Fin n → Bool, Complex.normSq (psiVec (rotatePsi n us ψ) σ)
      = ∑ σ : Fin n → Bool, Complex.normSq (psiVec (n := n) ψ σ) := by
  rw [C04_rotate_psi]
  exact unitary_mulVec_normSq _ (C04_dense_unitary us hU) _

/-- **C04.7b** rotated probabilities of a positive-semidefinite ρ are non-negative … -/
theorem C04_rho_probs_nonneg (K ρ : Matrix (Fin n → Bool) (Fin n → Bool) ℂ) (hρ : ρ.PosSemidef)
    (σ : Fin n → Bool) : 0 ≤ ((K * ρ * Kᴴ) σ σ).re := by
  have h := hρ.mul_mul_conjTranspose_same K
  have := h.diag_nonneg (i := σ)
  exact (Complex.nonneg_iff.mp this).1

/-- … and sum to the trace of ρ when `K` is unitary. -/
theorem C04_rho_probs_sum (K ρ : Matrix (Fin n → Bool) (Fin n → Bool) ℂ) (hK : Kᴴ * K = 1) :
    ∑ σ, (K * ρ * Kᴴ) σ σ = Matrix.trace ρ := by
  show Matrix.trace (K * ρ * Kᴴ) = Matrix.trace ρ
  rw [Matrix.trace_mul_cycle, hK, Matrix.one_mul]

/-! ### the default dictionary -/

theorem invSqrt2_sq : (invSqrt2 : ℝ) * invSqrt2 = 1 / 2 := by
  simp only [invSqrt2, two_eq, transc_sqrt]
  rw [div_mul_div_comm, Real.mul_self_sqrt (by norm_num)]; norm_num

/-! Pauli matrices and the eigenvalue pattern, rows/columns indexed by the bit (false = 0, true = 1) -/

def pauliX : Matrix Bool Bool ℂ := fun r c => if r = c then 0 else 1
def pauliY : Matrix Bool Bool ℂ := fun r c => if r = c then 0 else if r then Complex.I else -Complex.I
def diagPM : Matrix Bool Bool ℂ := fun r c => if r = c then (if r then -1 else 1) else 0

/-- **C04.6a** `Z ↦ identity` -/
theorem C04_dZ : m2c (dZ : M2 ℝ) = 1 := by
  funext r c
  cases r <;> cases c <;> rfl

/-- a 2×2 matrix with rows `(a, b)`, `(a, −b)` and `|a|² = |b|² = 1/2` is unitary: the shape of the default `X` and `Y` -/
theorem unitary_of_rows (U : Matrix Bool Bool ℂ) (h0 : U true false = U false false) (h1 : U true true = -U false true)
    (ha : Complex.normSq (U false false) = 1 / 2) (hb : Complex.normSq (U false true) = 1 / 2) : Uᴴ * U = 1 := by
  have half (z : ℂ) (hz : Complex.normSq z = 1 / 2) : star z * z + star z * z = 1 := by
    rw [Complex.star_def, ← Complex.normSq_eq_conj_mul_self, hz, ← Complex.ofReal_add, add_halves, Complex.ofReal_one]
  ext r c
  rw [Matrix.mul_apply, Fintype.sum_bool, Matrix.conjTranspose_apply, Matrix.conjTranspose_apply]
  cases r <;> cases c
  · rw [h0, half _ ha, Matrix.one_apply_eq]
  · rw [h0, h1, mul_neg, neg_add_cancel, Matrix.one_apply_ne (by decide)]
  · rw [h1, h0, star_neg, neg_mul, neg_add_cancel, Matrix.one_apply_ne (by decide)]
  · rw [h1, star_neg, neg_mul_neg, half _ hb, Matrix.one_apply_eq]

theorem mul_pauliX (U : Matrix Bool Bool ℂ) (r c : Bool) : (U * pauliX) r c = U r (!c) := by
  rw [Matrix.mul_apply, Fintype.sum_bool]
  cases c <;> simp [pauliX]

theorem mul_pauliY (U : Matrix Bool Bool ℂ) (r c : Bool) :
    (U * pauliY) r c = U r (!c) * if c then -Complex.I else Complex.I := by
  rw [Matrix.mul_apply, Fintype.sum_bool]
  cases c <;> simp [pauliY]

theorem diagPM_mul (U : Matrix Bool Bool ℂ) (r c : Bool) : (diagPM * U) r c = if r then -U r c else U r c := by
  rw [Matrix.mul_apply, Fintype.sum_bool]
  cases r <;> simp [diagPM]

/-- **C04.6b** `X` is unitary and its rows are the bras of the +1, −1 eigenvectors of σ_x, in that order:
`U σ_x = diag(+1,−1) U`. -/
theorem C04_dX_unitary : (m2c (dX : M2 ℝ))ᴴ * m2c dX = 1 := by
  have ha : Complex.normSq (m2c (dX : M2 ℝ) false false) = 1 / 2 := by
    show Complex.normSq ⟨invSqrt2, 0⟩ = _
    rw [Complex.normSq_mk, mul_zero, add_zero, invSqrt2_sq]
  exact unitary_of_rows _ rfl (Complex.ofReal_neg _) ha ha

theorem C04_dX_eigen : m2c (dX : M2 ℝ) * pauliX = diagPM * m2c dX := by
  ext r c
  rw [mul_pauliX, diagPM_mul]
  cases r <;> cases c
  · rfl
  · rfl
  · exact Complex.ofReal_neg _
  · exact (neg_eq_iff_eq_neg.mpr (Complex.ofReal_neg _)).symm

theorem C04_dY_unitary : (m2c (dY : M2 ℝ))ᴴ * m2c dY = 1 := by
  refine unitary_of_rows _ rfl (Complex.ext neg_zero.symm (neg_neg _).symm) ?_ ?_
  · show Complex.normSq ⟨invSqrt2, 0⟩ = _
    rw [Complex.normSq_mk, mul_zero, add_zero, invSqrt2_sq]
  · show Complex.normSq ⟨0, -invSqrt2⟩ = _
    rw [Complex.normSq_mk, mul_zero, zero_add, neg_mul_neg, invSqrt2_sq]

theorem C04_dY_eigen : m2c (dY : M2 ℝ) * pauliY = diagPM * m2c dY := by
  ext r c
  rw [mul_pauliY, diagPM_mul]
  cases r <;> cases c <;> apply Complex.ext <;> simp [m2c, dY]

/-- non-vacuity: the default dictionary satisfies the unitarity hypothesis used above, for any basis string -/
example (basis : Fin 3 → Fin 3) :
    let us : Fin 3 → M2 ℝ := fun j => match basis j with | 0 => dX | 1 => dY | _ => dZ
    ∀ j, (m2c (us j))ᴴ * m2c (us j) = 1 := by
  intro us j
  simp only [us]
  split
  · exact C04_dX_unitary
  · exact C04_dY_unitary
  · rw [C04_dZ]; simp


/-! ## Dictionary resolution (`_unitaries_of`, `create_dict`), the `Z` letter, composed physical probabilities -/

/-- SPEC side: the per-site matrices a basis string denotes over a dictionary -/
def usOfDict (d : UDict ℝ) (basis : Fin n → Char) : Fin n → M2 ℝ := fun j => (d.lookup (basis j)).getD dZ

theorem siteUs_ok (d : UDict ℝ) (use : Fin n → Bool) (basis : Fin n → Char)
    (h : ∀ j, use j = true → (d.lookup (basis j)).isSome = true) :
    siteUs d use basis = .ok (usOfDict d basis) := by
  unfold siteUs
  rw [if_pos]
  · rfl
  · refine List.all_eq_true.mpr (fun j _ => ?_)
    cases hu : use j
    · simp
    · simp [h j hu]

theorem siteUs_err (d : UDict ℝ) (use : Fin n → Bool) (basis : Fin n → Char)
    (h : ∃ j, use j = true ∧ d.lookup (basis j) = none) :
    siteUs d use basis = .error .KeyError := by
  obtain ⟨j, hu, hl⟩ := h
  unfold siteUs
  rw [if_neg]
  intro hall
  have := List.all_eq_true.mp hall j (List.mem_finRange j)
  simp [hu, hl] at this

theorem C04_unitaries_of (given own : Option (UDict ℝ)) :
    (∀ e d, given = some (e :: d) → unitariesOf given own = e :: d)
    ∧ ((given = none ∨ given = some []) → ∀ o, own = some o → unitariesOf given own = o)
    ∧ ((given = none ∨ given = some []) → own = none → unitariesOf given own = createDict []) := by
  refine ⟨?_, ?_, ?_⟩
  · rintro e d rfl; rfl
  · rintro (rfl | rfl) o rfl <;> rfl
  · rintro (rfl | rfl) rfl <;> rfl

theorem C04_create_dict (kw : UDict ℝ) (c : Char) :
    (createDict kw).lookup c = (kw.lookup c).or ((createDict ([] : UDict ℝ)).lookup c)
    ∧ (createDict ([] : UDict ℝ)).lookup 'X' = some dX
    ∧ (createDict ([] : UDict ℝ)).lookup 'Y' = some dY
    ∧ (createDict ([] : UDict ℝ)).lookup 'Z' = some dZ
    ∧ (c ≠ 'X' → c ≠ 'Y' → c ≠ 'Z' → (createDict ([] : UDict ℝ)).lookup c = none) := by
  refine ⟨List.lookup_append .., rfl, rfl, rfl, fun h1 h2 h3 => ?_⟩
  simp only [createDict, List.nil_append, List.lookup_cons, beq_false_of_ne h1, beq_false_of_ne h2, beq_false_of_ne h3,
    List.lookup_nil]


/-! ### the four entry points from the dictionary resolution on -/

theorem C04_rotate_psi_dict (given own : Option (UDict ℝ)) (basis : Fin n → Char) (ψ : List (C ℝ)) :
    (∀ j, ((unitariesOf given own).lookup (basis j)).isSome = true) → ψ.length = 2 ^ n →
      ∃ out, rotatePsiD given own basis ψ = .ok out ∧
        (fun σ : Fin n → Bool => toC (out.getD (idxOf σ) default))
          = (denseK (usOfDict (unitariesOf given own) basis)).mulVec (fun τ => toC (ψ.getD (idxOf τ) default)) := by
  intro hall hψ
  refine ⟨rotatePsiL n (usOfDict (unitariesOf given own) basis) ψ, ?_, C04_rotate_psi_loop _ ψ hψ⟩
  unfold rotatePsiD
  rw [siteUs_ok _ _ _ (fun j _ => hall j)]
  simp [hψ, bind, Except.bind, pure, Except.pure]

theorem C04_rotate_psi_dict_errors (given own : Option (UDict ℝ)) (basis : Fin n → Char) (ψ : List (C ℝ)) :
    ((∃ j, (unitariesOf given own).lookup (basis j) = none) → rotatePsiD given own basis ψ = .error .KeyError)
    ∧ ((∀ j, ((unitariesOf given own).lookup (basis j)).isSome = true) → ψ.length ≠ 2 ^ n →
        rotatePsiD given own basis ψ = .error .ValueError) := by
  constructor
  · rintro ⟨j, hj⟩
    unfold rotatePsiD
    rw [siteUs_err _ _ _ ⟨j, rfl, hj⟩]
    rfl
  · intro hall hψ
    unfold rotatePsiD
    rw [siteUs_ok _ _ _ (fun j _ => hall j)]
    have : (2 ^ n != ψ.length) = true := by simpa using fun h => hψ h.symm
    simp [this, bind, Except.bind, throw, throwThe, MonadExceptOf.throw]

theorem C04_rotate_rho_dict (given own : Option (UDict ℝ)) (basis : Fin n → Char) (ρ : List (Row ℝ)) :
    (∀ j, ((unitariesOf given own).lookup (basis j)).isSome = true) → ρ.length = 2 ^ n →
      ∃ out, rotateRhoD given own basis ρ = .ok out ∧
        (Matrix.of fun σ τ : Fin n → Bool => toC (out.getD (idxOf σ) default (idxOf τ)))
          = denseK (usOfDict (unitariesOf given own) basis) * (rhoMat (fun i j => ρ.getD i default j))ᴴ
              * (denseK (usOfDict (unitariesOf given own) basis))ᴴ := by
  intro hall hρ
  refine ⟨rotateRhoL n (usOfDict (unitariesOf given own) basis) ρ, ?_, C04_rotate_rho_loop _ ρ hρ⟩
  unfold rotateRhoD
  rw [siteUs_ok _ _ _ (fun j _ => hall j)]
  simp [hρ, bind, Except.bind, pure, Except.pure]

/-- the fast paths test the LETTER: a site that is not rotated carries the letter `Z`, hence the matrix the dictionary
gives `Z`; if that is the identity, every non-rotated site carries the identity -/
theorem m2c_of_not_rot (dict : Char → M2 ℝ) (hZ : m2c (dict 'Z') = 1) {c : Char} (hc : (c != 'Z') = false) :
    m2c (dict c) = 1 := by
  rwa [show c = 'Z' by simpa using hc]

/-- the same for a dictionary given as an association list (a missing `Z` entry reads as the default `dZ`) -/
theorem usOfDict_Z (d : UDict ℝ) (basis : Fin n → Char) (hZ : ∀ m, d.lookup 'Z' = some m → m2c m = 1) :
    ∀ j, rotOf basis j = false → m2c (usOfDict d basis j) = 1 := by
  refine fun j hj => m2c_of_not_rot (fun c => (d.lookup c).getD dZ) ?_ hj
  cases hl : d.lookup 'Z' with
  | none => exact C04_dZ
  | some m => exact hZ m hl

theorem C04_inner_prod_dict (given own : Option (UDict ℝ)) (basis : Fin n → Char)
    (ψ : (Fin n → Bool) → C ℝ) (σ : Fin n → Bool) :
    ((∀ j, basis j ≠ 'Z' → ((unitariesOf given own).lookup (basis j)).isSome = true) →
      ∃ z, rotatePsiInnerProdD given own basis ψ σ = .ok z
        ∧ toC z = (fastK (usOfDict (unitariesOf given own) basis) (rotOf basis)).mulVec (fun τ => toC (ψ τ)) σ
        ∧ ((∀ m, (unitariesOf given own).lookup 'Z' = some m → m2c m = 1) →
            toC z = (denseK (usOfDict (unitariesOf given own) basis)).mulVec (fun τ => toC (ψ τ)) σ))
    ∧ ((∃ j, basis j ≠ 'Z' ∧ (unitariesOf given own).lookup (basis j) = none) →
        rotatePsiInnerProdD given own basis ψ σ = .error .KeyError) := by
  constructor
  · intro hall
    refine ⟨rotatePsiInnerProdE n (usOfDict (unitariesOf given own) basis) (rotOf basis) ψ σ, ?_,
      C04_inner_prod_enum _ _ ψ σ, fun hZ => C04_inner_prod_enum_dense _ _ ψ σ (usOfDict_Z _ basis hZ)⟩
    unfold rotatePsiInnerProdD
    rw [siteUs_ok _ _ _ (fun j hj => hall j (by simpa [rotOf] using hj))]
    rfl
  · rintro ⟨j, hj, hl⟩
    unfold rotatePsiInnerProdD
    rw [siteUs_err _ _ _ ⟨j, by simpa [rotOf] using hj, hl⟩]
    rfl

theorem C04_rho_probs_dict (given own : Option (UDict ℝ)) (basis : Fin n → Char)
    (ρ : (Fin n → Bool) → (Fin n → Bool) → C ℝ) (σ : Fin n → Bool) :
    ((∀ j, basis j ≠ 'Z' → ((unitariesOf given own).lookup (basis j)).isSome = true) →
      ∃ p, rotateRhoProbsD given own basis ρ σ = .ok p
        ∧ p = ((fastK (usOfDict (unitariesOf given own) basis) (rotOf basis) * (Matrix.of fun a b => toC (ρ a b))
                * (fastK (usOfDict (unitariesOf given own) basis) (rotOf basis))ᴴ) σ σ).re
        ∧ ((∀ m, (unitariesOf given own).lookup 'Z' = some m → m2c m = 1) →
            p = ((denseK (usOfDict (unitariesOf given own) basis) * (Matrix.of fun a b => toC (ρ a b))
                * (denseK (usOfDict (unitariesOf given own) basis))ᴴ) σ σ).re))
    ∧ ((∃ j, basis j ≠ 'Z' ∧ (unitariesOf given own).lookup (basis j) = none) →
        rotateRhoProbsD given own basis ρ σ = .error .KeyError) := by
  constructor
  · intro hall
    refine ⟨rotateRhoProbsE n (usOfDict (unitariesOf given own) basis) (rotOf basis) ρ σ, ?_,
      C04_rho_probs_enum _ _ ρ σ, fun hZ => C04_rho_probs_enum_dense _ _ ρ σ (usOfDict_Z _ basis hZ)⟩
    unfold rotateRhoProbsD
    rw [siteUs_ok _ _ _ (fun j hj => hall j (by simpa [rotOf] using hj))]
    rfl
  · rintro ⟨j, hj, hl⟩
    unfold rotateRhoProbsD
    rw [siteUs_err _ _ _ ⟨j, by simpa [rotOf] using hj, hl⟩]
    rfl

/-- an all-`Z` basis string: no letter is looked up, nothing is rotated, the sample's own amplitude comes back -/
theorem rotatePsiInnerProdD_allZ (given own : Option (UDict ℝ)) (basis : Fin n → Char) (ψ : (Fin n → Bool) → C ℝ)
    (σ : Fin n → Bool) (hZ : ∀ j, basis j = 'Z') : rotatePsiInnerProdD given own basis ψ σ = .ok (ψ σ) := by
  have hr : rotOf basis = fun _ => false := funext fun j => by simp [rotOf, hZ j]
  rw [rotatePsiInnerProdD, hr, siteUs_ok _ _ _ fun _ hj => absurd hj Bool.false_ne_true]
  exact congrArg Except.ok (rotatePsiInnerProdE_of_not_rot _ ψ σ)

/-! ### the fast paths never read the matrix of a non-rotated site -/

/-- the fast-path operator is the dense operator of the basis string in which every non-rotated site carries the
IDENTITY (the default `Z`), whatever `us` holds there -/
theorem C04_fastK_eq_dense_patched (us : Fin n → M2 ℝ) (rot : Fin n → Bool) :
    fastK us rot = denseK (fun j => if rot j then us j else dZ) := by
  funext σ τ
  unfold fastK denseK
  refine Finset.prod_congr rfl (fun j _ => ?_)
  by_cases hr : rot j
  · simp [hr]
  · simp [hr, C04_dZ, Matrix.one_apply]

/-- `rotate_psi_inner_prod` / `rotate_rho_probs` do not depend on the matrices at sites whose letter is `Z` -/
theorem C04_fast_paths_ignore_unrotated (us us' : Fin n → M2 ℝ) (rot : Fin n → Bool)
    (h : ∀ j, rot j = true → us j = us' j) (σ : Fin n → Bool) :
    (∀ ψ, rotatePsiInnerProdE n us rot ψ σ = rotatePsiInnerProdE n us' rot ψ σ)
    ∧ (∀ ρ, rotateRhoProbsE n us rot ρ σ = rotateRhoProbsE n us' rot ρ σ) := by
  have hK : fastK us rot = fastK us' rot := by
    rw [C04_fastK_eq_dense_patched, C04_fastK_eq_dense_patched]
    congr 1
    funext j
    by_cases hr : rot j
    · simp [hr, h j hr]
    · simp [hr]
  constructor
  · intro ψ
    apply toC_injective
    rw [C04_inner_prod_enum, C04_inner_prod_enum, hK]
  · intro ρ
    rw [C04_rho_probs_enum, C04_rho_probs_enum, hK]

/-- unitarity of the fast-path operator needs unitarity at the ROTATED sites only -/
theorem C04_fastK_unitary (us : Fin n → M2 ℝ) (rot : Fin n → Bool)
    (hU : ∀ j, rot j = true → (m2c (us j))ᴴ * m2c (us j) = 1) :
    (fastK us rot)ᴴ * fastK us rot = 1 := by
  rw [C04_fastK_eq_dense_patched]
  refine C04_dense_unitary _ fun j => ?_
  cases hr : rot j
  · rw [if_neg Bool.false_ne_true, C04_dZ, Matrix.conjTranspose_one, Matrix.one_mul]
  · rw [if_pos rfl]
    exact hU j hr

/-! ### physical probabilities of the MODEL's states through the fast paths -/

/-- **C04.7a (fast path)** the rotated Born probabilities `|rotate_psi_inner_prod(basis, σ)|²` summed over all outcomes
equal `Σ|ψ|²`, for every ψ and every basis pattern whose ROTATED sites carry unitaries. -/
theorem C04_inner_prod_probs_sum (us : Fin n → M2 ℝ) (rot : Fin n → Bool)
    (hU : ∀ j, rot j = true → (m2c (us j))ᴴ * m2c (us j) = 1) (ψ : (Fin n → Bool) → C ℝ) :
    ∑ σ, Complex.normSq (toC (rotatePsiInnerProdE n us rot ψ σ)) = ∑ σ, Complex.normSq (toC (ψ σ)) := by
  simp_rw [C04_inner_prod_enum]
  exact unitary_mulVec_normSq _ (C04_fastK_unitary us rot hU) _

/-- a wavefunction with `|ψ(v)|² = probability(v, Z = 1)`: the fast-path probabilities sum to the normalisation `Z_λ` -/
theorem model_probs_sum {h : ℕ} (am : RBM ℝ n h) (ψ : (Fin n → ℝ) → C ℝ)
    (hψ : ∀ v, (ψ v).1 ^ 2 + (ψ v).2 ^ 2 = Wave.probability am v 1) (us : Fin n → M2 ℝ) (rot : Fin n → Bool)
    (hU : ∀ j, rot j = true → (m2c (us j))ᴴ * m2c (us j) = 1) :
    ∑ σ, Complex.normSq (toC (rotatePsiInnerProdE n us rot (fun τ => ψ (fun j => bit (τ j))) σ))
      = Wave.normalization am (fun k : Fin (2 ^ n) => (spaceRow n k.val : Fin n → ℝ)) := by
  rw [C04_inner_prod_probs_sum us rot hU, C01_normalization]
  refine Finset.sum_congr rfl fun σ _ => ?_
  rw [← hψ, Complex.normSq_apply, sq, sq]
  rfl

/-- **C04.7 (model wavefunction)** for the model's complex wavefunction `ψ_λμ` the rotated probabilities computed by the
fast path are non-negative (squared moduli) and sum to the reported normalisation `Z_λ`, in every basis. -/
theorem C04_model_probs_physical_psi {h : ℕ} (am ph : RBM ℝ n h) (us : Fin n → M2 ℝ) (rot : Fin n → Bool)
    (hU : ∀ j, rot j = true → (m2c (us j))ᴴ * m2c (us j) = 1) :
    ∑ σ, Complex.normSq (toC (rotatePsiInnerProdE n us rot (fun τ => Wave.psiCplx am ph (fun j => bit (τ j))) σ))
      = Wave.normalization am (fun k : Fin (2 ^ n) => (spaceRow n k.val : Fin n → ℝ)) :=
  model_probs_sum am _ (C01_normSq_psi_complex am ph) us rot hU

/-- … and for the positive wavefunction. -/
theorem C04_model_probs_physical_pos {h : ℕ} (am : RBM ℝ n h) (us : Fin n → M2 ℝ) (rot : Fin n → Bool)
    (hU : ∀ j, rot j = true → (m2c (us j))ᴴ * m2c (us j) = 1) :
    ∑ σ, Complex.normSq (toC (rotatePsiInnerProdE n us rot (fun τ => Wave.psiPos am (fun j => bit (τ j))) σ))
      = Wave.normalization am (fun k : Fin (2 ^ n) => (spaceRow n k.val : Fin n → ℝ)) :=
  model_probs_sum am _ (C01_normSq_psi_positive am) us rot hU

/-- **C04.7 (model density matrix)** "the rotated probabilities of a physical state are non-negative and sum to its
normalisation in every basis", for the MODEL's density matrix through the fast path AS CODED: under the guard of C02
(`NZ` for all pairs of basis states; see `C02_NZ_of_amp_off_hyperplanes`) `rotate_rho_probs(basis, σ) ≥ 0`, and — when the
rotated sites carry unitaries — they sum over all `2ⁿ` outcomes to `normalization`. No hypothesis on the dictionary's `Z`. -/
theorem C04_model_probs_physical {h a : ℕ} (am ph : PRBM ℝ n h a) (us : Fin n → M2 ℝ) (rot : Fin n → Bool)
    (hNZ : ∀ σ τ : Fin n → Bool, C02.NZ am ph (C02.bits σ) (C02.bits τ)) :
    (∀ σ, 0 ≤ rotateRhoProbsE n us rot (fun s t => Density.rho am ph (C02.bits s) (C02.bits t)) σ)
    ∧ ((∀ j, rot j = true → (m2c (us j))ᴴ * m2c (us j) = 1) →
        ∑ σ, rotateRhoProbsE n us rot (fun s t => Density.rho am ph (C02.bits s) (C02.bits t)) σ
          = Density.normalization am (fun k : Fin (2 ^ n) => (spaceRow n k.val : Fin n → ℝ))) := by
  have hM : (Matrix.of fun a b : Fin n → Bool => toC (Density.rho am ph (C02.bits a) (C02.bits b)))
      = C02.rhoMat am ph := rfl
  have hpsd : (C02.rhoMat am ph).PosSemidef := by
    rw [C02.rhoMat_eq_mul_conjTranspose am ph hNZ]
    exact Matrix.posSemidef_self_mul_conjTranspose _
  constructor
  · intro σ
    rw [C04_rho_probs_enum, hM]
    exact C04_rho_probs_nonneg _ _ hpsd σ
  · intro hU
    simp_rw [C04_rho_probs_enum, hM]
    rw [← Complex.re_sum, C04_rho_probs_sum _ _ (C04_fastK_unitary us rot hU), ← (C02.C02_trace am ph).1,
      Matrix.trace, Complex.re_sum, ← sum_rows n (fun σ => (Matrix.diag (C02.rhoMat am ph) σ).re)]
    rfl

/-! ### operands taken from the model -/

theorem spaceRow_idxOf (σ : Fin n → Bool) : (spaceRow n (idxOf σ) : Fin n → ℝ) = C02.bits σ := by
  funext j
  simp only [spaceRow, C02.bits, spaceBit_idxOf]

/-- **C04.3c (density matrix TAKEN FROM THE MODEL)**: `rotate_rho(nn_state, basis, space)` with
`rho = nn_state.rho(space, space)` — the matrix of the PRBM model over the generated Hilbert space — is EXACTLY
`U ρ_λμ U†`, for every parameter setting and with no hypothesis: `C04_rotate_rho_hermitian` composed with the Hermiticity of
the model's matrix (C02: `C02_hermitian_entry`, the fact behind `C02_hermitian`). -/
theorem C04_rotate_rho_model {h a : ℕ} (am ph : PRBM ℝ n h a) (us : Fin n → M2 ℝ) :
    rhoMat (n := n) (rotateRho n us (fun k l => Density.rho am ph (spaceRow n k) (spaceRow n l)))
      = denseK us * C02.rhoMat am ph * (denseK us)ᴴ := by
  have hM : rhoMat (n := n) (fun k l => Density.rho am ph (spaceRow n k) (spaceRow n l)) = C02.rhoMat am ph := by
    funext σ τ
    simp only [rhoMat, spaceRow_idxOf]
    rfl
  have hH : (C02.rhoMat am ph).IsHermitian := by
    ext σ τ
    rw [Matrix.conjTranspose_apply]
    exact (C02.C02_hermitian_entry am ph (C02.bits τ) (C02.bits σ)).symm
  rw [C04_rotate_rho_hermitian _ _ (by rw [hM]; exact hH), hM]

/-- **C04.1c (wavefunction TAKEN FROM THE MODEL)**: `rotate_psi(nn_state, basis, space)` with `psi = nn_state.psi(space)` is the
dense operator applied to the model's `ψ_λμ` (complex) resp. `ψ_λ` (positive) indexed by basis states. -/
theorem C04_rotate_psi_model {h : ℕ} (am ph : RBM ℝ n h) (us : Fin n → M2 ℝ) :
    psiVec (rotatePsi n us (fun k => Wave.psiCplx am ph (spaceRow n k)))
        = (denseK us).mulVec (fun τ => toC (Wave.psiCplx am ph (C02.bits τ)))
    ∧ psiVec (rotatePsi n us (fun k => Wave.psiPos am (spaceRow n k)))
        = (denseK us).mulVec (fun τ => toC (Wave.psiPos am (C02.bits τ))) := by
  have h (f : (Fin n → ℝ) → C ℝ) : psiVec (fun k => f (spaceRow n k)) = fun τ => toC (f (C02.bits τ)) :=
    funext fun τ => by rw [psiVec, spaceRow_idxOf]
  exact ⟨by rw [C04_rotate_psi, h], by rw [C04_rotate_psi, h]⟩

/-! ### a dictionary that overrides `Z`: the fast paths are not the dense product -/

/-- **Known finding F20, witness (`create_dict(Z=<Hadamard>)`)**: one qubit, basis string `"Z"`, dictionary
`create_dict(Z = X-matrix)`, `ψ = |0⟩`, outcome `σ = 1`. The fast path `rotate_psi_inner_prod` returns `ψ(1) = 0` (the
letter `Z` is "not rotated"), while the dense Kronecker product of the per-site unitaries the basis string denotes over that
dictionary — what `rotate_psi` computes, `C04_rotate_psi_dict` — has entry `1/√2`. So for a dictionary whose `Z` entry is not
the identity the statement "gives exactly what the dense Kronecker product gives" fails for the fast paths. -/
theorem C04_Z_override_fast_ne_dense :
    let d : UDict ℝ := createDict [('Z', dX)]
    let basis : Fin 1 → Char := fun _ => 'Z'
    let ψ : (Fin 1 → Bool) → C ℝ := fun τ => if τ 0 then C.zero else C.one
    let σ : Fin 1 → Bool := fun _ => true
    ∃ z, rotatePsiInnerProdD (some d) none basis ψ σ = .ok z ∧ toC z = 0
      ∧ (denseK (usOfDict (unitariesOf (some d) none) basis)).mulVec (fun τ => toC (ψ τ)) σ = ((invSqrt2 : ℝ) : ℂ)
      ∧ ((invSqrt2 : ℝ) : ℂ) ≠ 0 := by
  intro d basis ψ σ
  have hsum (f : (Fin 1 → Bool) → ℂ) : ∑ τ, f τ = f (fun _ => true) + f (fun _ => false) := by
    rw [← (Equiv.funUnique (Fin 1) Bool).symm.sum_comp, Fintype.sum_bool]
    rfl
  have hus : usOfDict (unitariesOf (some d) none) basis = fun _ => dX := rfl
  refine ⟨ψ σ, rotatePsiInnerProdD_allZ _ _ basis ψ σ fun _ => rfl, toC_zero, ?_, ?_⟩
  · -- the only non-zero term is `τ = 0` with the entry `X[1, 0] = 1/√2`
    simp only [Matrix.mulVec, dotProduct, hsum, denseK, hus, Fin.prod_univ_one]
    show m2c dX true true * toC C.zero + m2c dX true false * toC C.one = _
    rw [toC_zero, mul_zero, zero_add, toC_one, mul_one]
    rfl
  · intro h0
    have h := invSqrt2_sq
    rw [Complex.ofReal_eq_zero.mp h0] at h
    norm_num at h


/-! ## The keyword conversion of `create_dict`

`ArgConv.createDictM2` models `unitaries.py:36-59` on a heap of storages: the three defaults are new double tensors; every keyword is
`(matrix.clone().detach() if isinstance(matrix, torch.Tensor) else torch.tensor(matrix)).to(dtype=torch.double)` with torch's
allocation behaviour (`torch.tensor` and `clone` copy, `.to` returns the tensor itself when the type already matches).
`readDict h d` is the dictionary of MATRICES the rotation helpers see when the heap is `h` (it reads the storages: an aliased entry
would follow the caller's later writes). -/

section create_dict_arg
open ArgConv
variable {α : Type} [Add α] [Mul α] [Neg α] [Sub α] [Div α] [Zero α] [One α] [Transc α]
set_option linter.unusedSectionVars false

theorem castList_float64 (r32 : α → α) (v : List α) : castList r32 DType.float64 v = v := List.map_id v

/-- the matrices of the converted keywords: key by key what `create_dict` stored for the caller's content -/
theorem readDict_entries {cast dd} {h h' : Heap (List α)} {kw ts} (f : List.Forall₂ (EntryOK cast dd h h') kw ts) :
    readDict h' ts = kw.map fun e => (e.1, toM2 (storedU cast dd e.2.box ((h.read e.2.sid).getD []))) :=
  forall₂_map_eq f fun a b _ ⟨hk, _, _, v, hv, hw⟩ => by rw [hw, hv, Option.getD_some, Option.getD_some, hk]

theorem readDict_defaults {h h' : Heap (List α)} {ds} (f : List.Forall₂ (DefaultOK h h') defaultCells ds) :
    readDict h' ds = [('X', dX), ('Y', dY), ('Z', dZ)] :=
  (forall₂_map_eq f fun a b _ hab => by rw [hab.2.2.2, Option.getD_some, hab.1]).trans
    (by simp [defaultCells, toM2_flatM2])

/-- **C04.6c** `create_dict(**kwargs)` from the caller's OBJECTS on. For every accepted container form (torch tensor or numpy array of
any element type, rectangular nested list of Python bools / ints / floats / numpy scalars) whose content survives the conversion —
every form except a nested list of Python FLOATS under torch's default dtype float32, and that form too when its entries are
float32-representable (`r32` fixes them) — the call succeeds and
* no storage of the caller is written (the heap is only extended);
* every entry of the dictionary, defaults included, is a double tensor in a storage that did not exist before the call (it shares
  memory with no object of the caller: `clone` / `torch.tensor` were not skipped);
* the dictionary of matrices is `Unitaries.createDict` (the verified core: `C04_create_dict` — keywords override defaults, `X`, `Y`,
  `Z` present otherwise) of the matrices the caller's objects denote, entry by entry EXACTLY;
* whatever the caller later writes in place into ANY of its storages, the dictionary of matrices stays the same.

Outside the model: integer entries beyond 2^53 and complex element types (the heap's scalars are the doubles). -/
theorem C04_create_dict_exact (r32 : α → α) (dd : Bool) (h : Heap (List α)) (kw : List (Char × Obj)) (hacc : Accepted h kw)
    (hex : ∀ e ∈ kw, lossy dd e.2.box = true → ∀ v, h.read e.2.sid = some v → v.map r32 = v) :
    ∃ h' d, createDictM2 r32 dd h kw = .ok (h', d) ∧
      (∀ i, i < h.cells.length → h'.read i = h.read i) ∧
      (∀ r ∈ d, h.cells.length ≤ r.2.sid ∧ r.2.dt = .float64) ∧
      readDict h' d = createDict (kw.map (fun e => (e.1, toM2 ((h.read e.2.sid).getD [])))) ∧
      (∀ i, i < h.cells.length → ∀ w, readDict (h'.write i w) d = readDict h' d) := by
  obtain ⟨h', ts, ds, e, p, f1, f0⟩ :=
    createDictArg_spec (castList r32) (castList_float64 r32) dd defaultCells h kw hacc
  have fresh : ∀ r ∈ ts ++ ds, h.cells.length ≤ r.2.sid ∧ r.2.dt = .float64 := by
    intro r hr
    rcases List.mem_append.mp hr with hr | hr
    · obtain ⟨a, _, ha⟩ := forall₂_right f1 hr; exact ⟨ha.2.1, ha.2.2.1⟩
    · obtain ⟨a, _, ha⟩ := forall₂_right f0 hr; exact ⟨ha.2.1, ha.2.2.1⟩
  refine ⟨h', ts ++ ds, e, fun i hi => read_of_prefix p hi, fresh, ?_, ?_⟩
  · rw [readDict, List.map_append, ← readDict, ← readDict, readDict_entries f1, readDict_defaults f0, createDict]
    congr 1
    refine List.map_congr_left fun a ha => ?_
    -- under `hex` the one lossy form stores its content unchanged too
    rw [storedU]
    split
    · cases hr : h.read a.2.sid with
      | none => rfl
      | some v => exact congrArg _ (congrArg _ (hex a ha ‹_› v hr))
    · rfl
  · intro i hi w
    refine List.map_congr_left fun r hr => ?_
    rw [write_read_ne _ (Nat.ne_of_lt (Nat.lt_of_lt_of_le hi (fresh r hr).1))]

/-- **C04.6d** which form loses precision, precisely: a nested list of Python floats handed to `create_dict` while torch's default
dtype is float32 is stored as the `r32`-ROUNDING of its entries (`torch.tensor(matrix)` without `dtype=` comes before
`.to(torch.double)`), in a fresh double tensor; with default dtype float64, and in every other form, the entries are stored as given
(`C04_create_dict_exact`). proposed/F_C04_create_dict_list_precision.md. -/
theorem C04_create_dict_list_rounds (r32 : α → α) (h : Heap (List α)) (l : Char) (sid : ℕ) (v : List α) (hv : h.read sid = some v) :
    ∃ h' d, createDictM2 r32 false h [(l, ⟨.pyList .pyFloat, sid⟩)] = .ok (h', d) ∧
      (readDict h' d).lookup l = some (toM2 (v.map r32)) := by
  have hacc : Accepted h [(l, (⟨.pyList .pyFloat, sid⟩ : Obj))] :=
    fun e he => List.mem_singleton.mp he ▸ ⟨rfl, read_some_lt hv⟩
  obtain ⟨h', ts, ds, e, p, f1, f0⟩ :=
    createDictArg_spec (castList r32) (castList_float64 r32) false defaultCells h _ hacc
  refine ⟨h', ts ++ ds, e, ?_⟩
  rw [readDict, List.map_append, ← readDict, ← readDict, readDict_entries f1, List.map_cons, List.cons_append,
    List.lookup_cons_self, hv]
  rfl

/-- a refused keyword (ragged nested list, an object that is not array-like) makes `create_dict` raise: no dictionary -/
theorem C04_create_dict_refused (r32 : α → α) (dd : Bool) (h : Heap (List α)) (l : Char) (o : Obj) (rest : List (Char × Obj))
    (hb : srcDType o.box = none) : ∃ e, createDictM2 r32 dd h ((l, o) :: rest) = .error e := by
  obtain ⟨e, he⟩ := convertUnitary_refused (castList r32) dd
    (allocDefaults h (defaultCells (α := α))).1 o hb
  exact ⟨e, by simp [createDictM2, createDictArg, convertAll, he, bind, Except.bind]⟩

end create_dict_arg

/-- witness for `C04_create_dict_list_rounds` (the rounding `r32 := ⌊·⌋` stands for any rounding that moves 1/2): the list
`[[[1/2, 0], [0, 1]], [[0, 0], [0, 0]]]` is stored as `diag(0, 1)` -/
example : ∃ h' d, ArgConv.createDictM2 (fun x : ℝ => (⌊x⌋ : ℝ)) false ⟨[[1 / 2, 0, 0, 1, 0, 0, 0, 0]]⟩ [('A', ⟨.pyList .pyFloat, 0⟩)] = .ok (h', d) ∧
    ((ArgConv.readDict h' d).lookup 'A').map (fun m => (m false false).1) = some 0 := by
  obtain ⟨h', d, e, hl⟩ := C04_create_dict_list_rounds (fun x : ℝ => (⌊x⌋ : ℝ)) ⟨[[1 / 2, 0, 0, 1, 0, 0, 0, 0]]⟩ 'A' 0 _ rfl
  refine ⟨h', d, e, ?_⟩
  rw [hl]
  show some ((⌊(1 / 2 : ℝ)⌋ : ℝ)) = some 0
  norm_num

/-- the hypotheses of `C04_create_dict_exact` are satisfiable by a non-trivial call: a float32 tensor, an int64 numpy array that
overrides `X`, and a list of Python floats with float32-representable entries, in a heap that also holds another object -/
example : ArgConv.Accepted (⟨[[1, 0, 0, 1, 0, 0, 0, 0], [0, 1, 1, 0, 0, 0, 0, 0], [1, 0, 0, 0, 0, 0, 0, 1], [7]]⟩ : ArgConv.Heap (List ℝ))
    [('A', ⟨.tensor .float32, 0⟩), ('X', ⟨.ndarray .int64, 1⟩), ('B', ⟨.pyList .pyFloat, 2⟩)] := by
  intro e he
  simp only [List.mem_cons, List.not_mem_nil, or_false] at he
  rcases he with rfl | rfl | rfl <;> exact ⟨rfl, by decide⟩

/-! ## The 1-D `states` call form and the batched index conversion -/

/-- **C04_vector_states_outcome.** `states` given as ONE 1-D vector instead of a batch (`vectorStatesOutcome`, the outcome class the
harness compares with). The classification itself is by construction of the model: any rotated site → `RuntimeError` on both fast
paths; all-`Z` basis → `rotate_rho_probs` is refused (`ValueError`) and `rotate_psi_inner_prod` is the ONLY accepted combination.
What is proved against the batched definitions is that the accepted case returns the batch-of-one value: for a basis pattern without
a rotated site (`anyRotated = (finRange n).any rot = false`, for every `n`, every per-site matrices, every ψ, σ)
`_rotate_basis_state` enumerates the single state σ with coefficient one, and both the enumerated (`rotatePsiInnerProdE`) and the
filtered (`rotatePsiInnerProd`) batched amplitude of the row σ are EXACTLY `ψ(σ)` — the single amplitude the 1-D form returns; from
the dictionary resolution on (`rotatePsiInnerProdD`) an all-`Z` basis string succeeds with `ψ(σ)` for EVERY dictionary (no letter is
looked up, so not even a dictionary without `Z` raises `KeyError`). -/
theorem C04_vector_states_outcome (us : Fin n → M2 ℝ) (rot : Fin n → Bool) (ψ : (Fin n → Bool) → C ℝ) (σ : Fin n → Bool)
    (given own : Option (UDict ℝ)) (basis : Fin n → Char) :
    (∀ p r, vectorStatesOutcome p r = .ok () ↔ p = .innerProd ∧ r = false)
    ∧ (∀ p, vectorStatesOutcome p true = .error .RuntimeError)
    ∧ vectorStatesOutcome .rhoProbs false = .error .ValueError
    ∧ (vectorStatesOutcome .innerProd ((List.finRange n).any rot) = .ok () ↔ ∀ j, rot j = false)
    ∧ ((∀ j, rot j = false) →
        expandStates n rot σ = [σ] ∧ rotateBasisState n us rot σ = [(C.one, σ)]
        ∧ rotatePsiInnerProdE n us rot ψ σ = ψ σ ∧ rotatePsiInnerProd n us rot ψ σ = ψ σ)
    ∧ ((∀ j, basis j = 'Z') → rotatePsiInnerProdD given own basis ψ σ = .ok (ψ σ)) := by
  have h1 : ∀ p r, vectorStatesOutcome p r = .ok () ↔ p = .innerProd ∧ r = false := by
    intro p r; cases p <;> cases r <;> simp [vectorStatesOutcome]
  refine ⟨h1, ?_, rfl, ?_, ?_, rotatePsiInnerProdD_allZ given own basis ψ σ⟩
  · intro p; cases p <;> rfl
  · simp only [h1, true_and, List.any_eq_false, List.mem_finRange, true_imp_iff, Bool.not_eq_true]
  · intro hr
    obtain rfl : rot = fun _ => false := funext hr
    refine ⟨expandStates_of_not_rot σ, ?_, rotatePsiInnerProdE_of_not_rot us ψ σ, ?_⟩
    · rw [rotateBasisState, expandStates_of_not_rot, List.map_singleton, rotCoeff_of_not_rot]
    · rw [← rotatePsiInnerProdE_eq, rotatePsiInnerProdE_of_not_rot]

/-- the accepted case of `C04_vector_states_outcome` on a non-trivial instance: 2 sites, basis `ZZ`, an EMPTY-lookup dictionary
(only `X` defined, by a non-unitary matrix), ψ = the index of the state as a complex number: the value for σ = (1,0) is ψ(σ) = 2 -/
example : rotatePsiInnerProdD (some [('X', fun _ _ => ((7 : ℝ), 0))]) none (fun _ : Fin 2 => 'Z')
      (fun τ => ((if τ 0 then 2 else 0) + (if τ 1 then 1 else 0), 0)) (fun j => j = 0) = .ok (2, 0) := by
  rw [(C04_vector_states_outcome (fun _ => dZ) (fun _ => false) _ _ _ none _).2.2.2.2.2 (fun _ => rfl)]
  simp

/-- **C04_convert_basis_batch.** `_convert_basis_element_to_index` on a batch (`convertBasisBatch`, the `(N, n)` `matmul` with
`powers`): for EVERY batch of 0/1 rows the result has one entry per row and entry `i` is `convertBasisElementToIndex` of row `i`
(by construction of the model: the row-wise map) = the big-endian index `Σ_j row[j]·2^(len-1-j)` of that row, which is `< 2^len`;
rows of equal length with equal entries are equal (the conversion loses nothing); the conversion of a batch of function-form states
is `idxOf` row by row (the position convention of every array of C04, `C04_index_convention`); and the batch
`generate_hilbert_space(size)` returns is mapped to `0, 1, …, 2^size - 1` in order (row `k` of the space has index `k`: the batched
form of `C19_index_roundtrip`). -/
theorem C04_convert_basis_batch (sts : List (List Bool)) :
    (convertBasisBatch sts).length = sts.length
    ∧ (∀ i (hi : i < sts.length), (convertBasisBatch sts)[i]'(by simpa [convertBasisBatch] using hi)
          = convertBasisElementToIndex sts[i]
        ∧ convertBasisElementToIndex sts[i] = basisIndexL sts[i]
        ∧ convertBasisElementToIndex sts[i] < 2 ^ sts[i].length)
    ∧ (∀ i j (hi : i < sts.length) (hj : j < sts.length), sts[i].length = sts[j].length →
        (convertBasisBatch sts)[i]'(by simpa [convertBasisBatch] using hi)
          = (convertBasisBatch sts)[j]'(by simpa [convertBasisBatch] using hj) → sts[i] = sts[j])
    ∧ (∀ (m : ℕ) (rows : List (Fin m → Bool)),
        convertBasisBatch (rows.map fun σ => (List.finRange m).map σ) = rows.map idxOf)
    ∧ (∀ (size : Option ℕ) (nv : ℕ) (sp : List (List Bool)), generateHilbertSpace size nv = .ok sp →
        convertBasisBatch sp = List.range (2 ^ effSize size nv)) := by
  refine ⟨by simp [convertBasisBatch], fun i hi => ⟨by simp [convertBasisBatch], convertBasisElementToIndex_eq _, ?_⟩, ?_, ?_, ?_⟩
  · rw [convertBasisElementToIndex_eq]; exact basisIndexL_lt _
  · intro i j hi hj hlen heq
    simp only [convertBasisBatch, List.getElem_map, convertBasisElementToIndex_eq] at heq
    rw [← maskRow_basisIndexL sts[i], ← maskRow_basisIndexL sts[j], heq, hlen]
  · intro m rows
    simp only [convertBasisBatch, List.map_map]
    refine List.map_congr_left (fun σ _ => ?_)
    simp only [Function.comp, convertBasisElementToIndex_eq]
    exact C04_index_convention σ
  · intro size nv sp hsp
    unfold generateHilbertSpace at hsp
    rw [spaceGuard_eq] at hsp
    split_ifs at hsp with hbig
    simp only [Except.ok.injEq] at hsp
    subst hsp
    simp only [convertBasisBatch, List.map_map]
    conv_rhs => rw [← List.map_id (List.range (2 ^ effSize size nv))]
    refine List.map_congr_left (fun k hk => ?_)
    simp only [Function.comp, convertBasisElementToIndex_eq, basisIndexL_maskRow, id]
    exact Nat.mod_eq_of_lt (List.mem_range.mp hk)

/-- `C04_convert_basis_batch` on a concrete batch with rows of different content (and the injectivity hypothesis `equal lengths`
satisfied): `[[1,0,1],[0,1,1],[1,0,1]] ↦ [5, 3, 5]`; and the 2-site space is mapped to `[0,1,2,3]`. -/
example : convertBasisBatch [[true, false, true], [false, true, true], [true, false, true]] = [5, 3, 5]
    ∧ (∃ sp, generateHilbertSpace (some 2) 7 = .ok sp ∧ convertBasisBatch sp = [0, 1, 2, 3]) := by
  refine ⟨by decide, _, rfl, by decide⟩

end QV.Props
