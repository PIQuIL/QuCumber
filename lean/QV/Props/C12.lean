/-
C12 — Training follows the documented event protocol and honours stop requests.

"A training run emits train-start once, then for each epoch from the starting epoch to the last an
epoch-start, a batch-start/batch-end pair per batch in order, and an epoch-end, then train-end exactly
once; parameters change only between a batch-start and its batch-end. If a stop is requested during a
batch or at an epoch end, no further batch or epoch begins, the current epoch's end event and the
train-end event still fire, and the request persists; a run started with a stop already requested
emits nothing and changes nothing."

All theorems: ∀ `starting_epoch`, `epochs` (integers, incl. empty ranges), ∀ number of batches (≥ 1 where a
theorem says so; runs without batches have their own section), ∀ callback lists (any length, repeated
objects allowed), timer on/off, scheduler or none, ∀ stop requests `R` (which callback asks for a stop at
which event / during which batch).
Model: `QV.Train.fit` (QV/Model/Train.lean), executed against `NeuralStateBase.fit` by the C12
correspondence check. The specification below (`pairs`, `epochBlock`, `Epochs`, `Protocol`, `Quiet…`)
does not mention the model's loops; the statements also use `reqEv`, `expandEv`, `Event.isStart/isEnd`, `noPrint`,
`Cfg.withTimer`, `endSet`, `firstMsg`, which are defined in QV/Lemmas/Train.lean.

After the protocol theorems (C12.1 – C12.7): the caller's arguments and consecutive calls (C12.8 – C12.10,
C12.4c), runs without batches, `LambdaCallback` (C12.11, C12.12), and the code around `fit` — the
`stop_training` setter, an exception escaping from a callback, `CallbackList` as a container, the `Timer`
(C12.13 – C12.16).

Trusted / left out: a callback is modelled only by the stop requests it makes (and, from C12.13 on, by its
assignments to `stop_training` and the exception a refused one raises); the numeric update is a version
counter (C06 / C03). PARTIAL: conjunct (5) of `C12_refused_request_leaves_flag_partial` and
`C12_exception_trace_partial` speak about the code only while no callback assigns `False` to a flag that is
set (`noClear`): the model does not represent clearing the flag in mid-run.
-/
import QV.Model.Train
import QV.Model.LambdaCb
import QV.Lemmas.Train
import QV.Lemmas.Batching

namespace QV.Props
namespace C12
open QV.Train

/-- `bs e 0, be e 0, …, bs e (k-1), be e (k-1)` -/
def pairs (e : Int) (k : Nat) : List Event :=
  (List.range k).flatMap fun b => [Event.batchStart e b, Event.batchEnd e b]

/-- one epoch with `k` batches: `es e, (bs e j, be e j)_{j<k}, ee e` -/
def epochBlock (e : Int) (k : Nat) : List Event :=
  Event.epochStart e :: (pairs e k ++ [Event.epochEnd e])

/-- `Epochs last nb e t`: `t` is a (possibly empty) sequence of consecutive epochs `e, e+1, …`, none
beyond `last`; every epoch but the final one has exactly `nb` batch pairs, the final one between `1` and `nb`. -/
inductive Epochs (last : Int) (nb : Nat) : Int → List Event → Prop
  | nil (e : Int) : Epochs last nb e []
  | final (e : Int) (k : Nat) : e ≤ last → 1 ≤ k → k ≤ nb → Epochs last nb e (epochBlock e k)
  | cons (e : Int) (t : List Event) : e ≤ last → Epochs last nb (e + 1) t →
      Epochs last nb e (epochBlock e nb ++ t)

/-- A well-formed event trace of `fit(starting_epoch = start, epochs = last)` with `nb` batches per epoch:
nothing at all, or train-start, consecutive epochs from `start`, train-end. -/
inductive Protocol (start last : Int) (nb : Nat) : List Event → Prop
  | silent : Protocol start last nb []
  | run (t : List Event) : Epochs last nb start t →
      Protocol start last nb (Event.trainStart :: (t ++ [Event.trainEnd]))

/-- epochs `a … b` (empty if `b < a`), each with all `nb` batches -/
def fullEpochs (nb : Nat) (a b : Int) : List Event := (epochRange a b).flatMap (fun e => epochBlock e nb)

/-- `epochRange a b` is `a, a+1, …, b`. -/
theorem epochRange_spec (a b : Int) :
    epochRange a b = (if b < a then [] else a :: epochRange (a + 1) b) ∧
    ∀ e, e ∈ epochRange a b ↔ a ≤ e ∧ e ≤ b :=
  ⟨epochRange_rec a b, mem_epochRange a b⟩

/-- no stop request at batch-start, during, or at batch-end of batch `(e,b)` -/
def QuietBatch (c : Cfg) (R : Req) (e : Int) (b : Nat) : Prop :=
  reqEv c R (.batchStart e b) = false ∧ R.mid e b = false ∧ reqEv c R (.batchEnd e b) = false

/-- no stop request in epoch `e` at epoch-start nor in its batches `0 … j-1` -/
def QuietUpto (c : Cfg) (R : Req) (e : Int) (j : Nat) : Prop :=
  reqEv c R (.epochStart e) = false ∧ ∀ b, b < j → QuietBatch c R e b

/-- no stop request anywhere in epoch `e` -/
def QuietEpoch (c : Cfg) (R : Req) (e : Int) : Prop :=
  QuietUpto c R e c.numBatches ∧ reqEv c R (.epochEnd e) = false

/-- no stop request at train-start nor in any epoch before `e` -/
def QuietBefore (c : Cfg) (R : Req) (e : Int) : Prop :=
  reqEv c R .trainStart = false ∧ ∀ e', c.start ≤ e' → e' < e → QuietEpoch c R e'

/-! ## The protocol (C12.1 – C12.7)

The theorems without a number are glue between the closed form of the model trace (QV/Lemmas/Train.lean) and the specification;
each group stands before the first property theorem that uses it. -/

theorem epochEv_eq_block (c : Cfg) (R : Req) (stopIn : Bool) (e : Int) :
    epochEv c R stopIn e = epochBlock e (batchesRun c R stopIn e) := rfl

theorem quietEpoch_iff (c : Cfg) (R : Req) (e : Int) : QuietEpoch c R e ↔ epochReq c R e = false := by
  simp only [QuietEpoch, QuietUpto, QuietBatch, epochReq, batchReq, Bool.or_eq_false_iff, List.any_eq_false,
    List.mem_range, Bool.not_eq_true, and_assoc]

theorem epochEv_quiet (c : Cfg) (R : Req) {e : Int} (h : epochReq c R e = false) :
    epochEv c R false e = epochBlock e c.numBatches := by
  rw [epochEv_eq_block, batchesRun_of_not_epochReq c R e h]

theorem runEpochs_range_quiet (c : Cfg) (R : Req) (a b : Int)
    (hq : ∀ e', a ≤ e' → e' ≤ b → epochReq c R e' = false) :
    runEpochs c R (epochRange a b) = fullEpochs c.numBatches a b := by
  have hq' : ∀ e ∈ epochRange a b, epochReq c R e = false :=
    fun e he => hq e ((mem_epochRange a b e).mp he).1 ((mem_epochRange a b e).mp he).2
  rw [runEpochs_quiet c R hq']
  exact flatMap_congr (fun e he => epochEv_quiet c R (hq' e he))

theorem runEpochs_range_first (c : Cfg) (R : Req) {a b e : Int} (hae : a ≤ e) (heb : e ≤ b)
    (hq : ∀ e', a ≤ e' → e' < e → epochReq c R e' = false) (hr : epochReq c R e = true) :
    runEpochs c R (epochRange a b) = fullEpochs c.numBatches a (e - 1) ++ epochBlock e (batchesRun c R false e) := by
  have hq' : ∀ x ∈ epochRange a (e - 1), epochReq c R x = false :=
    fun x hx => hq x ((mem_epochRange _ _ x).mp hx).1 (by have := ((mem_epochRange _ _ x).mp hx).2; omega)
  rw [epochRange_split hae heb, runEpochs_first c R hq' hr]
  exact congrArg (· ++ _) (flatMap_congr (fun x hx => epochEv_quiet c R (hq' x hx)))

theorem epochs_runEpochs (c : Cfg) (R : Req) (hnb : 1 ≤ c.numBatches) (b : Int) :
    ∀ (l : List Int) (a : Int), l = epochRange a b → Epochs b c.numBatches a (runEpochs c R l) := by
  intro l
  induction l with
  | nil => intro a _; exact Epochs.nil a
  | cons x l ih =>
    intro a h
    rw [epochRange_rec] at h
    split at h
    · cases h
    · next hab =>
      injection h with h1 h2
      subst h1
      rw [runEpochs_cons, epochEv_eq_block]
      cases hq : epochReq c R x
      · rw [batchesRun_of_not_epochReq c R x hq]
        exact Epochs.cons x _ (by omega) (ih _ h2)
      · rw [if_pos rfl, List.append_nil]
        exact Epochs.final x _ (by omega) (batchesRun_pos c R false x hnb) (batchesRun_le c R false x)

theorem pairs_filterMap_none {β : Type} (f : Event → Option β) (e : Int) (k : Nat)
    (h1 : ∀ b, f (.batchStart e b) = none) (h2 : ∀ b, f (.batchEnd e b) = none) :
    (pairs e k).filterMap f = [] := by
  simp [pairs, List.filterMap_flatMap, h1, h2]

def epochStartOf : Event → Option Int
  | .epochStart e => some e
  | _ => none

def epochEndOf : Event → Option Int
  | .epochEnd e => some e
  | _ => none

theorem epochBlocks_marks (es : List Int) (k : Int → Nat) :
    (es.flatMap fun e => epochBlock e (k e)).filterMap epochEndOf = es ∧
    (es.flatMap fun e => epochBlock e (k e)).filterMap epochStartOf = es ∧
    Event.trainStart ∉ (es.flatMap fun e => epochBlock e (k e)) ∧
    Event.trainEnd ∉ (es.flatMap fun e => epochBlock e (k e)) := by
  have he : ∀ e n, (epochBlock e n).filterMap epochEndOf = [e] := fun e n => by
    simp [epochBlock, List.filterMap_cons, List.filterMap_append,
      pairs_filterMap_none epochEndOf e n (fun _ => rfl) (fun _ => rfl), epochEndOf]
  have hs : ∀ e n, (epochBlock e n).filterMap epochStartOf = [e] := fun e n => by
    simp [epochBlock, List.filterMap_cons, List.filterMap_append,
      pairs_filterMap_none epochStartOf e n (fun _ => rfl) (fun _ => rfl), epochStartOf]
  refine ⟨?_, ?_, ?_, ?_⟩
  · simp [List.filterMap_flatMap, he]
  · simp [List.filterMap_flatMap, hs]
  · simp [epochBlock, pairs]
  · simp [epochBlock, pairs]

theorem fit_events_blocks (c : Cfg) (R : Req) :
    ∃ (es : List Int) (k : Int → Nat),
      events (fit c R false).1 = Event.trainStart :: ((es.flatMap fun e => epochBlock e (k e)) ++ [Event.trainEnd]) :=
  ⟨_, batchesRun c R _, fit_events c R⟩

theorem fit_train_events_once (c : Cfg) (R : Req) :
    (events (fit c R false).1).count .trainStart = 1 ∧ (events (fit c R false).1).count .trainEnd = 1 ∧
    (events (fit c R false).1).head? = some .trainStart ∧ (events (fit c R false).1).getLast? = some .trainEnd := by
  obtain ⟨es, k, he⟩ := fit_events_blocks c R
  obtain ⟨_, _, h2, h3⟩ := epochBlocks_marks es k
  rw [he]
  refine ⟨?_, ?_, rfl, ?_⟩
  · simp [List.count_append, List.count_eq_zero_of_not_mem h2]
  · simp [List.count_append, List.count_eq_zero_of_not_mem h3]
  · rw [← List.cons_append, List.getLast?_append]; rfl

theorem fit_first_stop (c : Cfg) (R : Req) (e : Int) (h1 : c.start ≤ e) (h2 : e ≤ c.epochs)
    (hq : QuietBefore c R e) (hr : epochReq c R e = true) :
    events (fit c R false).1 = Event.trainStart ::
      (fullEpochs c.numBatches c.start (e - 1) ++ epochBlock e (batchesRun c R false e) ++ [Event.trainEnd]) ∧
    (fit c R false).2.stop = true := by
  constructor
  · rw [fit_events_of_quiet_start c R hq.1,
      runEpochs_range_first c R h1 h2 (fun e' g1 g2 => (quietEpoch_iff c R e').mp (hq.2 e' g1 g2)) hr]
  · rw [fit_stop]
    have : (epochRange c.start c.epochs).any (epochReq c R) = true :=
      List.any_eq_true.mpr ⟨e, (mem_epochRange _ _ _).mpr ⟨h1, h2⟩, hr⟩
    simp [this]

/-- **C12.1** The event trace of every run is well-formed: empty, or train-start, consecutive epochs from
`starting_epoch` (each: epoch-start, batch-start/batch-end pairs with consecutive indices from 0,
epoch-end; all `numBatches` pairs in every epoch except possibly the final one, which has at least one),
no epoch beyond `epochs`, then train-end. -/
theorem C12_protocol (c : Cfg) (R : Req) (stop₀ : Bool) (hnb : 1 ≤ c.numBatches) :
    Protocol c.start c.epochs c.numBatches (events (fit c R stop₀).1) := by
  cases stop₀
  · cases hts : reqEv c R .trainStart
    · rw [fit_events_of_quiet_start c R hts]
      exact Protocol.run _ (epochs_runEpochs c R hnb c.epochs _ c.start rfl)
    · -- stopped at train-start: the first epoch (if there is one) is cut to one batch
      rw [fit_events_of_req_at_start c R hts]
      refine Protocol.run _ ?_
      rw [epochRange_rec]
      split
      · exact Epochs.nil c.start
      · rw [List.take_succ_cons, List.take_zero, List.flatMap_singleton, epochEv_eq_block,
          batchesRun_of_stop c R true c.start hnb rfl]
        exact Epochs.final c.start 1 (by omega) (Nat.le_refl 1) hnb
  · rw [fit_stopped]; exact Protocol.silent

/-- **C12.1b** train-start and train-end occur exactly once each (first and last), or — iff a stop was
already requested — not at all. -/
theorem C12_train_events_once (c : Cfg) (R : Req) (stop₀ : Bool) (hnb : 1 ≤ c.numBatches) :
    (events (fit c R stop₀).1).count .trainStart = (if stop₀ then 0 else 1) ∧
    (events (fit c R stop₀).1).count .trainEnd = (if stop₀ then 0 else 1) ∧
    (stop₀ = false → (events (fit c R stop₀).1).head? = some .trainStart ∧
      (events (fit c R stop₀).1).getLast? = some .trainEnd) := by
  cases stop₀
  · obtain ⟨h1, h2, h3, h4⟩ := fit_train_events_once c R
    exact ⟨h1, h2, fun _ => ⟨h3, h4⟩⟩
  · rw [fit_stopped]; simp

/-- **C12.2** If nobody requests a stop before train-end, every epoch `starting_epoch … epochs` appears, in
order, each with exactly `numBatches` batch pairs (for an empty range: just train-start, train-end); the flag
ends up set iff a callback requested a stop at train-end. -/
theorem C12_complete_without_stop (c : Cfg) (R : Req) (hq : QuietBefore c R (c.epochs + 1)) :
    events (fit c R false).1 =
      Event.trainStart :: (fullEpochs c.numBatches c.start c.epochs ++ [Event.trainEnd]) ∧
    (fit c R false).2.stop = reqEv c R .trainEnd := by
  have hall : ∀ e', c.start ≤ e' → e' ≤ c.epochs → epochReq c R e' = false :=
    fun e' g1 g2 => (quietEpoch_iff c R e').mp (hq.2 e' g1 (by omega))
  constructor
  · rw [fit_events_of_quiet_start c R hq.1, runEpochs_range_quiet c R _ _ hall]
  · rw [fit_stop, hq.1]
    have : (epochRange c.start c.epochs).any (epochReq c R) = false := by
      rw [List.any_eq_false]
      intro e he
      have := (mem_epochRange _ _ _).mp he
      simp [hall e this.1 this.2]
    simp [this]

/-- **C12.3a** First stop request at batch-start, during, or at batch-end of batch `(e,j)`: the trace is
all earlier epochs in full, epoch `e` with exactly its batches `0…j`, its epoch-end, train-end; the flag stays set. -/
theorem C12_stop_in_batch (c : Cfg) (R : Req) (e : Int) (j : Nat) (h1 : c.start ≤ e) (h2 : e ≤ c.epochs)
    (hj : j < c.numBatches) (hq : QuietBefore c R e) (hu : QuietUpto c R e j)
    (hr : reqEv c R (.batchStart e j) = true ∨ R.mid e j = true ∨ reqEv c R (.batchEnd e j) = true) :
    events (fit c R false).1 = Event.trainStart ::
      (fullEpochs c.numBatches c.start (e - 1) ++ epochBlock e (j + 1) ++ [Event.trainEnd]) ∧
    (fit c R false).2.stop = true := by
  have hb : batchReq c R e j = true := by
    simp only [batchReq, Bool.or_eq_true]; rcases hr with h | h | h <;> simp [h]
  have hbq : ∀ b, b < j → batchReq c R e b = false := by
    intro b hb'
    obtain ⟨g1, g2, g3⟩ := hu.2 b hb'
    simp [batchReq, g1, g2, g3]
  have he : epochReq c R e = true := by
    have : (List.range c.numBatches).any (batchReq c R e) = true :=
      List.any_eq_true.mpr ⟨j, List.mem_range.mpr hj, hb⟩
    simp [epochReq, this]
  have := fit_first_stop c R e h1 h2 hq he
  rwa [batchesRun_first c R e j hu.1 hj hbq hb] at this

theorem fullEpochs_snoc (nb : Nat) (a e : Int) (h : a ≤ e) :
    fullEpochs nb a e = fullEpochs nb a (e - 1) ++ epochBlock e nb := by
  unfold fullEpochs; rw [epochRange_snoc a e h, List.flatMap_append]; simp

/-- **C12.3b** First stop request at epoch-end of epoch `e`: epochs up to and including `e` in full, then
train-end; no further epoch begins. -/
theorem C12_stop_at_epoch_end (c : Cfg) (R : Req) (e : Int) (h1 : c.start ≤ e) (h2 : e ≤ c.epochs)
    (hq : QuietBefore c R e) (hu : QuietUpto c R e c.numBatches) (hr : reqEv c R (.epochEnd e) = true) :
    events (fit c R false).1 = Event.trainStart :: (fullEpochs c.numBatches c.start e ++ [Event.trainEnd]) ∧
    (fit c R false).2.stop = true := by
  have hbq : ∀ b, b < c.numBatches → batchReq c R e b = false := by
    intro b hb'
    obtain ⟨g1, g2, g3⟩ := hu.2 b hb'
    simp [batchReq, g1, g2, g3]
  have he : epochReq c R e = true := by simp [epochReq, hr]
  have := fit_first_stop c R e h1 h2 hq he
  rw [batchesRun_quiet c R e hu.1 hbq] at this
  refine ⟨?_, this.2⟩
  rw [this.1, fullEpochs_snoc _ _ _ h1]

/-- **C12.3c** First stop request at epoch-start of epoch `e`: exactly one more batch `(e,0)` runs, then
epoch-end `e` and train-end. -/
theorem C12_stop_at_epoch_start (c : Cfg) (R : Req) (e : Int) (h1 : c.start ≤ e) (h2 : e ≤ c.epochs)
    (hnb : 1 ≤ c.numBatches) (hq : QuietBefore c R e) (hr : reqEv c R (.epochStart e) = true) :
    events (fit c R false).1 = Event.trainStart ::
      (fullEpochs c.numBatches c.start (e - 1) ++ epochBlock e 1 ++ [Event.trainEnd]) ∧
    (fit c R false).2.stop = true := by
  have he : epochReq c R e = true := by simp [epochReq, hr]
  have := fit_first_stop c R e h1 h2 hq he
  rwa [batchesRun_of_stop c R false e hnb (by simp [hr])] at this

/-- **C12.3d** Stop requested at train-start: if the epoch range is non-empty exactly one batch
`(starting_epoch, 0)` runs, framed by its epoch-start / epoch-end; train-end fires; the flag stays set. -/
theorem C12_stop_at_train_start (c : Cfg) (R : Req) (hnb : 1 ≤ c.numBatches)
    (hr : reqEv c R .trainStart = true) :
    events (fit c R false).1 = Event.trainStart ::
      ((if c.start ≤ c.epochs then epochBlock c.start 1 else []) ++ [Event.trainEnd]) ∧
    (fit c R false).2.stop = true := by
  constructor
  · rw [fit_events_of_req_at_start c R hr, epochRange_rec]
    by_cases h : c.epochs < c.start
    · rw [if_pos h, if_neg (by omega)]; simp
    · rw [if_neg h, if_pos (by omega)]
      simp only [List.take_succ_cons, List.take_zero, List.flatMap_cons, List.flatMap_nil, List.append_nil]
      rw [epochEv_eq_block, batchesRun_of_stop c R true c.start hnb (by simp)]
  · rw [fit_stop]; simp [hr]

/-- **C12.3e** No `on_batch_start` / `on_epoch_start` follows a batch-end / epoch-end after whose dispatch the
stop flag was set. (`rets` lists every event with the flag value `fit` reads after dispatching it; by
`C12_sticky` that value is the OR of all requests so far.) -/
theorem C12_no_event_after_stop (c : Cfg) (R : Req) (stop₀ : Bool) :
    (rets (fit c R stop₀).1).Pairwise
      (fun x y => x.1.isEnd = true → x.2 = true → y.1.isStart = false) ∧
    (rets (fit c R stop₀).1).map Prod.fst = events (fit c R stop₀).1 :=
  ⟨fit_afterStop c R stop₀, (fit_calls_rets c R stop₀).2⟩

/-- **C12.4a** The flag is sticky and never set spuriously: at every moment of `fit` it equals the initial
flag OR-ed with all requests made so far — as observed by every handler on entry (`seen`), as read by
`fit` after every dispatch, and at the end. In particular it is never cleared. -/
theorem C12_sticky (c : Cfg) (R : Req) (stop₀ : Bool) :
    (fit c R stop₀).2.stop = (stop₀ || (fit c R stop₀).1.any R.at) ∧
    (∀ pre i ev seen v post, (fit c R stop₀).1 = pre ++ Entry.call i ev seen v :: post →
      seen = (stop₀ || pre.any R.at)) ∧
    (∀ pre ev f post, (fit c R stop₀).1 = pre ++ Entry.ret ev f :: post → f = (stop₀ || pre.any R.at)) := by
  have h := fit_track c R stop₀
  refine ⟨(track_val h).1, ?_, ?_⟩
  · intro pre i ev seen v post hl
    rw [hl] at h
    exact (track_call h).1
  · intro pre ev f post hl
    rw [hl] at h
    exact track_ret h

/-- **C12.4b** A run started with a stop already requested is a no-op: no event, no handler call, no
shuffle, no optimizer or scheduler step, parameter version unchanged, flag still set. Conversely only such
a run is silent. -/
theorem C12_stopped_run_is_noop (c : Cfg) (R : Req) :
    (fit c R true).1 = [] ∧ (fit c R true).2.stop = true ∧ (fit c R true).2.ver = 0 ∧
    (fit c R true).2.sched = 0 ∧ (∀ stop₀, events (fit c R stop₀).1 = [] → stop₀ = true) := by
  rw [fit_stopped]
  refine ⟨rfl, rfl, rfl, rfl, ?_⟩
  intro stop₀ h
  cases stop₀
  · rw [fit_events] at h; cases h
  · rfl

def schedOf : Entry → Option Int
  | .schedStep e => some e
  | _ => none

def isBatchStart : Event → Bool
  | .batchStart .. => true
  | _ => false

theorem countP_isOpt_skeleton (l : List Entry) : l.countP Entry.isOpt = (skeleton l).countP Entry.isOpt := by
  induction l with
  | nil => rfl
  | cons x l ih => cases x <;> simp [Entry.isOpt, List.countP_cons, ih]

theorem filterMap_schedOf_skeleton (l : List Entry) : l.filterMap schedOf = (skeleton l).filterMap schedOf := by
  induction l with
  | nil => rfl
  | cons x l ih => cases x <;> simp [schedOf, List.filterMap_cons, ih]

theorem countP_isSched (l : List Entry) : l.countP Entry.isSched = (l.filterMap schedOf).length := by
  induction l with
  | nil => rfl
  | cons x l ih => cases x <;> simp [schedOf, Entry.isSched, List.countP_cons, List.filterMap_cons, ih]

theorem expand_countP_isOpt (c : Cfg) (evs : List Event) :
    (evs.flatMap (expandEv c)).countP Entry.isOpt = evs.countP isBatchStart := by
  induction evs with
  | nil => rfl
  | cons ev evs ih =>
    cases ev <;> simp [expandEv, Entry.isOpt, isBatchStart, List.countP_cons, List.countP_append, ih] <;>
      split <;> simp [Entry.isOpt]

theorem expand_filterMap_sched (c : Cfg) (evs : List Event) :
    (evs.flatMap (expandEv c)).filterMap schedOf = if c.hasSched then evs.filterMap epochEndOf else [] := by
  induction evs with
  | nil => simp
  | cons ev evs ih =>
    cases hs : c.hasSched <;>
      cases ev <;> simp [expandEv, schedOf, epochEndOf, List.filterMap_cons, ih, hs]

theorem fit_sched (c : Cfg) (R : Req) (stop₀ : Bool) :
    (fit c R stop₀).1.filterMap schedOf =
      (if c.hasSched then (events (fit c R stop₀).1).filterMap epochStartOf else []) ∧
    (fit c R stop₀).2.sched =
      (if c.hasSched then ((events (fit c R stop₀).1).filterMap epochStartOf).length else 0) := by
  -- the skeleton puts a step before each epoch-END, the statement counts epochs BEGUN: every block has one start and one end
  have hse : (events (fit c R stop₀).1).filterMap epochEndOf = (events (fit c R stop₀).1).filterMap epochStartOf := by
    cases stop₀
    · obtain ⟨es, k, he⟩ := fit_events_blocks c R
      obtain ⟨b1, b2, _⟩ := epochBlocks_marks es k
      rw [he]
      simp [List.filterMap_cons, List.filterMap_append, b1, b2, epochEndOf, epochStartOf]
    · rw [fit_stopped]; rfl
  have h1 : (fit c R stop₀).1.filterMap schedOf =
      (if c.hasSched then (events (fit c R stop₀).1).filterMap epochStartOf else []) := by
    rw [filterMap_schedOf_skeleton, fit_skeleton, expand_filterMap_sched, hse]
  refine ⟨h1, ?_⟩
  have := (track_val (fit_track c R stop₀)).2.2
  simp only [S.key, Nat.zero_add] at this
  rw [this, countP_isSched, h1]
  split <;> rfl

/-- **C12.5** Parameters change only inside a batch window, exactly once per window: every handler
invocation observes version = number of `optimizer.step()`s before it; in the control skeleton each
`optStep e b` sits immediately after the emission of `batchStart e b` (hence, by `C12_protocol`, before
that of `batchEnd e b`) and nowhere else; the final version is the number of batches started. -/
theorem C12_param_window (c : Cfg) (R : Req) (stop₀ : Bool) :
    (∀ pre i ev seen v post, (fit c R stop₀).1 = pre ++ Entry.call i ev seen v :: post →
      v = pre.countP Entry.isOpt) ∧
    skeleton (fit c R stop₀).1 = (events (fit c R stop₀).1).flatMap (expandEv c) ∧
    (fit c R stop₀).2.ver = (events (fit c R stop₀).1).countP isBatchStart := by
  have h := fit_track c R stop₀
  refine ⟨?_, fit_skeleton c R stop₀, ?_⟩
  · intro pre i ev seen v post hl
    rw [hl] at h
    simpa using (track_call h).2
  · have := (track_val h).2.1
    simp only [S.key, Nat.zero_add] at this
    rw [this, countP_isOpt_skeleton, fit_skeleton, expand_countP_isOpt]

/-- **C12.6** Every event reaches all callbacks, in list order, before the next event: the sequence of
handler invocations is the event trace with each event replaced by `(cb, event)` for `cb` through the list. -/
theorem C12_dispatch_order (c : Cfg) (R : Req) (stop₀ : Bool) :
    calls (fit c R stop₀).1 = (events (fit c R stop₀).1).flatMap (fun ev => c.cbs.map (fun i => (i, ev))) :=
  (fit_calls_rets c R stop₀).1

/-- **C12.7 / C06.4** The scheduler steps once per epoch begun, in epoch order — also when the epoch was cut
short by a stop —, each step sitting in the control skeleton immediately before the emission of that
epoch's epoch-end (after its last batch); with no scheduler there are no steps. -/
theorem C12_scheduler_once_per_epoch (c : Cfg) (R : Req) (stop₀ : Bool) (hnb : 1 ≤ c.numBatches) :
    (fit c R stop₀).1.filterMap schedOf =
      (if c.hasSched then (events (fit c R stop₀).1).filterMap epochStartOf else []) ∧
    (fit c R stop₀).2.sched =
      (if c.hasSched then ((events (fit c R stop₀).1).filterMap epochStartOf).length else 0) ∧
    skeleton (fit c R stop₀).1 = (events (fit c R stop₀).1).flatMap (expandEv c) :=
  ⟨(fit_sched c R stop₀).1, (fit_sched c R stop₀).2, fit_skeleton c R stop₀⟩

/-! ## From the caller's arguments to the run; consecutive runs on one object -/

/-- **C12.8** The `callbacks=` argument may be any container of callbacks — `None`, list, tuple,
`CallbackList` instance, one-shot iterator; empty or not —: `fit` dispatches to exactly the callbacks the
caller listed, in the listed order (none for `None`/empty), whatever the container type; hence every
event reaches each of them, in that order, before the next event. -/
theorem C12_callbacks_container (a : Args) (R : Req) (stop₀ : Bool) (nb : Nat) :
    wrapCallbacks a.callbacks = a.callbacks.elems ∧
    calls (fit (a.cfg nb) R stop₀).1 =
      (events (fit (a.cfg nb) R stop₀).1).flatMap (fun ev => a.callbacks.elems.map (fun i => (i, ev))) := by
  have h : wrapCallbacks a.callbacks = a.callbacks.elems := by
    cases a.callbacks with
    | none => rfl
    | iter l => rfl
    | list l => cases l <;> rfl
    | tuple l => cases l <;> rfl
    | cbList l => cases l <;> rfl
  refine ⟨h, ?_⟩
  have := C12_dispatch_order (a.cfg nb) R stop₀
  simpa [Args.cfg, h] using this

/-- `_shuffle_data` has something to draw the negative-phase indices from: with bases at least one row
of the data is measured in the reference basis; without bases either the two batch sizes agree (nothing is
drawn) or there is at least one row. Otherwise `torch.randint(0, …)` raises (`C12_fit_args_abort`). -/
def DrawsOk (N nZ posB : Nat) (negB : Option Nat) (hasBases : Bool) : Prop :=
  (hasBases = true → 1 ≤ nZ) ∧ (hasBases = false → Batching.effNegB negB posB ≠ posB → 1 ≤ N)

theorem shuffleDraw_ok_iff (N nZ posB : Nat) (negB : Option Nat) (hasBases : Bool) :
    shuffleDraw N nZ posB negB hasBases = .ok () ↔ DrawsOk N nZ posB negB hasBases := by
  unfold shuffleDraw DrawsOk Batching.randintReq
  cases hasBases
  · by_cases h : Batching.effNegB negB posB = posB
    · simp [h]
    · by_cases hN : N = 0
      · simp [h, hN]
      · simp only [Bool.false_eq_true, if_false, if_neg h, if_neg hN, false_implies, true_and, forall_const, true_iff]
        intro _; omega
  · by_cases hZ : nZ = 0
    · simp [hZ]
    · simp only [if_true, if_neg hZ, forall_const, true_iff]
      exact ⟨by omega, by intro h; cases h⟩

theorem shuffleDraw_error (N nZ posB : Nat) (negB : Option Nat) (hasBases : Bool)
    (h : ¬ DrawsOk N nZ posB negB hasBases) : shuffleDraw N nZ posB negB hasBases = .error .RuntimeError := by
  -- the draw either succeeds or raises `RuntimeError`, and by `shuffleDraw_ok_iff` it does not succeed
  have hr : ∀ n, Batching.randintReq n = .ok () ∨ Batching.randintReq n = .error .RuntimeError :=
    fun n => by unfold Batching.randintReq; split <;> simp
  have hcases : shuffleDraw N nZ posB negB hasBases = .ok () ∨
      shuffleDraw N nZ posB negB hasBases = .error .RuntimeError := by
    unfold shuffleDraw
    split
    · exact hr nZ
    · split
      · exact .inl rfl
      · exact hr N
  exact hcases.resolve_left (mt (shuffleDraw_ok_iff N nZ posB negB hasBases).mp h)

/-- **C12.9** The number of batch-start/batch-end pairs per (uninterrupted) epoch is `⌈N / pos_batch_size⌉`
whatever `neg_batch_size` is (`None`, smaller, equal, larger than `pos_batch_size`) and with or without
bases: the zipped iterator is never cut short by the negative batches; at least one batch when `N ≥ 1`.
(Hypothesis `hD`: the inputs on which `_shuffle_data` does not raise, see `DrawsOk`.) -/
theorem C12_batches_per_epoch (N nZ posB : Nat) (negB : Option Nat) (hasBases : Bool) (hB : 1 ≤ posB)
    (hD : DrawsOk N nZ posB negB hasBases) :
    batchesPerEpoch N nZ posB negB hasBases = .ok ((N + posB - 1) / posB) ∧
    (1 ≤ N → 1 ≤ (N + posB - 1) / posB) := by
  constructor
  · have hne : posB ≠ 0 := by omega
    have hneg : 1 ≤ Batching.effNegB negB posB := by
      cases negB with
      | none => exact hB
      | some k => cases k with
        | zero => exact hB
        | succ k => exact Nat.succ_le_succ (Nat.zero_le k)
    unfold batchesPerEpoch Batching.numBatches
    rw [if_neg hne]
    simp only [(shuffleDraw_ok_iff N nZ posB negB hasBases).mpr hD]
    simp only [Batching.batchStarts, List.length_map, List.length_range]
    by_cases hm : (!hasBases && Batching.effNegB negB posB == posB) = true
    · rw [if_pos hm]
      have he : Batching.effNegB negB posB = posB := by
        simp only [Bool.and_eq_true, beq_iff_eq] at hm
        exact hm.2
      rw [he]
      cases hasBases <;> simp
    · rw [if_neg hm, show (_ * _ + _ - 1) / _ = _ from Batching.ceilDiv_mul _ _ hneg]
      cases hasBases <;> simp
  · intro hN
    apply (Nat.le_div_iff_mul_le (by omega)).mpr
    omega

/-- **C12.10** `fit` called with the caller's arguments (`pos_batch_size ≥ 1`) is the state machine with
`⌈N/pos_batch_size⌉` batches per epoch and the listed callbacks — all protocol theorems above apply to it. -/
theorem C12_fit_args (a : Args) (R : Req) (stop₀ : Bool) (hB : 1 ≤ a.posB)
    (hD : a.start ≤ a.epochs → DrawsOk a.N a.nZ a.posB a.negB a.hasBases) :
    fitArgs a R stop₀ = .ok (fit { start := a.start, epochs := a.epochs, numBatches := (a.N + a.posB - 1) / a.posB,
                                   cbs := a.callbacks.elems, timer := a.time, hasSched := a.hasSched } R stop₀) := by
  unfold fitArgs
  cases stop₀
  · have hne : a.posB ≠ 0 := by omega
    simp only [Bool.false_eq_true, if_false, Batching.numBatches, if_neg hne]
    by_cases hr : a.epochs < a.start
    · simp only [if_pos hr, Args.cfg, (C12_callbacks_container a R false 0).1]
    · simp only [if_neg hr]
      rw [(C12_batches_per_epoch a.N a.nZ a.posB a.negB a.hasBases hB (hD (by omega))).1]
      simp only [Args.cfg, (C12_callbacks_container a R false 0).1]
  · simp only [if_true, fit_stopped]

/-- **C12.10b** (where the code raises, the model raises) A call whose epoch range is not empty and whose
`_shuffle_data` has nothing to draw the negative indices from (bases given but no reference-basis row in the
data; no rows at all with `neg_batch_size ≠ pos_batch_size`) does not complete: `fit` raises `RuntimeError`
(`torch.randint(0, …)`) — and so does `pos_batch_size = 0` (`ZeroDivisionError`) for every epoch range.
By then `on_train_start` has reached every listed callback, in list order, and nothing else has happened: the
abort trace is `[train-start]`, WITHOUT train-end (such calls are outside the property's "training run":
SCOPE NOTE in claims.d/C12.json). A call on an object whose flag is set never raises. -/
theorem C12_fit_args_abort (a : Args) (R : Req) :
    (1 ≤ a.posB → a.start ≤ a.epochs → ¬ DrawsOk a.N a.nZ a.posB a.negB a.hasBases →
      fitArgs a R false = .error .RuntimeError) ∧
    (a.posB = 0 → fitArgs a R false = .error .ZeroDivisionError) ∧
    (∃ out, fitArgs a R true = .ok out) ∧
    events (fitArgsAbortLog a R) = [.trainStart] ∧
    calls (fitArgsAbortLog a R) = a.callbacks.elems.map (fun i => (i, Event.trainStart)) := by
  refine ⟨?_, ?_, ⟨fit (a.cfg 0) R true, by simp only [fitArgs, if_true]⟩, ?_, ?_⟩
  · intro hB hr hbad
    have hne : a.posB ≠ 0 := by omega
    have hr' : ¬ a.epochs < a.start := by omega
    simp only [fitArgs, Bool.false_eq_true, if_false, Batching.numBatches, if_neg hne, if_neg hr', batchesPerEpoch,
      shuffleDraw_error _ _ _ _ _ hbad]
  · intro h0
    simp only [fitArgs, Bool.false_eq_true, if_false, Batching.numBatches, h0, if_true]
  · simp only [fitArgsAbortLog, dispatch_events]
  · simp only [fitArgsAbortLog, dispatch_calls, Args.cfg, (C12_callbacks_container a R false 0).1]

/-- **C12.4c** The request persists across calls: on an object whose flag is set, every further `fit` call
(whatever its arguments and callbacks) is a no-op and leaves the flag set, until the caller clears the flag. -/
theorem C12_session_stopped (runs : List Run) (h : ∀ r ∈ runs, r.pre = none) :
    session runs true =
      .ok (runs.map fun _ => ([], { stop := true, notified := false, ver := 0, sched := 0 })) := by
  induction runs with
  | nil => rfl
  | cons r rest ih =>
    have hr : r.pre = none := h r (List.mem_cons_self)
    have ih' := ih (fun x hx => h x (List.mem_cons_of_mem _ hx))
    simp only [session, hr, fitArgs, if_true, fit_stopped, ih', List.map_cons]

/-- a session: the first call is stopped by callback 0 at the end of its first epoch, the second call (no
reset) is silent, the third (after `stop_training = False`) runs again — with a tuple of callbacks and
`neg_batch_size > pos_batch_size` (10 rows, batches of 3 → 4 batches per epoch). -/
example :
    let a : Args := { start := 1, epochs := 2, N := 10, posB := 3, negB := some 5, hasBases := false, nZ := 0,
                      callbacks := .tuple [0, 1], time := false, hasSched := false }
    let R1 : Req := { cb := fun i ev => i == 0 && ev == Event.epochEnd 1, mid := fun _ _ => false }
    let R0 : Req := { cb := fun _ _ => false, mid := fun _ _ => false }
    (session [⟨none, a, R1⟩, ⟨none, a, R0⟩, ⟨some false, { a with epochs := 1 }, R0⟩] false).toOption.map
        (fun outs => outs.map (fun o => ((events o.1).length, o.2.stop, o.2.ver))) =
      some [(12, true, 4), (0, true, 0), (12, false, 4)] := by rfl

/-! ## Runs without batches (`len(data) = 0`, hence `numBatches = 0`)

The real `fit` accepts a data set with no rows (positive state): every epoch is `es e, ee e` with no batch,
no optimizer step. `C12_complete_without_stop` and `C12_stop_at_epoch_end` above hold for every `numBatches`
(also 0), and so do C12.1b and C12.7 (their proofs, `fit_train_events_once` and `fit_sched`, do not use the hypothesis on
`numBatches`); the theorems of this section cover what the `1 ≤ numBatches` theorems leave out. -/

theorem batchesRun_zero (c : Cfg) (R : Req) (stopIn : Bool) (e : Int) (h0 : c.numBatches = 0) :
    batchesRun c R stopIn e = 0 := by
  simp [batchesRun, h0]

theorem fullEpochs_start_end (nb : Nat) (a b : Int) :
    (fullEpochs nb a b).filterMap epochEndOf = (fullEpochs nb a b).filterMap epochStartOf := by
  obtain ⟨hends, hstarts, _⟩ := epochBlocks_marks (epochRange a b) fun _ => nb
  exact hends.trans hstarts.symm

theorem fit_shape_no_batches (c : Cfg) (R : Req) (h0 : c.numBatches = 0) :
    ∃ m : Int, m ≤ c.epochs ∧
      events (fit c R false).1 = Event.trainStart :: (fullEpochs 0 c.start m ++ [Event.trainEnd]) := by
  obtain ⟨m, hm, ht⟩ := epochRange_take c.start c.epochs
    (cut (reqEv c R .trainStart) (epochReq c R) (epochRange c.start c.epochs))
  refine ⟨m, hm, ?_⟩
  rw [fit_events, ht]
  exact congrArg (fun t => Event.trainStart :: (t ++ [Event.trainEnd]))
    (flatMap_congr fun e _ => by rw [epochEv_eq_block, batchesRun_zero c R _ e h0])

/-- **C12.1 for zero batches** A run on a data set without rows (`numBatches = 0`) is well-formed too: nothing at
all iff a stop was already requested; otherwise train-start once, whole epochs `es e, ee e` for consecutive
`e = starting_epoch … m` with `m ≤ epochs` (no batch event at all), train-end once. No optimizer step is
taken and the parameter version stays 0. (Which `m`: `epochs` without a stop — `C12_complete_without_stop` —,
the epoch of the first request otherwise — `C12_stop_at_epoch_end`, `C12_stop_at_epoch_start_no_batches`.) -/
theorem C12_protocol_no_batches (c : Cfg) (R : Req) (stop₀ : Bool) (h0 : c.numBatches = 0) :
    (∃ m : Int, m ≤ c.epochs ∧ events (fit c R stop₀).1 =
        if stop₀ then [] else Event.trainStart :: (fullEpochs 0 c.start m ++ [Event.trainEnd])) ∧
    (events (fit c R stop₀).1).count .trainStart = (if stop₀ then 0 else 1) ∧
    (events (fit c R stop₀).1).count .trainEnd = (if stop₀ then 0 else 1) ∧
    (fit c R stop₀).2.ver = 0 ∧ (fit c R stop₀).1.countP Entry.isOpt = 0 := by
  have hb : (events (fit c R stop₀).1).countP isBatchStart = 0 := by
    cases stop₀
    · obtain ⟨m, _, he⟩ := fit_shape_no_batches c R h0
      rw [he, List.countP_eq_zero]
      simp only [fullEpochs, epochBlock, pairs, List.range_zero, List.flatMap_nil, List.nil_append, List.mem_cons,
        List.mem_append, List.mem_flatMap, List.not_mem_nil, or_false]
      rintro x (rfl | ⟨e, _, rfl | rfl⟩ | rfl) <;> simp [isBatchStart]
    · rw [fit_stopped]; rfl
  have hver : (fit c R stop₀).2.ver = 0 ∧ (fit c R stop₀).1.countP Entry.isOpt = 0 :=
    ⟨by rw [(C12_param_window c R stop₀).2.2, hb],
     by rw [countP_isOpt_skeleton, fit_skeleton, expand_countP_isOpt, hb]⟩
  cases stop₀
  · obtain ⟨m, hm, he⟩ := fit_shape_no_batches c R h0
    exact ⟨⟨m, hm, he⟩, (fit_train_events_once c R).1, (fit_train_events_once c R).2.1, hver⟩
  · refine ⟨⟨c.epochs, Int.le_refl _, by rw [fit_stopped]; rfl⟩, ?_, ?_, hver⟩ <;> rw [fit_stopped] <;> rfl

/-- **C12.3c for zero batches** First stop request at epoch-start of epoch `e` when there are no batches: no
batch runs (contrast `C12_stop_at_epoch_start`: with batches exactly one more runs), the epoch's end event
and train-end still fire, no further epoch begins. -/
theorem C12_stop_at_epoch_start_no_batches (c : Cfg) (R : Req) (e : Int) (h0 : c.numBatches = 0)
    (h1 : c.start ≤ e) (h2 : e ≤ c.epochs) (hq : QuietBefore c R e) (hr : reqEv c R (.epochStart e) = true) :
    events (fit c R false).1 = Event.trainStart :: (fullEpochs 0 c.start e ++ [Event.trainEnd]) ∧
    (fit c R false).2.stop = true := by
  have he : epochReq c R e = true := by simp [epochReq, hr]
  have := fit_first_stop c R e h1 h2 hq he
  rw [batchesRun_zero c R false e h0, h0] at this
  refine ⟨?_, this.2⟩
  rw [this.1, fullEpochs_snoc 0 c.start e h1]

/-- **C12.3d for zero batches** Stop requested at train-start when there are no batches: if the epoch range is
non-empty the first epoch's `es, ee` fire (no batch), then train-end; the flag stays set. -/
theorem C12_stop_at_train_start_no_batches (c : Cfg) (R : Req) (h0 : c.numBatches = 0)
    (hr : reqEv c R .trainStart = true) :
    events (fit c R false).1 = Event.trainStart ::
      ((if c.start ≤ c.epochs then [Event.epochStart c.start, Event.epochEnd c.start] else []) ++
        [Event.trainEnd]) ∧
    (fit c R false).2.stop = true := by
  constructor
  · rw [fit_events_of_req_at_start c R hr, epochRange_rec]
    by_cases h : c.epochs < c.start
    · rw [if_pos h, if_neg (by omega)]; simp
    · rw [if_neg h, if_pos (by omega)]
      simp only [List.take_succ_cons, List.take_zero, List.flatMap_cons, List.flatMap_nil, List.append_nil]
      rw [epochEv_eq_block, batchesRun_zero c R true c.start h0]
      rfl
  · rw [fit_stop]; simp [hr]

/-- **C12.7 for zero batches** The scheduler still steps once per epoch begun (immediately before that epoch's
epoch-end) when the epochs have no batches. -/
theorem C12_scheduler_once_per_epoch_no_batches (c : Cfg) (R : Req) (stop₀ : Bool) (h0 : c.numBatches = 0) :
    (fit c R stop₀).1.filterMap schedOf =
      (if c.hasSched then (events (fit c R stop₀).1).filterMap epochStartOf else []) ∧
    (fit c R stop₀).2.sched =
      (if c.hasSched then ((events (fit c R stop₀).1).filterMap epochStartOf).length else 0) :=
  fit_sched c R stop₀

/-- `fit(data with 0 rows, pos_batch_size ≥ 1, …)` is the zero-batch state machine. -/
theorem C12_fit_args_no_rows (a : Args) (R : Req) (stop₀ : Bool) (hB : 1 ≤ a.posB) (hN : a.N = 0)
    (hD : a.start ≤ a.epochs → a.hasBases = false ∧ Batching.effNegB a.negB a.posB = a.posB) :
    fitArgs a R stop₀ = .ok (fit { start := a.start, epochs := a.epochs, numBatches := 0,
                                   cbs := a.callbacks.elems, timer := a.time, hasSched := a.hasSched } R stop₀) := by
  rw [C12_fit_args a R stop₀ hB (fun hr => ⟨by simp [(hD hr).1], fun _ h => absurd (hD hr).2 h⟩), hN]
  have : (0 + a.posB - 1) / a.posB = 0 := by
    apply Nat.div_eq_of_lt; omega
  rw [this]

/-- a run without batches: three epochs, callback 0 asks for a stop at the start of epoch 2 -/
example :
    let c : Cfg := { start := 1, epochs := 3, numBatches := 0, cbs := [0], timer := true, hasSched := true }
    let R : Req := { cb := fun i ev => i == 0 && ev == Event.epochStart 2, mid := fun _ _ => false }
    events (fit c R false).1 = [.trainStart, .epochStart 1, .epochEnd 1, .epochStart 2, .epochEnd 2, .trainEnd] ∧
      (fit c R false).2.stop = true ∧ (fit c R false).2.ver = 0 ∧ (fit c R false).2.sched = 2 := by decide

/-! ## `LambdaCallback`: constructor validation, default handlers, what an event invokes -/

/-- the argument is acceptable for its slot: `None`, or a callable whose signature has exactly as many
parameters as the event passes arguments -/
def SlotOk (a : Slot → FnArg) (s : Slot) : Prop := a s = .none ∨ ∃ id, a s = .fn id s.numParams

/-- the handler installed for an acceptable argument: the function itself; the no-op for `None` -/
def handlerOf : FnArg → Handler
  | .fn id _ => .user id
  | _ => .noop

/-- the exception an unacceptable argument raises: `TypeError` if it is not callable, `ValueError` (wrong
number of parameters) if it is -/
def errKind : FnArg → PyErr
  | .notCallable => .TypeError
  | _ => .ValueError

theorem validateSlot_ok {a : Slot → FnArg} {s : Slot} (h : SlotOk a s) :
    validateSlot a s = .ok (handlerOf (a s)) := by
  unfold validateSlot validateFunction
  rcases h with h | ⟨id, h⟩ <;> rw [h] <;> simp [handlerOf]

theorem validateSlot_err {a : Slot → FnArg} {s : Slot} (h : ¬ SlotOk a s) :
    validateSlot a s = .error (errKind (a s), s) := by
  unfold validateSlot validateFunction
  cases ha : a s with
  | none => exact absurd (Or.inl ha) h
  | notCallable => rfl
  | fn id k =>
    have hk : k ≠ s.numParams := fun hk => h (Or.inr ⟨id, by rw [ha, hk]⟩)
    simp [hk, errKind]

/-- **C12.11** `LambdaCallback(on_train_start=…, …, on_batch_end=…)`: the constructor succeeds iff every argument
is `None` or a callable with exactly 1 / 1 / 2 / 2 / 3 / 3 parameters (as `inspect.signature` counts them:
defaulted and var-args parameters included); the object then holds in each slot the caller's function for
THAT slot (no-op for `None`). Otherwise the first offending argument, in the order train-start, train-end,
epoch-start, epoch-end, batch-start, batch-end, decides the exception: `TypeError` if it is not callable,
`ValueError` if its parameter count is wrong — naming that slot. -/
theorem C12_lambda_init (a : Slot → FnArg) :
    ((∀ s, SlotOk a s) → ∃ o, lambdaInit a = .ok o ∧ ∀ s, o.get s = handlerOf (a s)) ∧
    (∀ s, ¬ SlotOk a s → (∀ s' : Slot, s'.idx < s.idx → SlotOk a s') →
      lambdaInit a = .error (errKind (a s), s)) ∧
    (∀ o, lambdaInit a = .ok o → (∀ s, SlotOk a s) ∧ ∀ s, o.get s = handlerOf (a s)) := by
  have part1 : (∀ s, SlotOk a s) → ∃ o, lambdaInit a = .ok o ∧ ∀ s, o.get s = handlerOf (a s) := by
    intro h
    refine ⟨{ onTrainStart := handlerOf (a .trainStart), onTrainEnd := handlerOf (a .trainEnd),
              onEpochStart := handlerOf (a .epochStart), onEpochEnd := handlerOf (a .epochEnd),
              onBatchStart := handlerOf (a .batchStart), onBatchEnd := handlerOf (a .batchEnd) }, ?_, ?_⟩
    · unfold lambdaInit
      simp only [validateSlot_ok (h _)]
      rfl
    · intro s; cases s <;> rfl
  have part2 : ∀ s, ¬ SlotOk a s → (∀ s' : Slot, s'.idx < s.idx → SlotOk a s') →
      lambdaInit a = .error (errKind (a s), s) := by
    intro s hs hlt
    have ok : ∀ s' : Slot, s'.idx < s.idx → validateSlot a s' = .ok (handlerOf (a s')) :=
      fun s' h' => validateSlot_ok (hlt s' h')
    unfold lambdaInit
    cases s <;> simp (disch := decide) only [ok, validateSlot_err hs] <;> rfl
  refine ⟨part1, part2, ?_⟩
  · intro o ho
    -- no first offending slot: it would make the constructor fail
    have hall : ∀ s, SlotOk a s := by
      intro s
      induction h : s.idx using Nat.strongRecOn generalizing s with
      | _ n ih =>
        by_cases hs : SlotOk a s
        · exact hs
        · rw [part2 s hs fun s' h' => ih s'.idx (h ▸ h') s' rfl] at ho
          cases ho
    obtain ⟨o', ho', hget⟩ := part1 hall
    rw [ho'] at ho
    cases ho
    exact ⟨hall, hget⟩

/-- the default object `LambdaCallback()` has six no-op handlers; a bound-method style count is rejected:
a 2-parameter function is accepted for an epoch slot and rejected (ValueError) for a batch slot -/
example :
    (lambdaInit (fun _ => .none)).toOption.map (fun o => [o.get .trainStart, o.get .epochEnd, o.get .batchEnd]) =
      some [.noop, .noop, .noop] ∧
    lambdaInit (fun s => if s = .epochEnd then .fn 7 2 else .none) =
      .ok { onTrainStart := .noop, onTrainEnd := .noop, onEpochStart := .noop, onEpochEnd := .user 7,
            onBatchStart := .noop, onBatchEnd := .noop } ∧
    lambdaInit (fun s => if s = .batchStart then .fn 7 2 else if s = .batchEnd then .notCallable else .none) =
      .error (.ValueError, .batchStart) := ⟨by rfl, by rfl, by rfl⟩

theorem userCalls_eq (T : Table) (l : List Entry) : userCalls T l = (calls l).filterMap T.invoke := by
  rw [calls, List.filterMap_filterMap]
  exact congrArg (List.filterMap · l) (funext fun x => by cases x <;> rfl)

/-- **C12.12** What user code runs: every event of the run is offered to every listed callback in list order
(`C12_dispatch_order`), and on each callback exactly the function sitting in THAT event's slot runs — for a
`LambdaCallback` the function the caller passed for that slot (`C12_lambda_init`), nothing for a slot left
`None` (or a method a `CallbackBase` subclass does not override). So a callback given a subset of handlers
observes the protocol trace filtered to that subset, in order, with the event's own arguments. -/
theorem C12_lambda_dispatch (T : Table) (c : Cfg) (R : Req) (stop₀ : Bool) :
    userCalls T (fit c R stop₀).1 =
      (events (fit c R stop₀).1).flatMap (fun ev => c.cbs.filterMap (fun i => T.invoke (i, ev))) := by
  rw [userCalls_eq, C12_dispatch_order, List.filterMap_flatMap]
  congr 1
  funext ev
  rw [List.filterMap_map]
  rfl

/-! ## Code inside the model: the `stop_training` setter, an exception escaping from a callback,
`CallbackList` as a mutable sequence, the `Timer` -/

/-- the entry is a handler invocation that, ENTERED WITH THE FLAG SET, makes an accepted assignment of `False`: Python
CLEARS the flag there (and the loop goes on), whereas the model's `Asg.req` reads an assignment of `False` as "no request"
and keeps the flag (`Asg` doc: "`v = False` is faithful only while the flag is clear") -/
def clearsAt (A : Asg) : Entry → Bool
  | .call i ev seen _ => seen && (match A i ev with | some (.pyBool false, _) => true | _ => false)
  | _ => false

/-- no accepted assignment of `False` occurs after a request in the log: the scope in which the model of assignments
(`Asg.req`, `fitAsg`) speaks about the code.  Decidable (a `Bool`) for a concrete log. -/
def noClear (A : Asg) (log : List Entry) : Bool := log.all (fun x => !clearsAt A x)

/-- the stop requests of a run are exactly the accepted assignments of `True` -/
theorem req_cb_iff (A : Asg) (mid : Int → Nat → Bool) (i : Nat) (ev : Event) :
    (A.req mid).cb i ev = true ↔ ∃ c, A i ev = some (.pyBool true, c) := by
  simp only [Asg.req]
  cases hA : A i ev with
  | none => simp
  | some p =>
    obtain ⟨w, c⟩ := p
    cases w with
    | pyBool b => cases b <;> simp [setStop]
    | _ => simp [setStop]

/-- a handler ends with an exception iff it assigns a refused kind outside a `try` -/
theorem raises_isSome_iff (A : Asg) (i : Nat) (ev : Event) :
    (A.raises i ev).isSome = true ↔ ∃ w, A i ev = some (w, false) ∧ w.isBool = false := by
  simp only [Asg.raises]
  cases hA : A i ev with
  | none => simp
  | some p =>
    obtain ⟨w, c⟩ := p
    cases w <;> cases c <;> simp [setStop, PyVal.isBool]

/-- **C12.13** The `stop_training` setter (neural_state.py:46-50) and what an assignment by a callback amounts to.
(1) a Python `bool` is accepted and stored; (2) every other kind — `numpy.bool_` (a numpy comparison result), `int` 0/1, a 0-d
tensor, `None`, a `str` — is refused with an exception and leaves the whole state, in particular the flag, exactly as it was;
(3) hence the stop requests of a run are exactly the accepted assignments of `True`: a refused assignment is NOT a request;
(4) a handler ends with an exception iff it assigns a refused kind outside a `try`; (5) a run in which the callbacks only
make refused assignments (caught) or assign `False` is, event for event and entry for entry, the run in which no callback
requests anything — it is not cut short and the flag stays as it was — PROVIDED no accepted assignment of `False` is made by
a handler entered with the flag set (`noClear`: the requests `mid` made inside a batch can set it): Python would CLEAR the flag
there and go on, which the model (`Asg.req`: `False` = "no request") does not represent.  (1), (2) and the two iffs (3), (4)
read back `setStop` / `Asg.req` / `Asg.raises` (that `numpy.bool_` is refused is what the harness checks against the code).

PARTIAL: the full statement (no `noClear` premise in (5)), i.e.
`(∀ i ev w c, A i ev = some (w, c) → w ≠ .pyBool true ∧ (w.isBool = false → c = true)) →`
`  ∀ c stop₀, fitAsg c A mid stop₀ = .ok (fit c { cb := fun _ _ => false, mid := mid } stop₀)`
is provable in the model but NOT a statement about the code when a `False` assignment follows a request of `mid`. -/
theorem C12_refused_request_leaves_flag_partial (v : PyVal) (s : S) (A : Asg) (mid : Int → Nat → Bool) :
    (∀ b, assignStop (.pyBool b) s = (none, { s with stop := b })) ∧
    (v.isBool = false → assignStop v s = (some .ValueError, s)) ∧
    (∀ i ev, (A.req mid).cb i ev = true ↔ ∃ c, A i ev = some (.pyBool true, c)) ∧
    (∀ i ev, (A.raises i ev).isSome = true ↔ ∃ w, A i ev = some (w, false) ∧ w.isBool = false) ∧
    ((∀ i ev w c, A i ev = some (w, c) → w ≠ .pyBool true ∧ (w.isBool = false → c = true)) →
      ∀ c stop₀, noClear A (fit c { cb := fun _ _ => false, mid := mid } stop₀).1 = true →
        fitAsg c A mid stop₀ = .ok (fit c { cb := fun _ _ => false, mid := mid } stop₀)) := by
  refine ⟨fun b => rfl, ?_, req_cb_iff A mid, raises_isSome_iff A, ?_⟩
  · intro hv
    cases v <;> first | rfl | (simp [PyVal.isBool] at hv)
  · intro h c stop₀ _
    -- under `h` nobody requests (no accepted `True`) and nobody raises (every refused assignment is caught)
    have hq : A.req mid = { cb := fun _ _ => false, mid := mid } := by
      refine congrArg (Req.mk · mid) (funext fun i => funext fun ev => ?_)
      cases hcb : (A.req mid).cb i ev
      · exact hcb
      · obtain ⟨cc, hc⟩ := (req_cb_iff A mid i ev).mp hcb
        exact absurd rfl (h i ev _ cc hc).1
    have hno : ∀ i ev, A.raises i ev = none := by
      intro i ev
      cases hr : A.raises i ev
      · rfl
      · obtain ⟨w, hw, hb⟩ := (raises_isSome_iff A i ev).mp (by rw [hr]; rfl)
        cases (h i ev w false hw).2 hb
    simp only [fitAsg, hq, cutAtRaise_none (fun p _ => hno p.1 p.2)]

/-- the refusal of a `numpy.bool_` is real: `nn_state.stop_training = np.True_` raises and the flag stays clear;
a run whose only "request" is such an assignment (caught by the callback) at the end of epoch 1 runs both epochs -/
example :
    assignStop (.npBool true) { stop := false, notified := false, ver := 3, sched := 1 } =
      (some .ValueError, { stop := false, notified := false, ver := 3, sched := 1 }) ∧
    (let c : Cfg := { start := 1, epochs := 2, numBatches := 1, cbs := [0], timer := false, hasSched := false }
     let A : Asg := fun i ev => if i == 0 && ev == Event.epochEnd 1 then some (.npBool true, true) else none
     (match fitAsg c A (fun _ _ => false) false with
      | .ok r => some ((events r.1).length, r.2.stop) | .error _ => none) = some (10, false)) := by decide

/-- the premise `noClear` of conjunct (5) holds on a non-trivial run: a request made INSIDE batch 0 of epoch 1 (`mid`), callback 0
assigns `False` at the start of epoch 1 (flag still clear: a no-op in Python too) and a refused `np.True_` (caught) at the end of
that batch — the conclusion then is the run cut short by `mid`'s request (the batch loop is left, epoch-end and train-end follow); … -/
example :
    (let c : Cfg := { start := 1, epochs := 2, numBatches := 2, cbs := [0], timer := false, hasSched := false }
     let mid : Int → Nat → Bool := fun e b => e == 1 && b == 0
     let A : Asg := fun i ev =>
       if i == 0 && ev == Event.epochStart 1 then some (.pyBool false, false)
       else if i == 0 && ev == Event.batchEnd 1 0 then some (.npBool true, true) else none
     noClear A (fit c { cb := fun _ _ => false, mid := mid } false).1 = true ∧
     (match fitAsg c A mid false with
      | .ok r => some (events r.1, r.2.stop) | .error _ => none)
       = some ([.trainStart, .epochStart 1, .batchStart 1 0, .batchEnd 1 0, .epochEnd 1, .trainEnd], true)) := by decide

/-- … and FAILS on this one: the same request of `mid`, and callback 0 assigns `False` at the end of that
batch (Python clears the flag and trains on; the model would stop) — that run is outside the statement. -/
example :
    (let c : Cfg := { start := 1, epochs := 2, numBatches := 2, cbs := [0], timer := false, hasSched := false }
     let mid : Int → Nat → Bool := fun e b => e == 1 && b == 0
     let A : Asg := fun i ev => if i == 0 && ev == Event.batchEnd 1 0 then some (.pyBool false, false) else none
     noClear A (fit c { cb := fun _ _ => false, mid := mid } false).1 = false) := by rfl

/-- **C12.14** An exception raised by a callback inside `fit` (here: a refused assignment to `stop_training` outside a `try`).
Neither `CallbackList` nor `fit` catches anything, so what has happened when the exception leaves `fit` is a PREFIX of the run
that would have happened: the log up to and including the first raising handler invocation — the later callbacks and the
Timer do not see that event, no later event is emitted (in particular neither the epoch-end nor train-end), and no earlier
invocation raised. The events / handler invocations seen are prefixes of the protocol trace (`C12_protocol`) / dispatch
sequence (`C12_dispatch_order`) of the full run; the control skeleton so far is a prefix of the events' expansion, i.e. every
parameter update made sits immediately after its batch-start emission (updates only inside batch windows) and the version
left behind is the number of updates made; the flag left behind is the initial flag or-ed with the requests made before
(so a later call is silent iff a stop had been requested, `C12_stopped_run_is_noop`). A run started stopped never raises.
The last event emitted is the one whose dispatch was interrupted (every invocation is for the event emitted last).

This is the MODEL-level fact (`fitAsg` is DEFINED as the completed model run cut after the first raising invocation, so the
prefix clauses are `cutAtRaise_some`); as a statement about the code it is `C12_exception_trace_partial`. -/
theorem exception_trace_model (c : Cfg) (A : Asg) (mid : Int → Nat → Bool) (stop₀ : Bool) (ab : Abort)
    (h : fitAsg c A mid stop₀ = .error ab) :
    ∃ pre' i ev seen ver post,
      ab.log = pre' ++ [Entry.call i ev seen ver] ∧
      (fit c (A.req mid) stop₀).1 = ab.log ++ post ∧
      A.raises i ev = some ab.err ∧
      (∀ p ∈ calls pre', A.raises p.1 p.2 = none) ∧
      events ab.log <+: events (fit c (A.req mid) stop₀).1 ∧
      calls ab.log <+: (events (fit c (A.req mid) stop₀).1).flatMap (fun ev => c.cbs.map (fun i => (i, ev))) ∧
      skeleton ab.log <+: (events (fit c (A.req mid) stop₀).1).flatMap (expandEv c) ∧
      ab.stop = (stop₀ || ab.log.any (A.req mid).at) ∧
      ab.ver = ab.log.countP Entry.isOpt ∧
      stop₀ = false ∧
      (events ab.log).getLast? = some ev := by
  unfold fitAsg at h
  simp only at h
  cases hc : cutAtRaise A.raises (fit c (A.req mid) stop₀).1 with
  | none => simp [hc] at h
  | some q =>
    obtain ⟨pre, e⟩ := q
    simp only [hc, Except.error.injEq] at h
    subst h
    obtain ⟨pre', i, ev, seen, ver, post, rfl, e2, e3, e4⟩ := cutAtRaise_some hc
    have hfull : (fit c (A.req mid) stop₀).1 = pre' ++ Entry.call i ev seen ver :: post := by
      rw [e2, List.append_assoc]; rfl
    have hseen := (C12_sticky c (A.req mid) stop₀).2.1 pre' i ev seen ver post hfull
    have hver := (C12_param_window c (A.req mid) stop₀).1 pre' i ev seen ver post hfull
    refine ⟨pre', i, ev, seen, ver, post, rfl, e2, e3, e4, ⟨events post, by rw [e2]; exact (events_append _ _).symm⟩,
      ⟨calls post, by rw [← C12_dispatch_order, e2]; exact (calls_append _ _).symm⟩,
      ⟨skeleton post, by rw [← fit_skeleton, e2]; exact (skeleton_append _ _).symm⟩, ?_, ?_, ?_, ?_⟩
    · simp [abortState, hseen, Req.at, Bool.or_assoc]
    · simp [abortState, hver, Entry.isOpt]
    · cases stop₀
      · rfl
      · rw [fit_stopped] at hfull; simp at hfull
    · have hcur := callsOK_split (hfull ▸ fit_callsOK c (A.req mid) stop₀)
      rw [curAfter_eq_getLast?] at hcur
      simpa using hcur

/-- **C12.14 (PARTIAL)** `exception_trace_model` as a statement about the code, within the scope in which the model of assignments is
faithful: no handler invocation of the aborted run that was entered with the flag set makes an accepted assignment of `False`
(`_hnc`; Python would clear the flag there and the run would continue differently, so neither `ab.stop = stop₀ || (requests so
far)` nor "`ab.log` is a prefix of the model's full run" would describe it).  The hypothesis is a SCOPE condition: the proof does
not use it (in the model an assignment of `False` is "no request").  The full statement (without `_hnc`) is
`exception_trace_model`; it is a fact about the model only. -/
theorem C12_exception_trace_partial (c : Cfg) (A : Asg) (mid : Int → Nat → Bool) (stop₀ : Bool) (ab : Abort)
    (h : fitAsg c A mid stop₀ = .error ab) (_hnc : noClear A ab.log = true) :
    ∃ pre' i ev seen ver post,
      ab.log = pre' ++ [Entry.call i ev seen ver] ∧
      (fit c (A.req mid) stop₀).1 = ab.log ++ post ∧
      A.raises i ev = some ab.err ∧
      (∀ p ∈ calls pre', A.raises p.1 p.2 = none) ∧
      events ab.log <+: events (fit c (A.req mid) stop₀).1 ∧
      calls ab.log <+: (events (fit c (A.req mid) stop₀).1).flatMap (fun ev => c.cbs.map (fun i => (i, ev))) ∧
      skeleton ab.log <+: (events (fit c (A.req mid) stop₀).1).flatMap (expandEv c) ∧
      ab.stop = (stop₀ || ab.log.any (A.req mid).at) ∧
      ab.ver = ab.log.countP Entry.isOpt ∧
      stop₀ = false ∧
      (events ab.log).getLast? = some ev :=
  exception_trace_model c A mid stop₀ ab h

/-- the scope condition of `C12_exception_trace_partial` holds on a non-trivial aborted run: callback 0 requests a stop
(`True`) at the end of batch 0 of epoch 1, callback 1 — dispatched after it, entered with the flag set — assigns `np.True_`
outside a `try` (refused: `ValueError` leaves `fit`); callback 1 also assigned `False` at the start of epoch 1 (flag clear then) -/
example :
    (let c : Cfg := { start := 1, epochs := 2, numBatches := 2, cbs := [0, 1], timer := false, hasSched := false }
     let A : Asg := fun i ev =>
       if i == 1 && ev == Event.epochStart 1 then some (.pyBool false, false)
       else if i == 0 && ev == Event.batchEnd 1 0 then some (.pyBool true, false)
       else if i == 1 && ev == Event.batchEnd 1 0 then some (.npBool true, false) else none
     (match fitAsg c A (fun _ _ => false) false with
      | .error ab => some (noClear A ab.log, ab.err, ab.stop, (events ab.log).getLast?) | .ok _ => none)
       = some (true, .ValueError, true, some (.batchEnd 1 0))) := by rfl

/-- **C12.14b** When the exception is raised while an event other than train-end is dispatched, `on_train_end` has NOT been
dispatched when it leaves `fit` (and, the trace being a prefix ending in the interrupted event, neither has anything after that
event: the current epoch's end event is not delivered either unless it is the interrupted one). -/
theorem C12_exception_no_train_end (c : Cfg) (A : Asg) (mid : Int → Nat → Bool) (stop₀ : Bool) (ab : Abort)
    (h : fitAsg c A mid stop₀ = .error ab) (hte : ∀ i, A.raises i .trainEnd = none) :
    Event.trainEnd ∉ events ab.log := by
  obtain ⟨pre', i, ev, seen, ver, post, e1, e2, e3, _, _, _, _, _, _, hs, hlast⟩ := exception_trace_model c A mid stop₀ ab h
  subst hs
  have hev : ev ≠ .trainEnd := by
    intro he; rw [he, hte i] at e3; cases e3
  have hfull : events (fit c (A.req mid) false).1 = events ab.log ++ events post := by rw [e2, events_append]
  have honce := fit_train_events_once c (A.req mid)
  rw [hfull] at honce
  exact not_mem_of_last_once honce.2.1 honce.2.2.2 (by rw [hlast]; exact fun h => hev (Option.some.inj h))

/-- callback 1 assigns a numpy truth value without a `try` at the end of batch (1,0) of a two-batch epoch, after callback 0
has requested a stop at the start of that batch: the exception leaves `fit` with the trace `ts, es 1, bs 1 0, be 1 0` (no
epoch-end, no train-end), one update made, the flag set; callback 2 never sees that batch-end -/
example :
    let c : Cfg := { start := 1, epochs := 2, numBatches := 2, cbs := [0, 1, 2], timer := true, hasSched := false }
    let A : Asg := fun i ev =>
      if i == 0 && ev == Event.batchStart 1 0 then some (.pyBool true, false)
      else if i == 1 && ev == Event.batchEnd 1 0 then some (.npBool true, false) else none
    (match fitAsg c A (fun _ _ => false) false with
     | .ok _ => none
     | .error ab => some (events ab.log, (calls ab.log).getLast?, ab.err, ab.stop, ab.ver)) =
      some ([.trainStart, .epochStart 1, .batchStart 1 0, .batchEnd 1 0], some (1, .batchEnd 1 0), .ValueError, true, 1) := by
  rfl

/-- **C12.15** `CallbackList` as a mutable sequence (callback_list.py:26-55) is plain list surgery on the callbacks `fit`
will dispatch to, behind an `isinstance` guard. With `j` the normalised index (`pyIdx`: `k` itself for `0 ≤ k < n`, `k + n` for
`-n ≤ k < 0`, otherwise `IndexError`): `cl[k] = cb` replaces position `j` and nothing else; `del cl[k]` removes position `j`;
`cl.insert(k, cb)` puts `cb` before position `insIdx k` (clamped into `0 … n`, never an error); `cl.append(cb)` puts it last;
`a + b` is `a`'s callbacks followed by `b`'s; `cl[k]` reads position `j`. Offering a non-callback to `__setitem__` / `insert` /
`append` is refused (`TypeError`, before the index is looked at). -/
theorem C12_container_ops (l : List Nat) :
    (∀ (n : Nat) (k : Int) (j : Nat), pyIdx n k = some j ↔
      ((0 ≤ k ∧ k < n ∧ (j : Int) = k) ∨ (k < 0 ∧ -(n : Int) ≤ k ∧ (j : Int) = k + n))) ∧
    (∀ k i j, pyIdx l.length k = some j →
      CbOp.apply l (.setItem k (.cb i)) = .ok (l.take j ++ i :: l.drop (j + 1)) ∧
      CbOp.apply l (.delItem k) = .ok (l.take j ++ l.drop (j + 1)) ∧
      cbGetItem l k = .ok (l.getD j 0) ∧ j < l.length) ∧
    (∀ k i, pyIdx l.length k = none →
      CbOp.apply l (.setItem k (.cb i)) = .error .IndexError ∧ CbOp.apply l (.delItem k) = .error .IndexError ∧
      cbGetItem l k = .error .IndexError) ∧
    (∀ k i, CbOp.apply l (.insert k (.cb i)) =
        .ok (l.take (insIdx l.length k) ++ i :: l.drop (insIdx l.length k)) ∧ insIdx l.length k ≤ l.length) ∧
    (∀ i, CbOp.apply l (.append (.cb i)) = .ok (l ++ [i])) ∧
    (∀ o, CbOp.apply l (.add o) = .ok (l ++ o) ∧ CbOp.apply l (.radd o) = .ok (o ++ l)) ∧
    (∀ k, CbOp.apply l (.setItem k .other) = .error .TypeError ∧ CbOp.apply l (.insert k .other) = .error .TypeError ∧
      CbOp.apply l (.append .other) = .error .TypeError) := by
  refine ⟨?_, ?_, ?_, ?_, ?_, ?_, ?_⟩
  · exact fun n k j => pyIdx_eq_some_iff
  · intro k i j h
    have hj : j < l.length := by have := pyIdx_eq_some_iff.mp h; omega
    refine ⟨?_, ?_, ?_, hj⟩
    · simp only [CbOp.apply, h, List.set_eq_take_append_cons_drop, if_pos hj]
    · simp only [CbOp.apply, h, List.eraseIdx_eq_take_drop_succ]
    · simp only [cbGetItem, h, List.getD, List.getElem?_eq_getElem hj, Option.getD_some]
  · intro k i h
    simp [CbOp.apply, cbGetItem, h]
  · intro k i
    exact ⟨by simp only [CbOp.apply, cbInsert, insertIdx_take_drop i l _ (insIdx_le _ _)], insIdx_le _ _⟩
  · intro i
    have : insIdx l.length (l.length : Int) = l.length := by
      unfold insIdx
      have h0 : ¬ ((l.length : Int) < 0) := by omega
      simp only [h0, if_false]; omega
    simp only [CbOp.apply, cbInsert, this, List.insertIdx_length_self]
  · intro o; exact ⟨rfl, rfl⟩
  · intro k; exact ⟨rfl, rfl, rfl⟩

theorem cbRunOps_cons (l : List Nat) (op : CbOp) (ops : List CbOp) :
    (∀ e, op.apply l = .error e → cbRunOps l (op :: ops) = ((cbRunOps l ops).1, some e :: (cbRunOps l ops).2)) ∧
    (∀ l', op.apply l = .ok l' → cbRunOps l (op :: ops) = ((cbRunOps l' ops).1, none :: (cbRunOps l' ops).2)) := by
  constructor
  · intro e h; simp only [cbRunOps, h]
  · intro l' h; simp only [cbRunOps, h]

/-- **C12.15b** (composition with `C12_dispatch_order`) After ANY sequence of container operations on a `CallbackList` — each
accepted or refused as in `C12_container_ops`, a refused one changing nothing (`cbRunOps_cons`) — a `fit` given that container
dispatches every event of its protocol trace to exactly the resulting callbacks, in the resulting order; a sequence of
operations that are all refused leaves the container, hence the dispatch, as it was. -/
theorem C12_container_ops_dispatch (l : List Nat) (ops : List CbOp) (a : Args) (R : Req) (stop₀ : Bool) (nb : Nat)
    (ha : a.callbacks = .cbList (cbRunOps l ops).1) :
    calls (fit (a.cfg nb) R stop₀).1 =
      (events (fit (a.cfg nb) R stop₀).1).flatMap (fun ev => (cbRunOps l ops).1.map (fun i => (i, ev))) ∧
    ((∀ x ∈ (cbRunOps l ops).2, x ≠ none) → (cbRunOps l ops).1 = l) ∧
    (cbRunOps l ops).2.length = ops.length := by
  have h := (C12_callbacks_container a R stop₀ nb).2
  rw [ha] at h
  refine ⟨h, ?_⟩
  clear ha h
  induction ops generalizing l with
  | nil => exact ⟨fun _ => rfl, rfl⟩
  | cons op ops ih =>
    rw [cbRunOps]
    cases op.apply l with
    | error e => exact ⟨fun h => (ih l).1 fun x hx => h x (List.mem_cons_of_mem _ hx), congrArg (· + 1) (ih l).2⟩
    | ok l' => exact ⟨fun h => absurd rfl (h none List.mem_cons_self), congrArg (· + 1) (ih l').2⟩

/-- a container built and edited through the API: `[5]`, `cl[0] = 0`, `append(2)`, `insert(1, 1)`, `insert(-9, 7)`,
`cl[3] = "x"` (refused), `del cl[-4]`, `del cl[7]` (refused), `cl + [3]` — the result is `[0, 1, 2, 3]` -/
example :
    cbRunOps [5] [.setItem 0 (.cb 0), .append (.cb 2), .insert 1 (.cb 1), .insert (-9) (.cb 7), .setItem 3 .other,
                  .delItem (-4), .delItem 7, .add [3], .append .other] =
      ([0, 1, 2, 3], [none, none, none, none, some .TypeError, none, some .IndexError, none, some .TypeError]) := by
  rfl

/-- **C12.16** The `Timer` that `time=True` appends (timer.py:32-62, neural_state.py:565-566) is transparent: the log of the
run with it is the log of the run without it plus printed lines — entry for entry the same events, the same handler
invocations of the user callbacks with the same flag and parameter version seen, the same flag read by `fit` after every
dispatch (so the same breaks), the same control skeleton (parameter updates in the same windows, scheduler steps), the same
final flag / version / scheduler count. Without the Timer nothing is printed; with it `calculate_elapsed_time` prints its line
as the very last thing of every run that was not silent. -/
theorem C12_timer_transparent (c : Cfg) (R : Req) (stop₀ : Bool) :
    noPrint (fit (c.withTimer true) R stop₀).1 = (fit (c.withTimer false) R stop₀).1 ∧
    events (fit (c.withTimer true) R stop₀).1 = events (fit (c.withTimer false) R stop₀).1 ∧
    calls (fit (c.withTimer true) R stop₀).1 = calls (fit (c.withTimer false) R stop₀).1 ∧
    rets (fit (c.withTimer true) R stop₀).1 = rets (fit (c.withTimer false) R stop₀).1 ∧
    skeleton (fit (c.withTimer true) R stop₀).1 = skeleton (fit (c.withTimer false) R stop₀).1 ∧
    (fit (c.withTimer true) R stop₀).2.stop = (fit (c.withTimer false) R stop₀).2.stop ∧
    (fit (c.withTimer true) R stop₀).2.ver = (fit (c.withTimer false) R stop₀).2.ver ∧
    (fit (c.withTimer true) R stop₀).2.sched = (fit (c.withTimer false) R stop₀).2.sched ∧
    prints (fit (c.withTimer false) R stop₀).1 = [] ∧
    (stop₀ = false → (fit (c.withTimer true) R stop₀).1.getLast? = some (.ret .trainEnd (fit (c.withTimer true) R stop₀).2.stop) ∧
      (prints (fit (c.withTimer true) R stop₀).1).getLast? = some .total) := by
  obtain ⟨h1, h2⟩ := fit_timerEq c R stop₀
  obtain ⟨k1, k2, k3⟩ := fields_of_key_eq h2
  obtain ⟨p1, p2, p3, p4⟩ := noPrint_proj (fit (c.withTimer true) R stop₀).1
  refine ⟨h1, by rw [← p1, h1], by rw [← p2, h1], by rw [← p3, h1], by rw [← p4, h1], k1, k2, k3,
    by rw [← h1]; exact prints_noPrint _, ?_⟩
  intro hs
  subst hs
  constructor
  · simp only [fit, Bool.false_eq_true, if_false]
    rw [List.getLast?_append, dispatch_getLast?]; rfl
  · obtain ⟨pre, _, hp⟩ := fit_prints c R
    rw [hp, List.getLast?_append]; rfl

/-- **C12.16b** What the `Timer` prints (timer.py:39-62, `already_notified`): nothing in a silent run; otherwise at most ONE
"Training terminated at epoch e[, batch b]" line — for the first `on_batch_end` / `on_epoch_end` (before train-end) whose
dispatch leaves the flag set (`rets` = the flag after the user callbacks of each event; by `C12_sticky` the OR of the requests
so far), naming that batch / epoch — followed by the elapsed-time line of `calculate_elapsed_time`, which is always last.
A stop first requested at train-end is not announced. -/
theorem C12_timer_prints (c : Cfg) (R : Req) :
    prints (fit (c.withTimer true) R true).1 = [] ∧
    ∃ pre, rets (fit (c.withTimer true) R false).1 = pre ++ [(.trainEnd, (fit (c.withTimer true) R false).2.stop)] ∧
      prints (fit (c.withTimer true) R false).1 = firstMsg pre ++ [.total] ∧
      (firstMsg pre).length ≤ 1 ∧ (pre.any endSet = false → firstMsg pre = []) := by
  refine ⟨by rw [fit_stopped]; rfl, ?_⟩
  obtain ⟨pre, h1, h2⟩ := fit_prints c R
  refine ⟨pre, h1, h2, ?_, fun h => firstMsg_of_not_any h⟩
  unfold firstMsg
  split
  · rename_i x _
    cases x.1 <;> simp [timerLine]
  · simp

/-- callback 0 asks for a stop at the START of batch (1,1): the Timer announces it at the END of that batch, once, and the
epoch-end that follows (flag still set) is not announced again -/
example :
    let c : Cfg := { start := 1, epochs := 2, numBatches := 3, cbs := [0], timer := false, hasSched := true }
    let R : Req := { cb := fun i ev => i == 0 && ev == Event.batchStart 1 1, mid := fun _ _ => false }
    firstMsg ((rets (fit (c.withTimer true) R false).1).dropLast) = [.terminatedBatch 1 1] ∧
      ((rets (fit (c.withTimer true) R false).1).filter endSet).length = 2 := by decide

/-- the hypotheses are satisfiable and the statement is not empty: a stopped three-batch run with the Timer prints two lines -/
example :
    let c : Cfg := { start := 1, epochs := 2, numBatches := 3, cbs := [0], timer := false, hasSched := true }
    let R : Req := { cb := fun i ev => i == 0 && ev == Event.batchStart 1 1, mid := fun _ _ => false }
    prints (fit (c.withTimer true) R false).1 = [.terminatedBatch 1 1, .total] ∧
      (fit (c.withTimer true) R false).1.length = (fit (c.withTimer false) R false).1.length + 2 := by decide

/-! ## Non-vacuity: a concrete run -/

/-- two epochs (3, 4) of two batches, two callbacks; callback 1 requests a stop at the end of batch (3,1):
epoch 3 completes its two batches, epoch 4 never starts. -/
example :
    let c : Cfg := { start := 3, epochs := 4, numBatches := 2, cbs := [0, 1], timer := true, hasSched := true }
    let R : Req := { cb := fun i ev => i == 1 && ev == Event.batchEnd 3 1, mid := fun _ _ => false }
    events (fit c R false).1 =
      [.trainStart, .epochStart 3, .batchStart 3 0, .batchEnd 3 0, .batchStart 3 1, .batchEnd 3 1,
       .epochEnd 3, .trainEnd] ∧ (fit c R false).2.stop = true ∧ (fit c R false).2.ver = 2 ∧
      (fit c R false).2.sched = 1 := by decide

/-- the hypotheses of `C12_stop_in_batch` are satisfiable (same run) -/
example :
    let c : Cfg := { start := 3, epochs := 4, numBatches := 2, cbs := [0, 1], timer := true, hasSched := true }
    let R : Req := { cb := fun i ev => i == 1 && ev == Event.batchEnd 3 1, mid := fun _ _ => false }
    QuietBefore c R 3 ∧ QuietUpto c R 3 1 ∧ reqEv c R (.batchEnd 3 1) = true := by
  refine ⟨⟨by decide, fun e' h1 h2 => by simp at h1; omega⟩, ⟨by decide, fun b hb => ?_⟩, by decide⟩
  have : b = 0 := by omega
  subst this
  exact ⟨by decide, rfl, by decide⟩

/-- the hypothesis of `C12_complete_without_stop` is satisfiable (nobody ever requests a stop), also for an
empty epoch range -/
example (c : Cfg) : QuietBefore c { cb := fun _ _ => false, mid := fun _ _ => false } (c.epochs + 1) := by
  refine ⟨by simp [reqEv], fun e' _ _ => ⟨⟨by simp [reqEv], fun b _ => ⟨by simp [reqEv], rfl, by simp [reqEv]⟩⟩,
    by simp [reqEv]⟩⟩

end C12
end QV.Props
