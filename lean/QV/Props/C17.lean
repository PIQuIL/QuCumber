/-
C17 — Periodic callbacks fire on schedule and their records match what happened.

"A metric evaluator, observable evaluator, model saver or logger with period p acts at exactly those
epochs of the run that are multiples of p (plus the initial save when requested) and at no other time.
Everything the evaluators expose afterwards — number of evaluations, epochs, per-name value arrays,
indexed lookup, last values, the CSV log — agrees with the values computed at those epochs in order, and
each file written by the model saver is named by the epoch and loads back to the parameters the model
had at the end of that epoch with the requested metadata."

All theorems: ∀ periods p ≥ 1, ∀ event streams (ARBITRARY lists of events: complete runs, runs cut short
by a stop request, several runs in sequence, any interleaving of other events), ∀ initial states of the
callback (fresh, after earlier runs, after `clear_history`), ∀ environments (metric functions, statistics,
metadata callables, parameter snapshots as functions of the world token carried by each event).
Model definitions: QV.Model.Callbacks (executed against the code by the C17 correspondence check).

Specification (independent of the model's state machines): `firedEpochs` = the epoch-end events of the
stream, `scheduled p` = those whose epoch is divisible by `p` (Int divisibility `p ∣ e`, not the code's
`%`), and the per-callback record lists built from them by `List.map`/`List.filterMap`.

Besides the stream-level theorems (`C17_schedule_*`, `C17_records_*`, `C17_saver*`, `C17_logger_*`,
`C17_independent`) the file has the composition with C12 — `fitStream` is the event trace of C12's model of `fit`, and
`C17_fit_stream` / `C17_fit_schedule` / `C17_fit_callbacks` say which epoch ends it contains (`RunEnds`) —,
the evaluator's column names (`C17_columns_of_names`), and the `verbose` printing branch (`C17_verbose_*`).

Left out: `file_name` is `pre ++ "{}" ++ post` (a format spec such as `{:03d}` is outside the model); a CSV
column is the structured `Field`, its text `obs ++ "_" ++ stat` is assumed injective on the pairs that
occur; what a log file held before is not modelled, nor — outside the `verbose` section — the state a
callback is left in when it raises.
-/
import Mathlib.Data.List.Forall2
import QV.Model.Callbacks
import QV.Lemmas.Callbacks
import QV.Lemmas.Stats
import QV.Props.C12

namespace QV.Props
namespace C17
open QV QV.Cb

variable {W V X P M Msg : Type}

def firedEpochs : List (Ev W) → List (Int × W)
  | [] => []
  | .epochEnd e w :: rest => (e, w) :: firedEpochs rest
  | .trainStart _ :: rest => firedEpochs rest
  | .epochStart _ _ :: rest => firedEpochs rest
  | .batchStart _ _ _ :: rest => firedEpochs rest
  | .batchEnd _ _ _ :: rest => firedEpochs rest
  | .trainEnd _ :: rest => firedEpochs rest

def scheduled (p : Int) (evs : List (Ev W)) : List (Int × W) :=
  (firedEpochs evs).filter (fun x => decide (p ∣ x.1))

/-- `past_values` as it must be after evaluations at the points `pts` -/
def recordsOf (vals : W → Dict String X) (pts : List (Int × W)) : List (Int × Dict String X) :=
  pts.map (fun x => (x.1, vals x.2))

/-- `last` after the evaluation points `pts` (unchanged when there is none) -/
def lastOf (vals : W → Dict String X) (last₀ : Dict String X) (pts : List (Int × W)) : Dict String X :=
  match pts.getLast? with
  | none => last₀
  | some x => vals x.2

/-- the CSV row of a metric evaluator for one evaluation point: epoch, then the metric values in the
order of `names` -/
def metricRow (c : MetricEvaluator W V) (x : Int × W) : List (Cell V) :=
  Cell.int x.1 :: c.metrics.map (fun nf => Cell.val (nf.2 x.2))

/-- blank when absent: `DictWriter` writes `row.get(field, "")` -/
def statCell (last : Dict String (Dict String V)) (o st : String) : Cell V :=
  match last.lookup o with
  | some d => (match d.lookup st with | some v => Cell.val v | none => Cell.blank)
  | none => Cell.blank

/-- the CSV row of an observable evaluator: epoch, then mean / variance / std_error of each observable in
the order of `names` (nothing else: `num_samples` has no column) -/
def observableRow (c : ObservableEvaluator W V) (x : Int × W) : List (Cell V) :=
  Cell.int x.1 :: c.names.flatMap (fun o => ["mean", "variance", "std_error"].map (fun st => statCell (c.statistics x.2) o st))

/-- what a model saver has to write for one event (`on_train_start` hands epoch 0 to the metadata callable,
model_saver.py:81-84) -/
def saverWrite (c : ModelSaver W P M) : Ev W → Option (FileArg × FileBody P M)
  | .trainStart w =>
    if c.saveInitial then
      some (.initial, if c.metadataOnly then .metaOnly (c.mdFor w 0) else .full (c.params w) (c.mdFor w 0))
    else none
  | .epochEnd e w =>
    if c.period ∣ e then
      some (.epoch e, if c.metadataOnly then .metaOnly (c.mdFor w e) else .full (c.params w) (c.mdFor w e))
    else none
  | _ => none

/-- python dict invariant: distinct keys, at both levels of a statistics dict -/
def StatsWF (d : Dict String (Dict String V)) : Prop :=
  d.keys.Nodup ∧ ∀ od ∈ d, od.2.keys.Nodup

theorem scheduled_cons_epochEnd (p e : Int) (w : W) (rest : List (Ev W)) :
    scheduled p (.epochEnd e w :: rest) = if p ∣ e then (e, w) :: scheduled p rest else scheduled p rest := by
  simp only [scheduled, firedEpochs, List.filter_cons]
  by_cases h : p ∣ e <;> simp [h]

theorem scheduled_cons_other (p : Int) (ev : Ev W) (rest : List (Ev W)) (h : ∀ e w, ev ≠ .epochEnd e w) :
    scheduled p (ev :: rest) = scheduled p rest := by
  cases ev <;> first | rfl | exact absurd rfl (h _ _)

theorem lastOf_cons (vals : W → Dict String X) (last₀ : Dict String X) (x : Int × W) (pts : List (Int × W)) :
    lastOf vals last₀ (x :: pts) = lastOf vals (vals x.2) pts := by
  unfold lastOf
  rw [List.getLast?_cons]
  cases pts.getLast? <;> rfl

/-- A machine whose step passes epoch-ends through the period gate (`g` is what it does at an epoch that passes) and ignores every
other event runs over `scheduled p evs`. All periodic callbacks are of this kind. -/
theorem runWith_scheduled {S : Type} {step : S → Ev W → Except PyErr S} {p : Int} {g : S → Int × W → Except PyErr S}
    (hend : ∀ s e w, step s (.epochEnd e w) = if p ∣ e then g s (e, w) else .ok s)
    (hother : ∀ s ev, (∀ e w, ev ≠ .epochEnd e w) → step s ev = .ok s) (s : S) (evs : List (Ev W)) :
    runWith step s evs = runWith g s (scheduled p evs) := by
  induction evs generalizing s with
  | nil => rfl
  | cons ev rest ih =>
    cases ev with
    | epochEnd e w =>
      rw [scheduled_cons_epochEnd]
      by_cases hd : p ∣ e
      · simp only [runWith, hend, if_pos hd]
        cases g s (e, w) with
        | ok s' => exact ih s'
        | error _ => rfl
      · simp only [runWith, hend, if_neg hd]; exact ih s
    | _ => rw [runWith, hother _ _ (by simp), scheduled_cons_other _ _ _ (by simp)]; exact ih s

/-- the period gate as every periodic callback writes it, for a period `p ≥ 1` -/
theorem gate_ite {α : Type} {p : Int} (hp : 1 ≤ p) (e : Int) (a b : Except PyErr α) :
    (match gate e p with | .error err => .error err | .ok false => a | .ok true => b) = if p ∣ e then b else a := by
  by_cases h : p ∣ e
  · rw [if_pos h, gate_of_dvd hp h]
  · rw [if_neg h, gate_of_not_dvd hp h]

def record (vals : W → Dict String X) (row : Int × W → List (Cell V)) (lg : Bool) (s : EvalState X V) (x : Int × W) :
    EvalState X V :=
  { past := s.past ++ [(x.1, vals x.2)], last := vals x.2, log := s.log ++ (if lg then [row x] else []) }

theorem foldl_record (vals : W → Dict String X) (row : Int × W → List (Cell V)) (lg : Bool) (pts : List (Int × W))
    (s : EvalState X V) :
    pts.foldl (record vals row lg) s =
      { past := s.past ++ recordsOf vals pts, last := lastOf vals s.last pts,
        log := s.log ++ (if lg then pts.map row else []) } := by
  induction pts generalizing s with
  | nil => simp [recordsOf, lastOf]
  | cons x pts ih => rw [List.foldl_cons, ih, lastOf_cons]; cases lg <;> simp [record, recordsOf]

/-- the metric functions' values, looked up by name in the dict built at one evaluation -/
theorem C17_records_metric_value (c : MetricEvaluator W V) (hnd : c.names.Nodup) (w : W)
    {name : String} {f : W → V} (hf : (name, f) ∈ c.metrics) :
    (c.evalAll w).getItem name = .ok (f w) := by
  apply getItem_of_mem_nodup
  · simpa [MetricEvaluator.evalAll, Dict.keys, MetricEvaluator.names, List.map_map, Function.comp_def] using hnd
  · exact List.mem_map.mpr ⟨(name, f), hf, rfl⟩

theorem metric_logRow (c : MetricEvaluator W V) (hnd : c.names.Nodup) (hep : "epoch" ∉ c.names) (e : Int) (w : W) :
    c.logRow e (c.evalAll w) = .ok (metricRow c (e, w)) := by
  have hkeys : (c.evalAll w).keys = c.names := by
    simp [MetricEvaluator.evalAll, Dict.keys, MetricEvaluator.names, List.map_map, Function.comp_def]
  have h1 : (c.evalAll w).keys.contains "epoch" = false := by
    rw [hkeys]; simpa using hep
  -- the row dict has exactly the CSV fields as keys, in order and without repetition: no extras, every field found
  have hrow : ((Field.epoch, Cell.int e) :: (c.evalAll w).map (fun nv => (Field.name nv.1, (Cell.val nv.2 : Cell V)))).map
      Prod.fst = c.csvFields := by
    rw [MetricEvaluator.csvFields, ← hkeys]; simp [Dict.keys, List.map_map, Function.comp_def]
  have hnd' : c.csvFields.Nodup := by
    rw [MetricEvaluator.csvFields, List.nodup_cons]
    exact ⟨by simp, hnd.map fun a b h => by cases h; rfl⟩
  unfold MetricEvaluator.logRow dictWriterRow
  rw [h1, if_neg Bool.false_ne_true, Dict.keys, hrow,
    if_neg (by simp), ← hrow, map_lookup_keys (hrow ▸ hnd')]
  simp [metricRow, MetricEvaluator.evalAll, List.map_map, Function.comp_def]

theorem metric_onEpochEnd (c : MetricEvaluator W V) (hp : 1 ≤ c.period) (hnd : c.names.Nodup)
    (hep : c.log = true → "epoch" ∉ c.names) (s : EvalState V V) (e : Int) (w : W) :
    c.onEpochEnd s e w = .ok (if c.period ∣ e then
      { past := s.past ++ [(e, c.evalAll w)], last := c.evalAll w,
        log := s.log ++ (if c.log then [metricRow c (e, w)] else []) } else s) := by
  unfold MetricEvaluator.onEpochEnd
  rw [gate_pos hp]
  by_cases hd : c.period ∣ e
  · simp only [hd, decide_true, if_true]
    by_cases hl : c.log = true
    · simp [hl, metric_logRow c hnd (hep hl)]
    · simp [hl]
  · simp [hd]

/-- **C17 records (MetricEvaluator).** After ANY event stream, from ANY state: the history is the old one
followed by `(e, values at e)` for exactly the scheduled epoch-ends in order, `last` is the values of the
last scheduled one, and the CSV log gained one row `epoch, values…` per scheduled epoch-end. -/
theorem C17_records_metric_run (c : MetricEvaluator W V) (hp : 1 ≤ c.period) (hnd : c.names.Nodup)
    (hep : c.log = true → "epoch" ∉ c.names) (s : EvalState V V) (evs : List (Ev W)) :
    c.run s evs = .ok
      { past := s.past ++ recordsOf c.evalAll (scheduled c.period evs),
        last := lastOf c.evalAll s.last (scheduled c.period evs),
        log := s.log ++ (if c.log then (scheduled c.period evs).map (metricRow c) else []) } := by
  rw [MetricEvaluator.run, runWith_scheduled (p := c.period) (g := fun s x => .ok (record c.evalAll (metricRow c) c.log s x))
    (fun s e w => by rw [MetricEvaluator.step, metric_onEpochEnd c hp hnd hep]; split <;> rfl)
    (fun s ev h => by cases ev <;> first | rfl | exact absurd rfl (h _ _)), runWith_ok, foldl_record]

/-- **C17 schedule (MetricEvaluator).** The epochs at which the evaluator acted (its `epochs`) are the old
ones followed by exactly the fired epoch-ends divisible by `p`, in order — nothing at any other event. -/
theorem C17_schedule_metric (c : MetricEvaluator W V) (hp : 1 ≤ c.period) (hnd : c.names.Nodup)
    (hep : c.log = true → "epoch" ∉ c.names) (s : EvalState V V) (evs : List (Ev W)) :
    ∃ s', c.run s evs = .ok s' ∧
      s'.epochs = s.epochs ++ ((firedEpochs evs).filter (fun x => decide (c.period ∣ x.1))).map Prod.fst := by
  refine ⟨_, C17_records_metric_run c hp hnd hep s evs, ?_⟩
  simp [EvalState.epochs, recordsOf, scheduled, List.map_map, Function.comp_def]

/-! ### accessors of an evaluator whose history is `recordsOf vals pts` (both evaluators) -/

/-- `len(evaluator)` = number of evaluations, `evaluator.epochs` = their epochs in order -/
theorem C17_records_len_epochs (vals : W → Dict String X) (pts : List (Int × W)) (s : EvalState X V)
    (hs : s.past = recordsOf vals pts) :
    s.len = pts.length ∧ s.epochs = pts.map Prod.fst := by
  simp [EvalState.len, EvalState.epochs, hs, recordsOf, List.map_map, Function.comp_def]

/-- `evaluator[name]` = the values computed for `name` at the evaluation points, in order -/
theorem C17_records_getitem (vals : W → Dict String X) (pts : List (Int × W)) (s : EvalState X V)
    (hs : s.past = recordsOf vals pts) (name : String) (g : W → X)
    (hg : ∀ x ∈ pts, (vals x.2).getItem name = .ok (g x.2)) :
    s.getItem name = .ok (pts.map (fun x => g x.2)) := by
  unfold EvalState.getItem
  rw [hs, recordsOf]
  have h2 : mapE (fun (r : Int × Dict String X) => r.2.getItem name) (pts.map (fun x => (x.1, vals x.2)))
      = .ok (pts.map (fun x => g x.2)) := by
    clear hs
    induction pts with
    | nil => rfl
    | cons x rest ih =>
      have hx := hg x (by simp)
      have hr := ih (fun y hy => hg y (by simp [hy]))
      simp [mapE, hx, hr]
  rw [h2]

/-- **name spaces** — `name` is ANY string, in particular one that the evaluator object also uses for an attribute,
property or method of its own (`log`, `period`, `last`, `verbose`, `epochs`, `names`, `metrics`, `past_values`,
`get_value`, `__len__`, …; `own` = the names Python's normal lookup resolves):
* subscripting `evaluator[name]` is the recorded values of `name`, whatever `own` is;
* attribute syntax `evaluator.name` is the same array exactly when `name ∉ own`, and the evaluator's own attribute
  (never the recorded values, `__getattr__` is not consulted) when `name ∈ own`. -/
theorem C17_records_getattr (own : List String) (vals : W → Dict String X) (pts : List (Int × W)) (s : EvalState X V)
    (hs : s.past = recordsOf vals pts) (name : String) (g : W → X)
    (hg : ∀ x ∈ pts, (vals x.2).getItem name = .ok (g x.2)) :
    s.getItem name = .ok (pts.map (fun x => g x.2)) ∧
    (name ∉ own → s.getAttr own name = .ok (.dynamic (pts.map (fun x => g x.2)))) ∧
    (name ∈ own → s.getAttr own name = .ok (.own name)) := by
  have h := C17_records_getitem (V := V) vals pts s hs name g hg
  refine ⟨h, fun hn => ?_, fun hn => ?_⟩
  · simp [EvalState.getAttr, pyGetattr, hn, h]
  · simp [EvalState.getAttr, pyGetattr, hn]

/-- the same rule one level down, on `ObservableStatistics`: `stats[statistic]` is always the plural-stripping lookup in
the recorded dicts (`obsStatGet`, see `C17_records_observable_statistics`), even for a statistic called `data`;
`stats.statistic` is that lookup iff the name is not one of the object's own attributes (`data`, dunders), and an
untracked non-own name is an `AttributeError` in both syntaxes. -/
theorem C17_records_statistics_getattr (own : List String) (data : List (Dict String V)) (statistic : String) :
    (statistic ∉ own → ∀ r, obsStatGet data statistic = .ok r → obsStatGetAttr own data statistic = .ok (.dynamic r)) ∧
    (statistic ∉ own → ∀ e, obsStatGet data statistic = .error e → obsStatGetAttr own data statistic = .error e) ∧
    (statistic ∈ own → obsStatGetAttr own data statistic = .ok (.own statistic)) := by
  refine ⟨fun hn r hr => ?_, fun hn e he => ?_, fun hn => ?_⟩
  · simp [obsStatGetAttr, pyGetattr, hn, hr]
  · simp [obsStatGetAttr, pyGetattr, hn, he]
  · simp [obsStatGetAttr, pyGetattr, hn]

/-- a name that is not tracked is an `AttributeError` (as soon as there is at least one record; with an
empty history the code returns an empty array for every name) -/
theorem C17_records_getitem_missing (vals : W → Dict String X) (pts : List (Int × W)) (s : EvalState X V)
    (hs : s.past = recordsOf vals pts) (name : String) (x : Int × W) (rest : List (Int × W))
    (hpts : pts = x :: rest) (hmiss : name ∉ (vals x.2).keys) :
    s.getItem name = .error .AttributeError ∧
    ({ s with past := [] } : EvalState X V).getItem name = .ok [] := by
  constructor
  · unfold EvalState.getItem
    rw [hs, hpts, recordsOf, List.map_cons]
    simp [mapE, getItem_of_not_mem hmiss]
  · simp [EvalState.getItem, mapE]

/-- `get_value(name, i)`: for `0 ≤ k < len` both `i = k` and `i = k − len` (Python negative indexing) give the
value computed for `name` at the `k`-th evaluation point -/
theorem C17_records_get_value (vals : W → Dict String X) (pts : List (Int × W)) (s : EvalState X V)
    (hs : s.past = recordsOf vals pts) (name : String) (k : Nat) (hk : k < pts.length) :
    s.getValue name (some (k : Int)) = (vals pts[k].2).getItem name ∧
    s.getValue name (some ((k : Int) - pts.length)) = (vals pts[k].2).getItem name := by
  have hlen : s.past.length = pts.length := by simp [hs, recordsOf]
  have hk' : k < s.past.length := by omega
  have hget : s.past[k] = (pts[k].1, vals pts[k].2) := by simp [hs, recordsOf]
  constructor
  · simp [EvalState.getValue, pyIndex_nonneg s.past k hk', hget]
  · have := pyIndex_neg s.past k hk'
    rw [hlen] at this
    simp [EvalState.getValue, this, hget]

/-- `get_value(name, i)` outside `−len ≤ i < len` is an `IndexError` -/
theorem C17_records_get_value_out_of_range (vals : W → Dict String X) (pts : List (Int × W)) (s : EvalState X V)
    (hs : s.past = recordsOf vals pts) (name : String) (i : Int)
    (hi : (pts.length : Int) ≤ i ∨ i < -(pts.length : Int)) :
    s.getValue name (some i) = .error .IndexError := by
  have hlen : s.past.length = pts.length := by simp [hs, recordsOf]
  have := pyIndex_out s.past i (by rw [hlen]; exact hi)
  simp [EvalState.getValue, this]

/-- `get_value(name)` (no index) is the value at the LAST evaluation point; `IndexError` on an empty history -/
theorem C17_records_get_value_default (vals : W → Dict String X) (pts : List (Int × W)) (s : EvalState X V)
    (hs : s.past = recordsOf vals pts) (name : String) :
    s.getValue name none = (match pts.getLast? with
      | some x => (vals x.2).getItem name
      | none => .error .IndexError) := by
  rcases Nat.eq_zero_or_pos pts.length with h0 | hpos
  · have : pts = [] := List.eq_nil_of_length_eq_zero h0
    subst this
    simp [EvalState.getValue, hs, recordsOf, pyIndex]
  · have hk : pts.length - 1 < pts.length := by omega
    have h := (C17_records_get_value vals pts s hs name (pts.length - 1) hk).2
    have hidx : ((pts.length - 1 : Nat) : Int) - pts.length = -1 := by omega
    rw [hidx] at h
    have hlast : pts.getLast? = some pts[pts.length - 1] := by
      rw [List.getLast?_eq_getElem?, List.getElem?_eq_getElem hk]
    rw [hlast]
    simpa [EvalState.getValue] using h

/-- `clear_history()` empties the history and `last` and leaves the log file alone; a following run is
recorded as if the evaluator were new (C17_records_metric_run / C17_records_observable_run with `past = []`). -/
theorem C17_records_clear_history (s : EvalState X V) :
    s.clearHistory.past = [] ∧ s.clearHistory.last = [] ∧ s.clearHistory.log = s.log ∧
    s.clearHistory.len = 0 ∧ s.clearHistory.epochs = [] := by
  simp [EvalState.clearHistory, EvalState.len, EvalState.epochs]

/-! ### ObservableEvaluator: the CSV row (a dict filled by successive assignments), the run, `ObservableStatistics` -/

/-- `Dict.set` is `Stats.dictSet`, C13's model of the same assignment `d[k] = v`: the lookup lemma
`Stats.systemInit_lookup` (a dict built by successive assignments holds, per key, the LAST value assigned) then
applies to the row loop (`rowDict_lookup`). -/
theorem dictSet_eq {K B : Type} [BEq K] [LawfulBEq K] (d : Dict K B) (k : K) (v : B) :
    Dict.set d k v = Stats.dictSet d k v := by
  unfold Dict.set Stats.dictSet
  have hc : d.keys.contains k = d.any (fun e => e.1 == k) := by
    rw [Bool.eq_iff_iff]
    simp only [Dict.keys, List.contains_iff_mem, List.mem_map, List.any_eq_true, beq_iff_eq]
  rw [hc]
  split
  · refine List.map_congr_left (fun e _ => ?_)
    by_cases h : e.1 == k
    · have : e.1 = k := by simpa using h
      simp [this]
    · simp [h]
  · rfl

/-- the flat list of `(field, cell)` assignments of the row loop -/
def flatRow (last : Dict String (Dict String V)) : List (Field × Cell V) :=
  last.flatMap (fun od => od.2.map (fun sv => (Field.stat od.1 sv.1, Cell.val sv.2)))

theorem rowDict_eq_foldl (e : Int) (last : Dict String (Dict String V)) :
    ObservableEvaluator.rowDict e last =
      (flatRow last).foldl (fun d kv => Stats.dictSet d kv.1 kv.2) [(Field.epoch, Cell.int e)] := by
  unfold ObservableEvaluator.rowDict flatRow
  rw [List.foldl_flatMap]
  congr 1
  funext row od
  rw [List.foldl_map]
  simp only [dictSet_eq]

theorem rowDict_lookup (e : Int) (last : Dict String (Dict String V)) (n : Field) :
    (ObservableEvaluator.rowDict e last).lookup n
      = ((flatRow last).reverse.lookup n).or ([(Field.epoch, Cell.int e)].lookup n) := by
  rw [rowDict_eq_foldl]
  exact (Stats.systemInit_lookup ((Field.epoch, Cell.int e) :: flatRow last) n).trans
    (by rw [List.reverse_cons, List.lookup_append])

theorem flatRow_keys_nodup (last : Dict String (Dict String V)) (hwf : StatsWF last) :
    ((flatRow last).map Prod.fst).Nodup := by
  induction last with
  | nil => simp [flatRow]
  | cons od rest ih =>
    obtain ⟨hk, hin⟩ := hwf
    simp only [Dict.keys, List.map_cons, List.nodup_cons] at hk
    have ih' := ih ⟨hk.2, fun x hx => hin x (by simp [hx])⟩
    simp only [flatRow, List.flatMap_cons, List.map_append, List.map_map, Function.comp_def] at ih' ⊢
    rw [List.nodup_append]
    refine ⟨?_, ih', ?_⟩
    · have h1 := hin od (by simp)
      have h2 : od.2.map (fun x => Field.stat od.1 x.1) = (od.2.map Prod.fst).map (Field.stat od.1) := by
        simp [List.map_map, Function.comp_def]
      rw [h2]
      exact List.Nodup.map (fun a b h => by simpa using h) h1
    · intro a ha b hb hab
      subst hab
      simp only [List.mem_map] at ha
      obtain ⟨sv, _, rfl⟩ := ha
      simp only [List.map_flatMap, List.mem_flatMap, List.mem_map, List.map_map, Function.comp_def] at hb
      obtain ⟨od', hod', sv', _, heq⟩ := hb
      simp only [Field.stat.injEq] at heq
      apply hk.1
      exact List.mem_map.mpr ⟨od', hod', heq.1⟩

theorem rowDict_lookup_stat (e : Int) (last : Dict String (Dict String V)) (hwf : StatsWF last) (o st : String) :
    ((ObservableEvaluator.rowDict e last).lookup (Field.stat o st)).getD Cell.blank = statCell last o st := by
  have hndr : ((flatRow last).reverse.map Prod.fst).Nodup := by
    rw [List.map_reverse]; exact List.nodup_reverse.mpr (flatRow_keys_nodup last hwf)
  -- with distinct keys at both levels, the flat row holds under `o_st` what the nested dicts hold under `o`, `st`
  have hflat : (flatRow last).reverse.lookup (Field.stat o st) = ((last.lookup o).bind (·.lookup st)).map Cell.val := by
    apply Option.ext
    intro c
    rw [lookup_eq_some_iff_mem hndr, List.mem_reverse]
    simp only [flatRow, List.mem_flatMap, List.mem_map, Option.map_eq_some_iff, Option.bind_eq_some_iff, Prod.mk.injEq,
      Field.stat.injEq]
    constructor
    · rintro ⟨od, hod, sv, hsv, ⟨rfl, rfl⟩, rfl⟩
      exact ⟨sv.2, ⟨od.2, lookup_of_mem_nodup hwf.1 hod, lookup_of_mem_nodup (hwf.2 od hod) hsv⟩, rfl⟩
    · rintro ⟨v, ⟨d, hd, hv⟩, rfl⟩
      exact ⟨(o, d), mem_of_lookup_eq_some hd, (st, v), mem_of_lookup_eq_some hv, ⟨rfl, rfl⟩, rfl⟩
  rw [rowDict_lookup, hflat, statCell]
  cases last.lookup o with
  | none => rfl
  | some d =>
    rw [Option.bind_some]
    dsimp only
    cases d.lookup st <;> rfl

theorem rowDict_lookup_epoch (e : Int) (last : Dict String (Dict String V)) :
    (ObservableEvaluator.rowDict e last).lookup Field.epoch = some (Cell.int e) := by
  rw [rowDict_lookup]
  have hnot : Field.epoch ∉ (flatRow last).reverse.map Prod.fst := by
    intro hmem
    simp only [List.map_reverse, List.mem_reverse, flatRow, List.map_flatMap, List.mem_flatMap,
      List.mem_map, List.map_map, Function.comp_def] at hmem
    obtain ⟨od, _, sv, _, heq⟩ := hmem
    cases heq
  rw [lookup_none_of_not_mem hnot]
  simp [List.lookup]

/-- **C17 records (ObservableEvaluator CSV row).** The row written for one evaluation is: the epoch, then for
each tracked observable its mean, variance and std_error — `num_samples` is dropped, nothing raises. -/
theorem C17_records_observable_csv_row (c : ObservableEvaluator W V) (x : Int × W) (hwf : StatsWF (c.statistics x.2)) :
    dictWriterRow c.csvFields (ObservableEvaluator.rowDict x.1 (c.statistics x.2)) true = .ok (observableRow c x) := by
  unfold dictWriterRow
  simp only [Bool.not_true, Bool.false_and, Bool.false_eq_true, if_false]
  congr 1
  simp only [ObservableEvaluator.csvFields, List.map_cons, rowDict_lookup_epoch, observableRow, csvStats,
    List.map_flatMap, List.map_map, Function.comp_def]
  congr 1
  apply List.flatMap_congr
  intro o _
  simp only [List.map_nil]
  rw [rowDict_lookup_stat _ _ hwf, rowDict_lookup_stat _ _ hwf, rowDict_lookup_stat _ _ hwf]

theorem observable_onEpochEnd (c : ObservableEvaluator W V) (hp : 1 ≤ c.period)
    (hwf : c.log = true → ∀ w, StatsWF (c.statistics w)) (s : EvalState (Dict String V) V) (e : Int) (w : W) :
    c.onEpochEnd s e w = .ok (if c.period ∣ e then
      { past := s.past ++ [(e, c.statistics w)], last := c.statistics w,
        log := s.log ++ (if c.log then [observableRow c (e, w)] else []) } else s) := by
  unfold ObservableEvaluator.onEpochEnd
  rw [gate_pos hp]
  by_cases hd : c.period ∣ e
  · simp only [hd, decide_true, if_true]
    by_cases hl : c.log = true
    · have := C17_records_observable_csv_row c (e, w) (hwf hl w)
      simp only at this
      simp [hl, this]
    · simp [hl]
  · simp [hd]

/-- **C17 records (ObservableEvaluator).** Same statement as for the metric evaluator, with the statistics
dicts returned by `System.statistics` at the scheduled epoch-ends as values. -/
theorem C17_records_observable_run (c : ObservableEvaluator W V) (hp : 1 ≤ c.period)
    (hwf : c.log = true → ∀ w, StatsWF (c.statistics w)) (s : EvalState (Dict String V) V) (evs : List (Ev W)) :
    c.run s evs = .ok
      { past := s.past ++ recordsOf c.statistics (scheduled c.period evs),
        last := lastOf c.statistics s.last (scheduled c.period evs),
        log := s.log ++ (if c.log then (scheduled c.period evs).map (observableRow c) else []) } := by
  rw [ObservableEvaluator.run, runWith_scheduled (p := c.period) (g := fun s x => .ok (record c.statistics (observableRow c) c.log s x))
    (fun s e w => by rw [ObservableEvaluator.step, observable_onEpochEnd c hp hwf]; split <;> rfl)
    (fun s ev h => by cases ev <;> first | rfl | exact absurd rfl (h _ _)), runWith_ok, foldl_record]

/-- **C17 schedule (ObservableEvaluator).** -/
theorem C17_schedule_observable (c : ObservableEvaluator W V) (hp : 1 ≤ c.period)
    (hwf : c.log = true → ∀ w, StatsWF (c.statistics w)) (s : EvalState (Dict String V) V) (evs : List (Ev W)) :
    ∃ s', c.run s evs = .ok s' ∧
      s'.epochs = s.epochs ++ ((firedEpochs evs).filter (fun x => decide (c.period ∣ x.1))).map Prod.fst := by
  refine ⟨_, C17_records_observable_run c hp hwf s evs, ?_⟩
  simp [EvalState.epochs, recordsOf, scheduled, List.map_map, Function.comp_def]

/-- **C17 records (ObservableStatistics).** `evaluator[obs][statistic]` on the statistics dicts `data`:
if every dict has the key `k` obtained by stripping ONE trailing "s" from `statistic` (`"means" ↦ "mean"`,
`"variances" ↦ "variance"`, `"std_errors" ↦ "std_error"`, and a name without trailing "s" unchanged),
the result is the column `k`; if the FIRST dict lacks `k` (`"num_samples" ↦ "num_sample"`) and every dict
has `statistic` itself, the result is the column `statistic`. -/
theorem C17_records_observable_statistics (data : List (Dict String V)) (statistic : String) (g : Dict String V → V) :
    ((∀ d ∈ data, (stripPlural statistic) ∈ d.keys ∧ d.getItem (stripPlural statistic) = .ok (g d)) →
      obsStatGet data statistic = .ok (data.map g)) ∧
    ((∀ d0 rest, data = d0 :: rest → (stripPlural statistic) ∉ d0.keys) →
      (∀ d ∈ data, d.getItem statistic = .ok (g d)) →
      obsStatGet data statistic = .ok (data.map g)) := by
  constructor
  · intro h
    unfold obsStatGet
    cases data with
    | nil => simp [mapE]
    | cons d0 rest =>
      have h0 := (h d0 (by simp)).1
      have hc : (Dict.keys d0).contains (stripPlural statistic) = true := by simpa using h0
      simp only [hc, if_true]
      rw [mapE_ok _ g _ (fun d hd => (h d hd).2)]
  · intro h0 h
    unfold obsStatGet
    cases data with
    | nil => simp [mapE]
    | cons d0 rest =>
      have hc : (Dict.keys d0).contains (stripPlural statistic) = false := by
        simpa using h0 d0 rest rfl
      simp only [hc, Bool.false_eq_true, if_false]
      rw [mapE_ok _ g _ h]

/-! ### Logger and ModelSaver over a stream -/

/-- **C17 schedule (Logger).** The messages handed to `logger_fn` are the old ones followed by
`msg_gen(state, e)` for exactly the fired epoch-ends with `p ∣ e`, in order. -/
theorem C17_schedule_logger (c : Logger W Msg) (hp : 1 ≤ c.period) (out : List Msg) (evs : List (Ev W)) :
    c.run out evs = .ok (out ++ ((firedEpochs evs).filter (fun x => decide (c.period ∣ x.1))).map (fun x => c.msgGen x.2 x.1)) := by
  rw [Logger.run, runWith_scheduled (g := fun out x => .ok (out ++ [c.msgGen x.2 x.1])) (fun out e w => gate_ite hp e _ _)
    (fun s ev h => by cases ev <;> first | rfl | exact absurd rfl (h _ _)), runWith_ok, foldl_concat_map]
  rfl

/-- **C17 schedule + content (ModelSaver).** The writes are the old ones followed, in stream order, by one
write per train-start iff `save_initial` (file argument "initial", metadata callable called with epoch 0)
and one write per fired epoch-end with `p ∣ e` (file argument `e`) — nothing at any other event
(in particular nothing at train end).  Each body is the parameter snapshot AT THAT EVENT together with the
metadata `md(state, e)` / the dict / `{}`, or exactly the metadata when `metadata_only`. -/
theorem C17_saver (c : ModelSaver W P M) (hp : 1 ≤ c.period)
    (hres : c.metadataOnly = false → ∀ w e, c.reserved (c.mdFor w e) = false)
    (ws : List (FileArg × FileBody P M)) (evs : List (Ev W)) :
    c.run ws evs = .ok (ws ++ evs.filterMap (saverWrite c)) := by
  have hstep : ∀ ws ev, c.step ws ev = .ok (ws ++ (saverWrite c ev).toList) := by
    intro ws ev
    have hsave : ∀ w e arg, c.save ws w e arg =
        .ok (ws ++ [(arg, if c.metadataOnly then .metaOnly (c.mdFor w e) else .full (c.params w) (c.mdFor w e))]) := by
      intro w e arg
      cases hm : c.metadataOnly
      · simp [ModelSaver.save, hm, hres hm w e]
      · simp [ModelSaver.save, hm]
    cases ev with
    | epochEnd e w =>
      by_cases hd : c.period ∣ e
      · simp [ModelSaver.step, saverWrite, gate_of_dvd hp hd, hd, hsave]
      · simp [ModelSaver.step, saverWrite, gate_of_not_dvd hp hd, hd]
    | trainStart w => cases hi : c.saveInitial <;> simp [ModelSaver.step, saverWrite, hi, hsave]
    | _ => simp [ModelSaver.step, saverWrite]
  induction evs generalizing ws with
  | nil => simp [ModelSaver.run, runWith]
  | cons ev rest ih =>
    unfold ModelSaver.run at ih ⊢
    simp only [runWith, hstep, ih, List.filterMap_cons]
    cases saverWrite c ev <;> simp

/-- **C17 schedule (ModelSaver).** The file arguments written, in order: "initial" at each train start iff
`save_initial`, the epoch `e` at each fired epoch-end with `p ∣ e`, nothing else. -/
theorem C17_schedule_saver (c : ModelSaver W P M) (hp : 1 ≤ c.period)
    (hres : c.metadataOnly = false → ∀ w e, c.reserved (c.mdFor w e) = false)
    (ws : List (FileArg × FileBody P M)) (evs : List (Ev W)) :
    ∃ ws', c.run ws evs = .ok ws' ∧
      ws'.map Prod.fst = ws.map Prod.fst ++ evs.filterMap (fun ev => match ev with
        | .trainStart _ => if c.saveInitial then some FileArg.initial else none
        | .epochEnd e _ => if c.period ∣ e then some (FileArg.epoch e) else none
        | _ => none) := by
  refine ⟨_, C17_saver c hp hres ws evs, ?_⟩
  rw [List.map_append, List.map_filterMap]
  congr 1
  apply List.filterMap_congr
  intro ev _
  cases ev <;> simp [saverWrite]

theorem saverWrite_epoch {c : ModelSaver W P M} {ev : Ev W} {e : Int} {b : FileBody P M}
    (h : saverWrite c ev = some (.epoch e, b)) : ∃ w, ev = .epochEnd e w := by
  cases ev with
  | epochEnd e' w' =>
    by_cases hd' : c.period ∣ e'
    · simp only [saverWrite, hd', if_true, Option.some.injEq, Prod.mk.injEq, FileArg.epoch.injEq] at h
      exact ⟨w', by rw [h.1]⟩
    · simp [saverWrite, hd'] at h
  | trainStart w' => by_cases hi : c.saveInitial = true <;> simp [saverWrite, hi] at h
  | _ => simp [saverWrite] at h

theorem saverWrite_initial {c : ModelSaver W P M} {ev : Ev W} {b : FileBody P M}
    (h : saverWrite c ev = some (.initial, b)) : c.saveInitial = true ∧ ∃ w, ev = .trainStart w := by
  cases ev with
  | epochEnd e' w' => by_cases hd' : c.period ∣ e' <;> simp [saverWrite, hd'] at h
  | trainStart w' =>
    by_cases hi : c.saveInitial = true
    · exact ⟨hi, w', rfl⟩
    · simp [saverWrite, hi] at h
  | _ => simp [saverWrite] at h

/-- **C17 saver, file by file.** When every file argument is written at most once in the stream (one run:
epochs increase, one train start), the file for epoch `e` — named `pre ++ str(e) ++ post` — holds the
snapshot of the parameters at the end of epoch `e` with the metadata for `(state at e, e)`; with
`metadata_only` exactly the metadata. -/
theorem C17_saver_file (c : ModelSaver W P M) (evs : List (Ev W))
    (hnd : ((evs.filterMap (saverWrite c)).map Prod.fst).Nodup)
    (e : Int) (w : W) (hmem : Ev.epochEnd e w ∈ evs) (hd : c.period ∣ e) :
    ModelSaver.readBack (evs.filterMap (saverWrite c)) (.epoch e)
      = some (if c.metadataOnly then .metaOnly (c.mdFor w e) else .full (c.params w) (c.mdFor w e)) ∧
    c.fileName (.epoch e) = c.pre ++ toString e ++ c.post := by
  refine ⟨?_, rfl⟩
  unfold ModelSaver.readBack
  apply lookup_of_mem_nodup
  · rw [List.map_reverse]; exact List.nodup_reverse.mpr hnd
  · rw [List.mem_reverse, List.mem_filterMap]
    exact ⟨_, hmem, by simp [saverWrite, hd]⟩

/-- the "initial" file: written at train start iff `save_initial`, with epoch 0 passed to the metadata callable -/
theorem C17_saver_initial_file (c : ModelSaver W P M) (evs : List (Ev W))
    (hnd : ((evs.filterMap (saverWrite c)).map Prod.fst).Nodup)
    (w : W) (hmem : Ev.trainStart w ∈ evs) :
    (c.saveInitial = true →
      ModelSaver.readBack (evs.filterMap (saverWrite c)) .initial
        = some (if c.metadataOnly then .metaOnly (c.mdFor w 0) else .full (c.params w) (c.mdFor w 0))) ∧
    (c.saveInitial = false → ModelSaver.readBack (evs.filterMap (saverWrite c)) .initial = none) := by
  constructor
  · intro hi
    unfold ModelSaver.readBack
    apply lookup_of_mem_nodup
    · rw [List.map_reverse]; exact List.nodup_reverse.mpr hnd
    · rw [List.mem_reverse, List.mem_filterMap]
      exact ⟨_, hmem, by simp [saverWrite, hi]⟩
  · intro hi
    unfold ModelSaver.readBack
    apply lookup_none_of_not_mem
    intro h
    simp only [List.map_reverse, List.mem_reverse, List.mem_map, List.mem_filterMap] at h
    obtain ⟨⟨arg, body⟩, ⟨ev, _, hev⟩, harg⟩ := h
    simp only at harg
    subst harg
    rw [(saverWrite_initial hev).1] at hi
    cases hi

/-! ### ModelSaver: the file, unconditionally (several runs, repeated "initial" and repeated epochs) -/

/-- **C17 saver, file by file, unconditional.** Whatever was written before (`ws`: earlier runs) and however often the
same file argument is written in the stream (several runs write "initial" and the same epochs again), the file for
`arg` holds the body of the LAST event of the stream that writes `arg` (`post` writes it no more). -/
theorem C17_saver_file_last (c : ModelSaver W P M) (ws : List (FileArg × FileBody P M)) (pre post : List (Ev W))
    (ev : Ev W) (arg : FileArg) (body : FileBody P M) (hw : saverWrite c ev = some (arg, body))
    (hlast : ∀ ev' ∈ post, ∀ b, saverWrite c ev' ≠ some (arg, b)) :
    ModelSaver.readBack (ws ++ (pre ++ ev :: post).filterMap (saverWrite c)) arg = some body := by
  unfold ModelSaver.readBack
  simp only [List.filterMap_append, List.filterMap_cons, hw, List.reverse_append, List.reverse_cons, List.append_assoc,
    List.singleton_append]
  apply lookup_append_cons_self
  intro hmem
  simp only [List.map_reverse, List.mem_reverse, List.mem_map, List.mem_filterMap] at hmem
  obtain ⟨⟨a, b⟩, ⟨ev', hev', hwr⟩, ha⟩ := hmem
  simp only at ha
  subst ha
  exact hlast ev' hev' b hwr

/-- a file argument that neither the earlier writes nor any event of the stream writes does not exist -/
theorem C17_saver_file_none (c : ModelSaver W P M) (ws : List (FileArg × FileBody P M)) (evs : List (Ev W)) (arg : FileArg)
    (hws : arg ∉ ws.map Prod.fst) (hno : ∀ ev ∈ evs, ∀ b, saverWrite c ev ≠ some (arg, b)) :
    ModelSaver.readBack (ws ++ evs.filterMap (saverWrite c)) arg = none := by
  unfold ModelSaver.readBack
  apply lookup_none_of_not_mem
  intro hmem
  simp only [List.map_reverse, List.mem_reverse, List.map_append, List.mem_append, List.mem_map, List.mem_filterMap] at hmem
  rcases hmem with ⟨x, hx, rfl⟩ | ⟨⟨a, b⟩, ⟨ev, hev, hwr⟩, ha⟩
  · exact hws (List.mem_map.mpr ⟨x, hx, rfl⟩)
  · simp only at ha
    subst ha
    exact hno ev hev b hwr

/-- **C17 saver: the epoch file after any history.** After a stream in which the LAST epoch-end of epoch `e` (with `p ∣ e`) is
`epochEnd e w` — earlier runs may have saved epoch `e` before, other epochs and "initial" may be saved before and after —
the file `pre ++ str(e) ++ post` holds the parameters at THAT event with the metadata for `(state at w, e)`;
likewise the "initial" file holds the snapshot of the LAST train start. -/
theorem C17_saver_file_overwrite (c : ModelSaver W P M) (ws : List (FileArg × FileBody P M)) (pre post : List (Ev W)) (w : W) :
    (∀ e : Int, c.period ∣ e → (∀ w', Ev.epochEnd e w' ∉ post) →
      ModelSaver.readBack (ws ++ (pre ++ Ev.epochEnd e w :: post).filterMap (saverWrite c)) (.epoch e)
        = some (if c.metadataOnly then .metaOnly (c.mdFor w e) else .full (c.params w) (c.mdFor w e))) ∧
    (c.saveInitial = true → (∀ w', Ev.trainStart w' ∉ post) →
      ModelSaver.readBack (ws ++ (pre ++ Ev.trainStart w :: post).filterMap (saverWrite c)) .initial
        = some (if c.metadataOnly then .metaOnly (c.mdFor w 0) else .full (c.params w) (c.mdFor w 0))) := by
  constructor
  · intro e hd hpost
    apply C17_saver_file_last c ws pre post _ _ _ (by simp [saverWrite, hd])
    intro ev' hev' b hwr
    obtain ⟨w', rfl⟩ := saverWrite_epoch hwr
    exact hpost w' hev'
  · intro hi hpost
    apply C17_saver_file_last c ws pre post _ _ _ (by simp [saverWrite, hi])
    intro ev' hev' b hwr
    obtain ⟨w', rfl⟩ := (saverWrite_initial hwr).2
    exact hpost w' hev'

/-! ### Logger with the default message generator -/

/-- **C17 logger, default message.** `Logger(period, logger_fn)` without `msg_gen` hands `logger_fn` the text
`"Epoch " + str(e) + ": " + str(kwargs)` for exactly the fired epoch-ends with `p ∣ e`, in order. -/
theorem C17_logger_default_msg (p : Int) (hp : 1 ≤ p) (kwargsRepr : String) (out : List String) (evs : List (Ev W)) :
    (⟨p, fun _ e => defaultMsg kwargsRepr e⟩ : Logger W String).run out evs
      = .ok (out ++ (scheduled p evs).map (fun x => "Epoch " ++ toString x.1 ++ ": " ++ kwargsRepr)) := by
  rw [C17_schedule_logger _ hp]
  rfl

/-! ### Logger: constructor fallback and `logger_fn` branches -/

/-- **C17 logger, `msg_gen` fallback.** `Logger(period, logger_fn, msg_gen=X, **kwargs)`: a NON-CALLABLE `X` (a string, a number, …) behaves
exactly like an omitted `msg_gen` — the messages are the default text `"Epoch e: " + str(kwargs)` at exactly the scheduled epochs —
while a callable `X = f` gives `f(state at e, e)` at exactly those epochs. -/
theorem C17_logger_msg_gen_fallback (p : Int) (hp : 1 ≤ p) (kwargsRepr : String) (f : W → Int → String) (out : List String)
    (evs : List (Ev W)) :
    (Logger.new p (.nonCallable : MsgGenArg W) kwargsRepr) = Logger.new p .omitted kwargsRepr
    ∧ (Logger.new p (.nonCallable : MsgGenArg W) kwargsRepr).run out evs
        = .ok (out ++ (scheduled p evs).map (fun x => "Epoch " ++ toString x.1 ++ ": " ++ kwargsRepr))
    ∧ (Logger.new p (.callable f) kwargsRepr).run out evs = .ok (out ++ (scheduled p evs).map (fun x => f x.2 x.1)) := by
  refine ⟨rfl, C17_logger_default_msg p hp kwargsRepr out evs, ?_⟩
  exact C17_schedule_logger (Logger.new p (.callable f) kwargsRepr) hp out evs

/-- **C17 logger, `logger_fn` branches.** Which lines a logger of period `p ≥ 1` emits, for every event stream: with the default
`logger_fn=print` exactly one stdout line per scheduled epoch (`p ∣ e`, fired), in order, with the generated message, and nothing
is handed anywhere else; with a callable `logger_fn` the same messages are handed to it (this is `Logger.run`) and nothing is
printed; with a NON-CALLABLE `logger_fn` the run is untouched as long as no scheduled epoch end occurs and is refused
(`TypeError`) as soon as one does. -/
theorem C17_logger_fn_branches (c : Logger W String) (hp : 1 ≤ c.period) (s : LogOut) (evs : List (Ev W)) :
    c.runFn .print s evs = .ok ⟨s.handed, s.printed ++ (scheduled c.period evs).map (fun x => c.msgGen x.2 x.1)⟩
    ∧ c.runFn .callable s evs = .ok ⟨s.handed ++ (scheduled c.period evs).map (fun x => c.msgGen x.2 x.1), s.printed⟩
    ∧ (c.runFn .callable s evs).map LogOut.handed = c.run s.handed evs
    ∧ (scheduled c.period evs = [] → c.runFn .nonCallable s evs = .ok s)
    ∧ (scheduled c.period evs ≠ [] → c.runFn .nonCallable s evs = .error .TypeError) := by
  have hother : ∀ fn (s : LogOut) (ev : Ev W), (∀ e w, ev ≠ .epochEnd e w) → c.stepFn fn s ev = .ok s :=
    fun fn s ev h => by cases ev <;> first | rfl | exact absurd rfl (h _ _)
  have hprint : ∀ s : LogOut, c.runFn .print s evs
      = .ok ⟨s.handed, s.printed ++ (scheduled c.period evs).map (fun x => c.msgGen x.2 x.1)⟩ := by
    intro s
    rw [Logger.runFn, runWith_scheduled (g := fun s x => .ok { s with printed := s.printed ++ [c.msgGen x.2 x.1] })
      (fun s e w => gate_ite hp e _ _) (hother _), runWith_ok]
    generalize scheduled c.period evs = pts
    induction pts generalizing s with
    | nil => simp
    | cons x pts ih => simp [ih]
  have hcall : ∀ s : LogOut, c.runFn .callable s evs
      = .ok ⟨s.handed ++ (scheduled c.period evs).map (fun x => c.msgGen x.2 x.1), s.printed⟩ := by
    intro s
    rw [Logger.runFn, runWith_scheduled (g := fun s x => .ok { s with handed := s.handed ++ [c.msgGen x.2 x.1] })
      (fun s e w => gate_ite hp e _ _) (hother _), runWith_ok]
    generalize scheduled c.period evs = pts
    induction pts generalizing s with
    | nil => simp
    | cons x pts ih => simp [ih]
  have hnon : c.runFn .nonCallable s evs = runWith (fun _ _ => .error .TypeError) s (scheduled c.period evs) := by
    rw [Logger.runFn, runWith_scheduled (p := c.period) (g := fun _ _ => .error .TypeError)
      (fun s e w => gate_ite hp e _ _) (hother _)]
  refine ⟨hprint s, hcall s, ?_, ?_, ?_⟩
  · rw [hcall, C17_schedule_logger c hp]; rfl
  · intro h; rw [hnon, h]; rfl
  · intro h; rw [hnon]; cases hs : scheduled c.period evs with
    | nil => exact absurd hs h
    | cons x pts => rfl

/-- a non-trivial instance: period 2 over epoch ends 1..4 with `print`: exactly the lines for epochs 2 and 4; a non-callable
`logger_fn` is refused on the same stream and untouched on a stream that ends before epoch 2 -/
example : (Logger.new 2 (.nonCallable : MsgGenArg Unit) "{}").runFn .print ⟨[], []⟩
      [.epochEnd 1 (), .epochEnd 2 (), .epochEnd 3 (), .epochEnd 4 ()] = .ok ⟨[], ["Epoch 2: {}", "Epoch 4: {}"]⟩
    ∧ (Logger.new 2 (.omitted : MsgGenArg Unit) "{}").runFn .nonCallable ⟨[], []⟩ [.epochEnd 1 (), .epochEnd 2 ()] = .error .TypeError
    ∧ (Logger.new 2 (.omitted : MsgGenArg Unit) "{}").runFn .nonCallable ⟨[], []⟩ [.epochEnd 1 ()] = .ok ⟨[], []⟩ := by
  refine ⟨by decide, by decide, by decide⟩

/-! ### composition with C12: the stream a real `fit(starting_epoch, epochs)` produces -/

/-- a `fit` event (C12's `QV.Train.Event`) as the callbacks receive it, `wof ev` being the world (the state being
trained) at the moment `ev` is dispatched -/
def toEv (wof : Train.Event → W) : Train.Event → Ev W
  | .trainStart => .trainStart (wof .trainStart)
  | .epochStart e => .epochStart e (wof (.epochStart e))
  | .batchStart e b => .batchStart e b (wof (.batchStart e b))
  | .batchEnd e b => .batchEnd e b (wof (.batchEnd e b))
  | .epochEnd e => .epochEnd e (wof (.epochEnd e))
  | .trainEnd => .trainEnd (wof .trainEnd)

/-- the callback-event stream of ONE call `fit(…, starting_epoch = c.start, epochs = c.epochs, callbacks = …)` with stop
requests `R`, started with `stop_training = stop₀`: the event trace of the C12 model of `fit` -/
def fitStream (wof : Train.Event → W) (c : Train.Cfg) (R : Train.Req) (stop₀ : Bool) : List (Ev W) :=
  (Train.events (Train.fit c R stop₀).1).map (toEv wof)

/-- the events a periodic callback reacts to: train starts and epoch ends -/
def keyEvents (evs : List (Ev W)) : List (Ev W) :=
  evs.filter (fun ev => match ev with | .trainStart _ => true | .epochEnd _ _ => true | _ => false)

/-- `RunEnds c R last`: the last epoch whose end is reached by `fit` is `last` —
* nobody requests a stop before train end: `last = epochs` (all of `start..epochs`; none if the range is empty);
* the first stop request falls in epoch `e` (at its epoch start, at / during / after any of its batches, or at its
  epoch end): `last = e` — the epoch's end event still fires;
* a stop is requested at train start: one batch of the first epoch runs and its end fires (`last = start`), if there is one. -/
inductive RunEnds (c : Train.Cfg) (R : Train.Req) : Int → Prop
  | uncut : C12.QuietBefore c R (c.epochs + 1) → RunEnds c R c.epochs
  | cut (e : Int) : c.start ≤ e → e ≤ c.epochs → C12.QuietBefore c R e → ¬ C12.QuietEpoch c R e → RunEnds c R e
  | atStart : Train.reqEv c R .trainStart = true → RunEnds c R (min c.start c.epochs)

theorem firedEpochs_keyEvents (evs : List (Ev W)) : firedEpochs (keyEvents evs) = firedEpochs evs := by
  induction evs with
  | nil => rfl
  | cons ev rest ih => cases ev <;> first | exact ih | exact congrArg (List.cons _) ih

/-- a function that reacts to train starts and epoch ends only does not see the other events -/
theorem filterMap_keyEvents {β : Type} (f : Ev W → Option β) (hf : ∀ ev, keyEvents [ev] = [] → f ev = none)
    (evs : List (Ev W)) : (keyEvents evs).filterMap f = evs.filterMap f := by
  rw [keyEvents, List.filterMap_filter]
  refine List.filterMap_congr fun ev _ => ?_
  cases ev <;> first | rfl | exact (hf _ rfl).symm

theorem firedEpochs_map_epochEnd (g : Int → W) (l : List Int) :
    firedEpochs (l.map (fun e => Ev.epochEnd e (g e))) = l.map (fun e => (e, g e)) := by
  induction l with
  | nil => rfl
  | cons e rest ih => simp [firedEpochs, ih]

theorem keyEvents_append (a b : List (Ev W)) : keyEvents (a ++ b) = keyEvents a ++ keyEvents b := by
  simp [keyEvents]

theorem keyEvents_epochBlock (wof : Train.Event → W) (e : Int) (k : Nat) :
    keyEvents ((C12.epochBlock e k).map (toEv wof)) = [Ev.epochEnd e (wof (.epochEnd e))] := by
  have hp : keyEvents ((C12.pairs e k).map (toEv wof)) = [] := by
    rw [keyEvents, List.filter_eq_nil_iff]
    simp only [C12.pairs, List.mem_map, List.mem_flatMap, List.mem_cons, List.not_mem_nil, or_false]
    rintro _ ⟨_, ⟨b, _, rfl | rfl⟩, rfl⟩ <;> simp [toEv]
  rw [C12.epochBlock, List.map_cons, List.map_append]
  show keyEvents ([toEv wof (.epochStart e)] ++ (_ ++ _)) = _
  rw [keyEvents_append, keyEvents_append, hp]; rfl

theorem keyEvents_frame (wof : Train.Event → W) (t : List Train.Event) :
    keyEvents ((Train.Event.trainStart :: (t ++ [Train.Event.trainEnd])).map (toEv wof)) =
      Ev.trainStart (wof .trainStart) :: keyEvents (t.map (toEv wof)) := by
  simp [keyEvents, toEv]

theorem keyEvents_fullEpochs (wof : Train.Event → W) (nb : Nat) (a b : Int) :
    keyEvents ((C12.fullEpochs nb a b).map (toEv wof))
      = (Train.epochRange a b).map (fun e => Ev.epochEnd e (wof (.epochEnd e))) := by
  unfold C12.fullEpochs
  induction Train.epochRange a b with
  | nil => simp [keyEvents]
  | cons e rest ih =>
    rw [List.flatMap_cons, List.map_append, keyEvents_append, keyEvents_epochBlock, ih]
    rfl

/-- **C17 ∘ C12: the events a periodic callback reacts to in one real `fit`.** In a run that was not stopped beforehand
there is exactly ONE train start, first, followed by the epoch ends of `starting_epoch, …, last` in order, where `last`
is `epochs` for an uncut run and the epoch of the first stop request otherwise (`RunEnds`): a stop requested at a
batch end or at the epoch end of epoch `e` still produces the epoch-end event of `e`, and no later one. -/
theorem C17_fit_stream (wof : Train.Event → W) (c : Train.Cfg) (R : Train.Req) (hnb : 1 ≤ c.numBatches)
    (last : Int) (h : RunEnds c R last) :
    keyEvents (fitStream wof c R false)
      = Ev.trainStart (wof .trainStart) ::
          (Train.epochRange c.start last).map (fun e => Ev.epochEnd e (wof (.epochEnd e))) := by
  unfold fitStream
  cases h with
  | uncut hq => rw [(C12.C12_complete_without_stop c R hq).1, keyEvents_frame, keyEvents_fullEpochs]
  | cut _ h1 h2 hq hne =>
    have hr : Train.epochReq c R last = true := by
      cases hx : Train.epochReq c R last
      · exact absurd ((C12.quietEpoch_iff c R last).mpr hx) hne
      · rfl
    rw [(C12.fit_first_stop c R last h1 h2 hq hr).1, keyEvents_frame, List.map_append, keyEvents_append,
      keyEvents_fullEpochs, keyEvents_epochBlock, Train.epochRange_snoc c.start last h1, List.map_append]
    rfl
  | atStart hr =>
    rw [(C12.C12_stop_at_train_start c R hnb hr).1, keyEvents_frame]
    by_cases hse : c.start ≤ c.epochs
    · rw [if_pos hse, keyEvents_epochBlock, Int.min_eq_left hse, Train.epochRange_self]; rfl
    · rw [if_neg hse, Train.epochRange_empty (by omega)]; rfl

/-- **C17 fit schedule.** In one real `fit(starting_epoch, epochs)` whose last reached epoch is `last` (`RunEnds`: `epochs`
if uncut, the epoch of the first stop request if cut short), the epoch-ends at which a callback of period `p` has to act
are exactly the multiples of `p` in `starting_epoch..last`, in increasing order, each with the state at the END of that
epoch. -/
theorem C17_fit_schedule (wof : Train.Event → W) (c : Train.Cfg) (R : Train.Req) (hnb : 1 ≤ c.numBatches)
    (last : Int) (h : RunEnds c R last) (p : Int) :
    scheduled p (fitStream wof c R false)
      = ((Train.epochRange c.start last).filter (fun e => decide (p ∣ e))).map (fun e => (e, wof (.epochEnd e))) ∧
    (∀ e, e ∈ (scheduled p (fitStream wof c R false)).map Prod.fst ↔ (c.start ≤ e ∧ e ≤ last ∧ p ∣ e)) := by
  have hs : scheduled p (fitStream wof c R false)
      = ((Train.epochRange c.start last).filter (fun e => decide (p ∣ e))).map (fun e => (e, wof (.epochEnd e))) := by
    unfold scheduled
    rw [← firedEpochs_keyEvents, C17_fit_stream wof c R hnb last h]
    simp only [firedEpochs]
    rw [firedEpochs_map_epochEnd (fun e => wof (.epochEnd e)), List.filter_map]
    rfl
  refine ⟨hs, fun e => ?_⟩
  rw [hs]
  simp only [List.map_map, List.mem_map, List.mem_filter, decide_eq_true_eq, Function.comp]
  constructor
  · rintro ⟨e', ⟨hmem, hd⟩, rfl⟩
    have := (Train.mem_epochRange _ _ _).mp hmem
    exact ⟨this.1, this.2, hd⟩
  · rintro ⟨h1, h2, hd⟩
    exact ⟨e, ⟨(Train.mem_epochRange _ _ _).mpr ⟨h1, h2⟩, hd⟩, rfl⟩

/-- the `filterMap` is the one in the statement of `C17_schedule_saver` -/
theorem saverArgs_epochEnds (sv : ModelSaver W P M) (g : Int → W) (l : List Int) :
    (l.map (fun e => Ev.epochEnd e (g e))).filterMap (fun ev => match ev with
        | .trainStart _ => if sv.saveInitial then some FileArg.initial else none
        | .epochEnd e _ => if sv.period ∣ e then some (FileArg.epoch e) else none
        | _ => none)
      = (l.filter (fun e => decide (sv.period ∣ e))).map FileArg.epoch := by
  induction l with
  | nil => rfl
  | cons e rest ih =>
    rw [List.map_cons, List.filterMap_cons, List.filter_cons, ih]
    by_cases hd : sv.period ∣ e
    · simp only [if_pos hd, decide_eq_true hd, List.map_cons, if_true]
    · simp only [if_neg hd, decide_eq_false hd, Bool.false_eq_true, if_false]

/-- **C17 fit schedule, per callback.** The four periodic callbacks driven through one real `fit` whose last reached epoch is
`last`: the evaluators act (their `epochs` grow by) exactly at the multiples of their period in `starting_epoch..last`; the
logger emits `msg_gen(state at the end of e, e)` for those; the saver writes "initial" once, FIRST, iff `save_initial`, then
one file per multiple of its period — in particular the stop epoch itself is evaluated / logged / saved when it is a
multiple of the period, and nothing after it. -/
theorem C17_fit_callbacks (wof : Train.Event → W) (c : Train.Cfg) (R : Train.Req) (hnb : 1 ≤ c.numBatches)
    (last : Int) (h : RunEnds c R last) :
    (∀ (m : MetricEvaluator W V), 1 ≤ m.period → m.names.Nodup → (m.log = true → "epoch" ∉ m.names) → ∀ s,
      ∃ s', m.run s (fitStream wof c R false) = .ok s' ∧
        s'.epochs = s.epochs ++ (Train.epochRange c.start last).filter (fun e => decide (m.period ∣ e))) ∧
    (∀ (o : ObservableEvaluator W V), 1 ≤ o.period → (o.log = true → ∀ w, StatsWF (o.statistics w)) → ∀ s,
      ∃ s', o.run s (fitStream wof c R false) = .ok s' ∧
        s'.epochs = s.epochs ++ (Train.epochRange c.start last).filter (fun e => decide (o.period ∣ e))) ∧
    (∀ (l : Logger W Msg), 1 ≤ l.period → ∀ out,
      l.run out (fitStream wof c R false) = .ok (out ++
        ((Train.epochRange c.start last).filter (fun e => decide (l.period ∣ e))).map (fun e => l.msgGen (wof (.epochEnd e)) e))) ∧
    (∀ (sv : ModelSaver W P M), 1 ≤ sv.period → (sv.metadataOnly = false → ∀ w e, sv.reserved (sv.mdFor w e) = false) → ∀ ws,
      ∃ ws', sv.run ws (fitStream wof c R false) = .ok ws' ∧
        ws'.map Prod.fst = ws.map Prod.fst ++ ((if sv.saveInitial then [FileArg.initial] else []) ++
          ((Train.epochRange c.start last).filter (fun e => decide (sv.period ∣ e))).map FileArg.epoch)) := by
  have hfired : ∀ p : Int, (firedEpochs (fitStream wof c R false)).filter (fun x => decide (p ∣ x.1))
      = ((Train.epochRange c.start last).filter (fun e => decide (p ∣ e))).map (fun e => (e, wof (.epochEnd e))) :=
    fun p => (C17_fit_schedule wof c R hnb last h p).1
  have hfst : ∀ p : Int, ((firedEpochs (fitStream wof c R false)).filter (fun x => decide (p ∣ x.1))).map Prod.fst
      = (Train.epochRange c.start last).filter (fun e => decide (p ∣ e)) := by
    intro p; rw [hfired, List.map_map]; exact List.map_id' _
  refine ⟨fun m hp hnd hep s => ?_, fun o hp hwf s => ?_, fun l hp out => ?_, fun sv hp hres ws => ?_⟩
  · obtain ⟨s', h1, h2⟩ := C17_schedule_metric m hp hnd hep s (fitStream wof c R false)
    exact ⟨s', h1, by rw [h2, hfst]⟩
  · obtain ⟨s', h1, h2⟩ := C17_schedule_observable o hp hwf s (fitStream wof c R false)
    exact ⟨s', h1, by rw [h2, hfst]⟩
  · rw [C17_schedule_logger l hp, hfired, List.map_map]; rfl
  · obtain ⟨ws', h1, h2⟩ := C17_schedule_saver sv hp hres ws (fitStream wof c R false)
    refine ⟨ws', h1, ?_⟩
    rw [h2, ← filterMap_keyEvents _ (by intro ev hev; cases ev <;> first | rfl | simp [keyEvents] at hev),
      C17_fit_stream wof c R hnb last h, List.filterMap_cons]
    rw [saverArgs_epochEnds]
    cases sv.saveInitial <;> rfl

/-- **C17: a run started with a stop already requested.** `fit` returns before `on_train_start`: the stream is empty, so no
callback acts — no initial save, no evaluation, no message; every callback state is unchanged. -/
theorem C17_fit_stopped_beforehand (wof : Train.Event → W) (c : Train.Cfg) (R : Train.Req) :
    fitStream wof c R true = [] ∧
    (∀ (m : MetricEvaluator W V) s, m.run s (fitStream wof c R true) = .ok s) ∧
    (∀ (o : ObservableEvaluator W V) s, o.run s (fitStream wof c R true) = .ok s) ∧
    (∀ (l : Logger W Msg) out, l.run out (fitStream wof c R true) = .ok out) ∧
    (∀ (sv : ModelSaver W P M) ws, sv.run ws (fitStream wof c R true) = .ok ws) := by
  have h0 : fitStream wof c R true = [] := by
    unfold fitStream
    rw [Train.fit_stopped]
    rfl
  refine ⟨h0, ?_, ?_, ?_, ?_⟩ <;> intros <;> rw [h0] <;> rfl

/-! ### several callbacks in one list -/

/-- the head callback and the rest of the list run side by side: the list ends well iff both do -/
theorem runAll_cons_ok_iff (evs : List (Ev W)) : ∀ (c : Callback W V P M Msg) (s : CbState V P M Msg)
    (rest res : List (Callback W V P M Msg × CbState V P M Msg)),
    runAll ((c, s) :: rest) evs = .ok res ↔
      ∃ s' rest', res = (c, s') :: rest' ∧ c.run s evs = .ok s' ∧ runAll rest evs = .ok rest' := by
  induction evs with
  | nil =>
    intro c s rest res
    exact ⟨fun h => ⟨s, rest, (Except.ok.inj h).symm, rfl, rfl⟩,
      fun ⟨s', rest', h, h1, h2⟩ => by cases h1; cases h2; rw [h]; rfl⟩
  | cons ev evs ih =>
    intro c s rest res
    simp only [runAll, Callback.run, runWith, stepAll] at ih ⊢
    cases c.step s ev with
    | error _ => exact ⟨(fun h => nomatch h), fun ⟨_, _, _, h, _⟩ => nomatch h⟩
    | ok s₁ =>
      cases stepAll ev rest with
      | error _ => exact ⟨(fun h => nomatch h), fun ⟨_, _, _, _, h⟩ => nomatch h⟩
      | ok rest₁ => exact ih c s₁ rest₁ res

/-- **C17 independent.** A list of periodic callbacks (any mix, any periods) driven through a stream ends in
states `res` exactly when each callback, driven ALONE through the same stream from its own state, ends in
the corresponding state: no callback's record depends on the presence, period or position of another. -/
theorem C17_independent (evs : List (Ev W)) :
    ∀ (cs : List (Callback W V P M Msg × CbState V P M Msg))
      (res : List (Callback W V P M Msg × CbState V P M Msg)),
      runAll cs evs = .ok res ↔
        List.Forall₂ (fun (cs : Callback W V P M Msg × CbState V P M Msg) r => r.1 = cs.1 ∧ cs.1.run cs.2 evs = .ok r.2) cs res := by
  intro cs
  induction cs with
  | nil =>
    intro res
    have : runAll ([] : List (Callback W V P M Msg × CbState V P M Msg)) evs = .ok [] := by
      induction evs with
      | nil => rfl
      | cons ev evs ih => exact ih
    rw [this]
    exact ⟨fun h => by cases h; exact .nil, fun h => by cases h; rfl⟩
  | cons c cs ih =>
    intro res
    rw [runAll_cons_ok_iff, List.forall₂_cons_left_iff]
    constructor
    · rintro ⟨s', rest', rfl, h1, h2⟩
      exact ⟨(c.1, s'), rest', ⟨rfl, h1⟩, (ih rest').mp h2, rfl⟩
    · rintro ⟨⟨c', s'⟩, rest', ⟨rfl, h1⟩, h2, rfl⟩
      exact ⟨s', rest', rfl, h1, (ih rest').mpr h2⟩

/-! ### the evaluator's names, CSV columns and attribute names are the observables' names -/

section columns

/-- **C17 columns** — `names`, and with them the CSV header and the attribute names `evaluator.<name>`, of an
`ObservableEvaluator` are the NAMES of the observables it was given, each once, in order of first occurrence (the key
order of the `System` dictionary, `C13_system_keys_of_names`); the header reads `epoch`, then for every such name
`<name>_mean`, `<name>_variance`, `<name>_std_error` in this order. (For composites the names are `exprText`,
`C16_name_of_build`.) -/
theorem C17_columns_of_names (c : ObservableEvaluator W V) :
    c.names = Stats.firstOcc c.obsNames ∧
    c.csvFields.map Field.text = "epoch" :: (Stats.firstOcc c.obsNames).flatMap
      (fun o => [o ++ "_" ++ "mean", o ++ "_" ++ "variance", o ++ "_" ++ "std_error"]) := by
  have hn : c.names = Stats.firstOcc c.obsNames := by
    have := Stats.systemInit_keys (c.obsNames.map (fun n => (n, ())))
    simpa [ObservableEvaluator.names, Dict.ofPairs, dictSet_eq, Dict.keys, Stats.systemInit, Function.comp_def] using this
  refine ⟨hn, ?_⟩
  unfold ObservableEvaluator.csvFields
  rw [hn]
  simp only [List.map_cons, Field.text, List.map_flatMap, csvStats, List.map_nil]

end columns

/-! ### `verbose`: the printing branches and the order of effects -/

section verbose

/-- **C17 verbose (metric evaluator)** — whenever every value computed at this evaluation can be formatted with
`{v:.6f}`, the record appended, `last`, the CSV row and the exception (if any) are the same for EVERY object passed as
`verbose` (the singleton `True`, `False`, `1`, `numpy.True_`, …), namely those of the plain state machine
`onEpochEnd` all the C17 theorems speak about. -/
theorem C17_verbose_irrelevant_when_formattable (c : MetricEvaluator W V) (fmt : V → Except PyErr String)
    (s : EvalState V V) (e : Int) (w : W) (hf : ∀ nv ∈ c.evalAll w, ∃ t, fmt nv.2 = .ok t) (verbose : PyFlag) :
    (c.onEpochEndV verbose fmt s e w).toExcept = c.onEpochEnd s e w ∧
    (c.onEpochEndV verbose fmt s e w).state = (c.onEpochEndV (.pyBool false) fmt s e w).state ∧
    (c.onEpochEndV verbose fmt s e w).err = (c.onEpochEndV (.pyBool false) fmt s e w).err := by
  obtain ⟨line, hl⟩ := fmtJoin_ok fmt " = " (c.evalAll w) hf
  unfold MetricEvaluator.onEpochEndV MetricEvaluator.onEpochEnd
  cases hg : gate e c.period with
  | error err => simp [Effects.toExcept]
  | ok b =>
    cases b with
    | false => simp [Effects.toExcept]
    | true =>
      have hF : (PyFlag.pyBool false).isTrueSingleton = false := rfl
      simp only [hl, hF]
      -- formatting succeeds, so for either value of the flag the printing step raises nothing and the CSV step is reached
      cases verbose.isTrueSingleton <;> cases c.log
      any_goals exact ⟨rfl, rfl, rfl⟩
      all_goals cases c.logRow e (c.evalAll w) <;> exact ⟨rfl, rfl, rfl⟩

/-- the same for whole runs: over any event stream on which every computed value is formattable, the verbose
callback leaves the state / raises the exception of the plain `run` (so every `C17_records_*` / `C17_schedule_*`
theorem applies to it), whatever `verbose` is. -/
theorem C17_verbose_run_irrelevant_when_formattable (c : MetricEvaluator W V) (fmt : V → Except PyErr String)
    (hf : ∀ w, ∀ nv ∈ c.evalAll w, ∃ t, fmt nv.2 = .ok t) (verbose : PyFlag) (evs : List (Ev W)) (s : EvalState V V) :
    (c.runV verbose fmt s evs).toExcept = c.run s evs := by
  induction evs generalizing s with
  | nil => rfl
  | cons ev rest ih =>
    cases ev with
    | epochEnd e w =>
      have h1 := (C17_verbose_irrelevant_when_formattable c fmt s e w (hf w) verbose).1
      simp only [MetricEvaluator.runV, MetricEvaluator.run, runWith, MetricEvaluator.step]
      cases herr : (c.onEpochEndV verbose fmt s e w).err with
      | some err =>
        simp only [Effects.toExcept, herr] at h1 ⊢
        rw [← h1]
      | none =>
        simp only [Effects.toExcept, herr] at h1
        rw [← h1]
        exact ih _
    | trainStart w => simpa [MetricEvaluator.runV, MetricEvaluator.run, runWith, MetricEvaluator.step] using ih s
    | trainEnd w => simpa [MetricEvaluator.runV, MetricEvaluator.run, runWith, MetricEvaluator.step] using ih s
    | epochStart e w => simpa [MetricEvaluator.runV, MetricEvaluator.run, runWith, MetricEvaluator.step] using ih s
    | batchStart e b w => simpa [MetricEvaluator.runV, MetricEvaluator.run, runWith, MetricEvaluator.step] using ih s
    | batchEnd e b w => simpa [MetricEvaluator.runV, MetricEvaluator.run, runWith, MetricEvaluator.step] using ih s

/-- `verbose is True` is an identity test: any object that is not the singleton `True` prints nothing and never
formats a value (so an unformattable value is harmless then). -/
theorem C17_verbose_identity_test (c : MetricEvaluator W V) (fmt : V → Except PyErr String)
    (s : EvalState V V) (e : Int) (w : W) (verbose : PyFlag) (hv : verbose.isTrueSingleton = false) :
    (c.onEpochEndV verbose fmt s e w).out = [] ∧ (c.onEpochEndV verbose fmt s e w).toExcept = c.onEpochEnd s e w := by
  unfold MetricEvaluator.onEpochEndV MetricEvaluator.onEpochEnd
  cases hg : gate e c.period with
  | error err => simp [Effects.toExcept]
  | ok b =>
    cases b with
    | false => simp [Effects.toExcept]
    | true =>
      simp only [hv]
      cases hlog : c.log <;> simp [Effects.toExcept] <;> cases hr : c.logRow e (c.evalAll w) <;> simp

/-- **what has happened when formatting raises** (`verbose=True`, the evaluation is due, some value is not
formattable): the exception propagates; the record IS appended (`len` grew by one, `last` is the new dict), the epoch
header is on stdout, but the CSV row is NOT written — history and log file are out of step from then on. -/
theorem C17_verbose_unformattable_partial (c : MetricEvaluator W V) (fmt : V → Except PyErr String)
    (s : EvalState V V) (e : Int) (w : W) (hg : gate e c.period = .ok true)
    (hbad : ∃ nv ∈ c.evalAll w, ∃ err, fmt nv.2 = .error err) :
    ∃ err, c.onEpochEndV (.pyBool true) fmt s e w =
      ⟨{ s with last := c.evalAll w, past := s.past ++ [(e, c.evalAll w)] }, ["Epoch: " ++ toString e ++ "\t"], some err⟩ ∧
      (c.onEpochEndV (.pyBool true) fmt s e w).state.len = s.len + 1 ∧
      (c.onEpochEndV (.pyBool true) fmt s e w).state.log = s.log := by
  obtain ⟨err, herr⟩ := fmtJoin_error fmt " = " (c.evalAll w) hbad
  refine ⟨err, ?_⟩
  have : c.onEpochEndV (.pyBool true) fmt s e w =
      ⟨{ s with last := c.evalAll w, past := s.past ++ [(e, c.evalAll w)] }, ["Epoch: " ++ toString e ++ "\t"], some err⟩ := by
    simp [MetricEvaluator.onEpochEndV, hg, PyFlag.isTrueSingleton, herr]
  refine ⟨this, ?_, ?_⟩ <;> rw [this] <;> simp [EvalState.len]

/-- **C17 verbose (observable evaluator)** — as for the metric evaluator: with formattable statistics the record, the
CSV row and the outcome do not depend on `verbose` and are those of `onEpochEnd`. -/
theorem C17_verbose_irrelevant_when_formattable_observable (c : ObservableEvaluator W V)
    (fmt : V → Except PyErr String) (s : EvalState (Dict String V) V) (e : Int) (w : W)
    (hf : ∀ od ∈ c.statistics w, ∀ kv ∈ od.2, ∃ t, fmt kv.2 = .ok t) (verbose : PyFlag) :
    (c.onEpochEndV verbose fmt s e w).toExcept = c.onEpochEnd s e w ∧
    (c.onEpochEndV verbose fmt s e w).state = (c.onEpochEndV (.pyBool false) fmt s e w).state ∧
    (c.onEpochEndV verbose fmt s e w).err = (c.onEpochEndV (.pyBool false) fmt s e w).err := by
  obtain ⟨body, hl⟩ := verboseBody_ok fmt (c.statistics w) hf
  unfold ObservableEvaluator.onEpochEndV ObservableEvaluator.onEpochEnd
  cases hg : gate e c.period with
  | error err => simp [Effects.toExcept]
  | ok b =>
    cases b with
    | false => simp [Effects.toExcept]
    | true =>
      have hF : (PyFlag.pyBool false).isTrueSingleton = false := rfl
      simp only [hl, hF]
      -- as for the metric evaluator: formatting succeeds, so the flag only changes what is printed
      cases verbose.isTrueSingleton <;> cases c.log <;> exact ⟨rfl, rfl, rfl⟩

/-- observable evaluator, formatting raises: record appended, header printed, no CSV row. -/
theorem C17_verbose_unformattable_partial_observable (c : ObservableEvaluator W V) (fmt : V → Except PyErr String)
    (s : EvalState (Dict String V) V) (e : Int) (w : W) (hg : gate e c.period = .ok true) (err : PyErr)
    (hbad : ObservableEvaluator.verboseBody fmt (c.statistics w) = .error err) :
    c.onEpochEndV (.pyBool true) fmt s e w =
      ⟨{ s with last := c.statistics w, past := s.past ++ [(e, c.statistics w)] }, ["Epoch: " ++ toString e ++ "\n"],
        some err⟩ := by
  simp [ObservableEvaluator.onEpochEndV, hg, PyFlag.isTrueSingleton, hbad]

end verbose

/-! ### non-vacuity: a concrete stream with a stopped run followed by a second run -/

/-- run 1: epochs 1..4 (other events interleaved), cut short after epoch 4; run 2: epochs 3..4 again -/
def exStream : List (Ev Nat) :=
  [.trainStart 0, .epochStart 1 0, .batchStart 1 0 0, .batchEnd 1 0 1, .epochEnd 1 1, .epochEnd 2 2, .epochEnd 3 3,
   .epochEnd 4 4, .trainEnd 4, .trainStart 4, .epochEnd 3 5, .epochEnd 4 6, .trainEnd 6]

def exMetric : MetricEvaluator Nat Nat := ⟨2, [("a", fun w => 10 * w), ("b", fun w => w + 1)], true⟩

example : scheduled 2 exStream = [(2, 2), (4, 4), (4, 6)] := by rfl

/-- verbose runs over `exStream` (period 2: evaluations at worlds 2, 4, 6). With a `fmt` that refuses the value 20 (metric
`a` at world 2: `ValueError`) the run stops at its first evaluation with one record, the header on stdout and only the CSV
header in the log; … -/
example : let fmt : Nat → Except PyErr String := fun v => if v = 20 then .error .ValueError else .ok (toString v)
    let r := exMetric.runV (.pyBool true) fmt exMetric.init exStream
    (r.err, r.state.epochs, r.state.log.length, r.out) = (some .ValueError, [2], 1, ["Epoch: 2\t"]) := by rfl
/-- … with every value formattable it completes and prints. -/
example : let fmt : Nat → Except PyErr String := fun v => .ok (toString v)
    let r := exMetric.runV (.pyBool true) fmt exMetric.init exStream
    (r.err, r.state.epochs, r.state.log.length, r.out.take 2) = (none, [2, 4, 4], 4, ["Epoch: 2\t", "a = 20\tb = 3\n"]) := by
  rfl
example : exMetric.names.Nodup ∧ (exMetric.log = true → "epoch" ∉ exMetric.names) := by decide

/-- the model, executed on the example, gives exactly the records the theorem predicts -/
example : (exMetric.run exMetric.init exStream).toOption.map (fun s => (s.epochs, s.last, s.log.length))
    = some ([2, 4, 4], [("a", 60), ("b", 7)], 4) := by rfl

/-- a saver with period 3, initial save, callable metadata `(w, e) ↦ (w, e)`: writes of the example stream -/
example : (ModelSaver.run (⟨3, "m_", ".pt", true, .callable (fun w e => (w, e)), false, (0, 0), fun w => w, fun _ => false⟩ :
      ModelSaver Nat Nat (Nat × Int)) [] exStream)
    = .ok [(.initial, .full 0 (0, 0)), (.epoch 3, .full 3 (3, 3)), (.initial, .full 4 (4, 0)), (.epoch 3, .full 5 (5, 3))] := by
  rw [C17_saver _ (by decide) (by intros; rfl)]
  rfl

/-- the hypothesis of `C17_saver_file` (every file argument written at most once) holds for a single run -/
example : (([Ev.trainStart 0, .epochEnd 1 1, .epochEnd 2 2, .epochEnd 3 3, .epochEnd 4 4, .trainEnd 4].filterMap
    (saverWrite (⟨2, "m_", ".pt", true, .none, false, (), fun w => w, fun _ => false⟩ : ModelSaver Nat Nat Unit))).map Prod.fst).Nodup := by
  decide

/-- statistics dicts of the shape `System.statistics` returns satisfy `StatsWF` -/
example : StatsWF ([("sx", [("mean", 1), ("variance", 2), ("std_error", 3), ("num_samples", 4)]),
    ("sz", [("mean", 5), ("variance", 6), ("std_error", 7), ("num_samples", 8)])] : Dict String (Dict String Nat)) := by
  refine ⟨by decide, ?_⟩
  intro od hod
  simp at hod
  rcases hod with h | h <;> subst h <;> decide

/-- plural stripping of `ObservableStatistics` -/
example : stripPlural "means" = "mean" ∧ stripPlural "std_errors" = "std_error" ∧
    stripPlural "num_samples" = "num_sample" ∧ stripPlural "variance" = "variance" := ⟨rfl, rfl, rfl, rfl⟩

/-- metrics called "log" and "period" (names the evaluator uses for attributes of its own), period 2: subscripting
gives the recorded values, attribute syntax the attribute, for a name that does not collide both agree -/
def exShadow : MetricEvaluator Nat Nat := ⟨2, [("log", fun w => 10 * w), ("period", fun w => w + 1), ("kl", fun w => w)], false⟩

example : (exShadow.run exShadow.init exStream).toOption.map
      (fun s => ((s.getItem "log").toOption, (s.getAttr ["log", "period", "last"] "log").toOption,
        (s.getAttr ["log", "period", "last"] "kl").toOption, (s.getValue "period" (some (-1))).toOption))
    = some (some [20, 40, 60], some (.own "log"), some (.dynamic [2, 4, 6]), some 7) := by rfl

/-! ### non-vacuity of the composition with C12 -/

/-- `fit(starting_epoch = 1, epochs = 5)`, two batches per epoch, one user callback -/
def exCfg : Train.Cfg := ⟨1, 5, 2, [0], false, false⟩

/-- the callback requests a stop at the END of batch 1 of epoch 3 -/
def exReq : Train.Req := ⟨fun _ ev => ev == .batchEnd 3 1, fun _ _ => false⟩

def exQuiet : Train.Req := ⟨fun _ _ => false, fun _ _ => false⟩

/-- the model of `fit`, executed: the stop at the batch end of epoch 3 still lets epoch 3's end fire, a saver / evaluator of
period 3 acts there (and nowhere else), one of period 2 acts at epoch 2 only; the uncut run gives the multiples in 1..5 -/
example : scheduled 3 (fitStream (fun ev => ev) exCfg exReq false) = [(3, .epochEnd 3)] ∧
    scheduled 2 (fitStream (fun ev => ev) exCfg exReq false) = [(2, .epochEnd 2)] ∧
    scheduled 2 (fitStream (fun ev => ev) exCfg exQuiet false) = [(2, .epochEnd 2), (4, .epochEnd 4)] ∧
    fitStream (fun ev => ev) exCfg exReq true = [] := by decide

/-- the hypothesis `RunEnds` of `C17_fit_schedule` holds for it with `last = 3` (first stop request in epoch 3) -/
example : RunEnds exCfg exReq 3 := by
  have hreq : ∀ ev, Train.reqEv exCfg exReq ev = (ev == .batchEnd 3 1) := by
    intro ev; simp [Train.reqEv, exCfg, exReq]
  refine RunEnds.cut 3 (by decide) (by decide) ⟨by rw [hreq]; rfl, ?_⟩ ?_
  · intro e' h1 h2
    have hne : e' ≠ 3 := by omega
    refine ⟨⟨by rw [hreq]; rfl, ?_⟩, by rw [hreq]; rfl⟩
    intro b _
    refine ⟨by rw [hreq]; rfl, rfl, ?_⟩
    rw [hreq]
    simp [hne]
  · intro hq
    have := (hq.1.2 1 (by decide)).2.2
    rw [hreq] at this
    simp at this

/-- … and with `last = epochs = 5` for the run without stop requests -/
example : RunEnds exCfg exQuiet 5 := by
  refine RunEnds.uncut ⟨rfl, fun e' _ _ => ⟨⟨rfl, fun b _ => ⟨rfl, rfl, rfl⟩⟩, rfl⟩⟩

end C17
end QV.Props
