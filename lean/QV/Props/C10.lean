/-
C10 — Fidelity, KL divergence and NLL report the quantities they are named for.

"For every model state and target, the fidelity equals the squared overlap (pure) or Uhlmann fidelity
(mixed) of the normalised states, lies in [0,1], is 1 against the model's own state and is unchanged by a
global phase of a pure target; the KL divergence equals the mean over the requested bases of the
Kullback-Leibler divergence between target and model Born distributions, is non-negative and vanishes
against the model's own state in every basis; the NLL equals minus the mean log Born probability of the
samples in their own bases. Each metric returns a plain real number on every code path."

Model definitions: QV.Model.Metrics (executed against qucumber.utils.training_statistics by the C10
correspondence check), QV.Model.Unitaries (rotations; C04 proves they are the dense Kronecker rotation and
preserve norms — composed with the C10 statements in §7: `C10_pureBorn_dense`, `C10_mixedBorn_dense`,
`C10_nll_born[_mixed]`, `C10_pureBorn_sum`, `C10_mixedBorn_sum`, and the RBM instances `C10_kl_nonneg_rbm`, …).

KL guard (§2): the MODEL's Born probabilities must lie in `[ε, 1−ε]` (`InGuard`; the clamp of `probs_to_logits` is then
inactive). The TARGET's may in addition be exactly `0` (`TGuard`: value = Kullback–Leibler divergence) or exactly `0` / `1`
(`TGuard1`: non-negativity; value = divergence + `oneCorr`, `|oneCorr| ≤ 2ε`): basis states, GHZ, W, product states,
rank-deficient density matrices are inside.

Scope of the theorems (all sizes `N`, `n`, all real parameters, all targets, all lists of bases/samples):
* the neural state enters through `psi`/`rho`/`prob`/`Z`; the facts C01/C02 prove about them
  (`prob σ = |ψ σ|²/Z`, `prob σ = Re ρ σσ / Z`, `Z = Σ|ψ|² > 0`) are explicit hypotheses where needed;
* the unitary dictionary is an arbitrary `d : Char → M2 ℝ` in every KL / NLL theorem; §8 instantiates it with
  `Metrics.userDict kw`, the lookup in `create_dict(**kw)` the driver runs. A basis letter that is no key (`KeyError` in the
  code) is OUTSIDE the model, which reads it as `dZ`: the `*_userDict` theorems carry the scope hypothesis `_hkeys`;
* the `deprecated_kwarg` alias layer in front of `fidelity` / `KL` (`target_psi=`, `target_rho=`) is §9;
* mixed fidelity (§5): `np.linalg.eigvals` is EXTERNAL; the model `fidelityMixed` takes its result `eig` as an argument.
  `C10_fid_mixed_partial` characterises the value given ANY list (`(Σ√|Re λ|)²`, kind, `≥ 0`). The link to the
  Uhlmann fidelity is proved in §5b, for complex PSD matrices `σ̂` (target), `ρ̂` (model) over any finite index type,
  under the single hypothesis that `eig` is — as a multiset, any order — the multiset of roots of the characteristic
  polynomial of the matrix handed to `eigvals` (eigenvalues with algebraic multiplicity):
    theorem C10_fid_mixed_uhlmann      (σ̂ ρ̂ PSD) (heig : eig = roots (charpoly (σ̂ ρ̂))) :
        fidelityMixed eig = (tr √(√ρ̂ σ̂ √ρ̂))²                      -- in ℂ, and as (Re tr …)² in ℝ
    theorem C10_fid_mixed_range        (σ̂ ρ̂ PSD, tr σ̂ = tr ρ̂ = 1) : tr √(√ρ̂ σ̂ √ρ̂) ∈ [0,1] ⊂ ℝ ∧ (heig → 0 ≤ fidelityMixed eig ≤ 1)
    theorem C10_fid_mixed_self_uhlmann (ρ̂ PSD, tr ρ̂ = 1) : tr √(√ρ̂ ρ̂ √ρ̂) = 1 ∧ (heig → fidelityMixed eig = 1)
  `√` is Mathlib's `CFC.sqrt` on matrices with the Loewner order; `C10_psd_sqrt_spec` shows it is the unique PSD square
  root. `C10_fid_mixed_uhlmann_model` / `C10_fid_mixed_self` restate them for the matrix `fidProd` the model passes
  to `eigvals`.
  TRUSTED BASE: that `np.linalg.eigvals` returns the charpoly roots (hypothesis `heig`; the harness checks numpy's
  output against the characteristic polynomial on every case), and floating-point rounding.
-/
import Mathlib.Analysis.SpecialFunctions.Log.Basic
import Mathlib.Analysis.SpecialFunctions.Sqrt
import Mathlib.Analysis.SpecialFunctions.Trigonometric.Basic
import Mathlib.Analysis.Complex.Basic
import Mathlib.Algebra.BigOperators.Field
import Mathlib.Algebra.Order.Chebyshev
import QV.Model.Metrics
import QV.Model.States
import QV.Lemmas.Metrics
import QV.Lemmas.MetricsSpectrum
import QV.Lemmas.Uhlmann
import QV.Props.C01
import QV.Props.C02
import QV.Props.C04
import QV.Lemmas.MetricsCompose
import QV.Lemmas.CallForm

namespace QV.Props
namespace C10
open QV QV.C10L Finset Metrics

/-! ## Specifications -/

/-- `⟨t|ψ⟩ = Σ_k conj(t_k) ψ_k` over the first `N` entries -/
noncomputable def braket (N : ℕ) (t ψ : ℕ → C ℝ) : ℂ :=
  ∑ k : Fin N, (starRingEnd ℂ) (C10L.toC (t k.val)) * C10L.toC (ψ k.val)

noncomputable def normSqVec (N : ℕ) (v : ℕ → C ℝ) : ℝ := ∑ k : Fin N, Complex.normSq (C10L.toC (v k.val))

/-- squared overlap of the normalised states `|⟨t|ψ⟩|² / (‖t‖² ‖ψ‖²)` -/
noncomputable def overlapSq (N : ℕ) (t ψ : ℕ → C ℝ) : ℝ :=
  Complex.normSq (braket N t ψ) / (normSqVec N t * normSqVec N ψ)

/-- SPECIFICATION: the Kullback–Leibler divergence of two distributions on `N` outcomes. `Real.log 0 = 0`, so a summand
with `t_k = 0` is `0` (the convention `0 · log 0 = 0`). -/
noncomputable def klDiv (N : ℕ) (t p : ℕ → ℝ) : ℝ := ∑ k : Fin N, t k.val * (Real.log (t k.val) - Real.log (p k.val))

/-- the clamp of `probs_to_logits` is inactive on the first `N` entries -/
def InGuard (ε : ℝ) (N : ℕ) (t : ℕ → ℝ) : Prop := ∀ k, k < N → ε ≤ t k ∧ t k ≤ 1 - ε

/-- TARGET-side guard: every target probability is EXACTLY `0` (there the clamp is harmless: the code computes
`0 · log(clamp 0) = 0`, and `klDiv` has `0 · (log 0 − …) = 0`) or lies in `[ε, 1 − ε]`. Basis states measured in another
basis, GHZ, W, product states and rank-deficient density matrices have such Born distributions. -/
def TGuard (ε : ℝ) (N : ℕ) (t : ℕ → ℝ) : Prop := ∀ k, k < N → t k = 0 ∨ (ε ≤ t k ∧ t k ≤ 1 - ε)

/-- … or EXACTLY `1` (a basis state measured in its own basis: the clamp replaces `log 1 = 0` by `log(1 − ε)`). -/
def TGuard1 (ε : ℝ) (N : ℕ) (t : ℕ → ℝ) : Prop := ∀ k, k < N → t k = 0 ∨ t k = 1 ∨ (ε ≤ t k ∧ t k ≤ 1 - ε)

/-- the clamp's contribution at target probabilities that are exactly one: `log(1 − ε)` (instead of `log 1 = 0`) each -/
noncomputable def oneCorr (ε : ℝ) (N : ℕ) (t : ℕ → ℝ) : ℝ := ∑ k : Fin N, if t k.val = 1 then Real.log (1 - ε) else 0

theorem InGuard.tguard {ε : ℝ} {N : ℕ} {t : ℕ → ℝ} (h : InGuard ε N t) : TGuard ε N t := fun k hk => Or.inr (h k hk)

theorem TGuard.tguard1 {ε : ℝ} {N : ℕ} {t : ℕ → ℝ} (h : TGuard ε N t) : TGuard1 ε N t :=
  fun k hk => (h k hk).elim Or.inl (fun g => Or.inr (Or.inr g))

theorem TGuard1.nonneg {ε : ℝ} (hε : 0 ≤ ε) {N : ℕ} {t : ℕ → ℝ} (h : TGuard1 ε N t) (k : ℕ) (hk : k < N) : 0 ≤ t k := by
  rcases h k hk with h0 | h1 | hg
  · rw [h0]
  · rw [h1]; norm_num
  · exact hε.trans hg.1

theorem mem52 {x : ℝ} (h : 1 / 4 ≤ x ∧ x ≤ 3 / 4) : (2 : ℝ)⁻¹ ^ 52 ≤ x ∧ x ≤ 1 - (2 : ℝ)⁻¹ ^ 52 :=
  ⟨eps52_le.trans h.1, h.2.trans (le_sub_comm.mpr (eps52_le.trans_eq (by norm_num)))⟩

/-- Born distribution of the (unnormalised) vector `v` in basis `b`: `|(U_b v)_k|²` -/
noncomputable def pureBorn (n : ℕ) (d : Char → M2 ℝ) (b : Basis n) (v : ℕ → C ℝ) : ℕ → ℝ :=
  fun k => Complex.normSq (C10L.toC (Unitaries.rotatePsi n (usOf d b) v k))

/-- Born distribution of the (unnormalised) density matrix `ρ` in basis `b`: `Re (U_b ρ U_b†)_{kk}` -/
def mixedBorn (n : ℕ) (d : Char → M2 ℝ) (b : Basis n) (ρ : (Fin n → Bool) → (Fin n → Bool) → C ℝ) : ℕ → ℝ :=
  fun k => Unitaries.rotateRhoProbs n (usOf d b) (rotOf b) ρ (row n k)

/-- `nn_state.psi(space)` -/
def vecOf (n : ℕ) (psi : (Fin n → Bool) → C ℝ) : ℕ → C ℝ := fun k => psi (row n k)

/-- target Born distribution of one item of the KL loop (wavefunction target) -/
noncomputable def tBornPure (n : ℕ) (d : Char → M2 ℝ) (it : Basis n × TargetSrc (ℕ → C ℝ)) : ℕ → ℝ :=
  match it.2 with
  | .rotate t => pureBorn n d it.1 t
  | .given tr => fun k => Complex.normSq (C10L.toC (tr k))

/-- target Born distribution of one item of the KL loop (density-matrix target) -/
def tBornMixed (n : ℕ) (d : Char → M2 ℝ) (it : Basis n × TargetSrc (ℕ → ℕ → C ℝ)) : ℕ → ℝ :=
  match it.2 with
  | .rotate T => mixedBorn n d it.1 (matAt n T)
  | .given Tr => fun k => (Tr k k).1

/-- a result is a plain real number: Python `float` or `numpy.float64`, never a tensor -/
def IsNumber {α : Type} (r : Except PyErr (Res α)) : Prop :=
  ∀ x, r = .ok x → x.kind = .pyfloat ∨ x.kind = .npfloat

/-! ## 1. Pure fidelity -/

theorem fidelityPure_eq (N : ℕ) (t ψ : ℕ → C ℝ) (Z : ℝ) :
    fidelityPure N t ψ Z = Complex.normSq (braket N t fun k => ((ψ k).1 / √Z, (ψ k).2 / √Z)) := by
  unfold fidelityPure braket
  rw [absSq_eq, innerProd_eq]
  rfl

theorem braket_div_right (N : ℕ) (t ψ : ℕ → C ℝ) (s : ℝ) :
    braket N t (fun k => ((ψ k).1 / s, (ψ k).2 / s)) = ((s⁻¹ : ℝ) : ℂ) * braket N t ψ := by
  simp only [braket, C10L.toC_div, Finset.mul_sum, mul_left_comm]

theorem braket_div_left (N : ℕ) (t ψ : ℕ → C ℝ) (s : ℝ) :
    braket N (fun k => ((t k).1 / s, (t k).2 / s)) ψ = ((s⁻¹ : ℝ) : ℂ) * braket N t ψ := by
  simp only [braket, C10L.toC_div, map_mul, Complex.conj_ofReal, Finset.mul_sum, mul_assoc]

theorem braket_mul_left (N : ℕ) (u : C ℝ) (t ψ : ℕ → C ℝ) :
    braket N (fun k => C.mul u (t k)) ψ = (starRingEnd ℂ) (C10L.toC u) * braket N t ψ := by
  simp only [braket, C10L.toC_mul, map_mul, Finset.mul_sum, mul_assoc]

theorem braket_self (N : ℕ) (ψ : ℕ → C ℝ) : braket N ψ ψ = ((normSqVec N ψ : ℝ) : ℂ) := by
  simp only [braket, normSqVec, Complex.ofReal_sum, Complex.normSq_eq_conj_mul_self]

/-- **C10.1a** `fidelity = |⟨t|ψ⟩|² / Z` for every target, state vector and `Z > 0`. -/
theorem C10_fid_overlap (N : ℕ) (t ψ : ℕ → C ℝ) (Z : ℝ) (hZ : 0 < Z) :
    fidelityPure N t ψ Z = Complex.normSq (braket N t ψ) / Z := by
  rw [fidelityPure_eq, braket_div_right, Complex.normSq_mul, Complex.normSq_ofReal, ← sq, inv_sqrt_sq hZ.le,
    inv_mul_eq_div]

/-- **C10.1a'** with `Z = ‖ψ‖²` (C01: the normalisation is the sum of the squared moduli) and a normalised
target, the fidelity is the squared overlap of the normalised states. -/
theorem C10_fid_overlap_normalised (N : ℕ) (t ψ : ℕ → C ℝ) (Z : ℝ) (hZ : 0 < Z)
    (hZψ : Z = normSqVec N ψ) (ht : normSqVec N t = 1) :
    fidelityPure N t ψ Z = overlapSq N t ψ := by
  rw [C10_fid_overlap N t ψ Z hZ, overlapSq, ht, one_mul, hZψ]

theorem C10_cauchy_schwarz (N : ℕ) (t ψ : ℕ → C ℝ) :
    Complex.normSq (braket N t ψ) ≤ normSqVec N t * normSqVec N ψ := by
  unfold braket normSqVec
  simp only [Complex.normSq_eq_norm_sq]
  calc ‖∑ k : Fin N, (starRingEnd ℂ) (C10L.toC (t k.val)) * C10L.toC (ψ k.val)‖ ^ 2
      ≤ (∑ k : Fin N, ‖C10L.toC (t k.val)‖ * ‖C10L.toC (ψ k.val)‖) ^ 2 :=  -- triangle inequality
        pow_le_pow_left₀ (norm_nonneg _) ((norm_sum_le _ _).trans_eq
          (Finset.sum_congr rfl fun k _ => by rw [norm_mul, RCLike.norm_conj])) 2
    _ ≤ _ := Finset.sum_mul_sq_le_sq_mul_sq _ _ _  -- Cauchy–Schwarz for the real norms

/-- **C10.1b** the fidelity against a normalised target lies in `[0,1]`. -/
theorem C10_fid_range (N : ℕ) (t ψ : ℕ → C ℝ) (Z : ℝ) (hZ : 0 < Z)
    (hZψ : Z = normSqVec N ψ) (ht : normSqVec N t = 1) :
    0 ≤ fidelityPure N t ψ Z ∧ fidelityPure N t ψ Z ≤ 1 := by
  rw [C10_fid_overlap N t ψ Z hZ]
  refine ⟨div_nonneg (Complex.normSq_nonneg _) hZ.le, ?_⟩
  rw [div_le_one hZ]
  have := C10_cauchy_schwarz N t ψ
  rwa [ht, one_mul, ← hZψ] at this

/-- **C10.1c** the fidelity against the model's own normalised state `ψ/√Z` is 1. -/
theorem C10_fid_self (N : ℕ) (ψ : ℕ → C ℝ) (Z : ℝ) (hZ : 0 < Z) (hZψ : Z = normSqVec N ψ) :
    fidelityPure N (fun k => ((ψ k).1 / √Z, (ψ k).2 / √Z)) ψ Z = 1 := by
  rw [C10_fid_overlap N _ ψ Z hZ, braket_div_left, braket_self, ← hZψ, ← Complex.ofReal_mul, Complex.normSq_ofReal,
    mul_mul_mul_comm, ← sq, inv_sqrt_sq hZ.le]
  field_simp

/-- **C10.1d** multiplying the target by any unit-modulus complex number does not change the fidelity
(no hypothesis on `Z`, `t`, `ψ`). -/
theorem C10_fid_unit_invariant (N : ℕ) (t ψ : ℕ → C ℝ) (Z : ℝ) (u : C ℝ) (hu : u.1 ^ 2 + u.2 ^ 2 = 1) :
    fidelityPure N (fun k => C.mul u (t k)) ψ Z = fidelityPure N t ψ Z := by
  rw [fidelityPure_eq, fidelityPure_eq, braket_mul_left, Complex.normSq_mul, Complex.normSq_conj, normSq_toC, hu, one_mul]

/-- **C10.1d'** global phase `t ↦ e^{iα} t`. -/
theorem C10_fid_phase_invariant (N : ℕ) (t ψ : ℕ → C ℝ) (Z α : ℝ) :
    fidelityPure N (fun k => C.mul (Real.cos α, Real.sin α) (t k)) ψ Z = fidelityPure N t ψ Z :=
  C10_fid_unit_invariant N t ψ Z _ (by simp)

/-- non-vacuity: a non-real normalised target and a non-normalised state with `Z = ‖ψ‖²` -/
example : 0 ≤ fidelityPure 2 (fun k => if k = 0 then ((0 : ℝ), (1 : ℝ)) else (0, 0))
        (fun k => if k = 0 then ((1 : ℝ), (1 : ℝ)) else (2, 0)) (6 : ℝ)
    ∧ fidelityPure 2 (fun k => if k = 0 then ((0 : ℝ), (1 : ℝ)) else (0, 0))
        (fun k => if k = 0 then ((1 : ℝ), (1 : ℝ)) else (2, 0)) (6 : ℝ) ≤ 1 := by
  apply C10_fid_range
  · norm_num
  · simp [normSqVec, Fin.sum_univ_two, normSq_toC]; norm_num
  · simp [normSqVec, Fin.sum_univ_two, normSq_toC]

/-! ## 2. KL divergence -/

theorem klDiv_congr {N : ℕ} {t t' p p' : ℕ → ℝ} (ht : ∀ k, k < N → t k = t' k) (hp : ∀ k, k < N → p k = p' k) :
    klDiv N t p = klDiv N t' p' :=
  Finset.sum_congr rfl fun k _ => by rw [ht k.val k.isLt, hp k.val k.isLt]

theorem C10_logit_one (ε : ℝ) (hε : 0 ≤ ε) : probsToLogits ε (1 : ℝ) = Real.log (1 - ε) := by
  simp only [probsToLogits, clampProbs, transc_min, transc_max, transc_log]
  rw [min_eq_right ((sub_le_self 1 hε).trans (le_max_left 1 ε))]

/-- with the clamp inactive on the MODEL distribution, and every TARGET probability either exactly `0` or inside the
clamp's range, `_single_basis_KL` is the Kullback–Leibler divergence (convention `0 · log 0 = 0` on both sides: the
code evaluates `0 · log(clamp 0) = 0 · log ε = 0`). No positivity of `ε` is needed. -/
theorem C10_kl_single_formula (ε : ℝ) (N : ℕ) (t p : ℕ → ℝ) (ht : TGuard ε N t) (hp : InGuard ε N p) :
    singleBasisKL ε N t p = klDiv N t p := by
  unfold singleBasisKL klDiv
  simp only [sumFin_eq]
  rw [← Finset.sum_sub_distrib]
  refine Finset.sum_congr rfl (fun k _ => ?_)
  rcases ht k.val k.isLt with h0 | hg
  · rw [h0]; ring
  · rw [probsToLogits_of_mem hg.1 hg.2,
      probsToLogits_of_mem (hp k.val k.isLt).1 (hp k.val k.isLt).2]
    ring

/-- the same, target probabilities EXACTLY ONE allowed (a basis state in its own basis): each contributes the clamp's
`log(1 − ε)` in place of `log 1 = 0` — the value is `klDiv + oneCorr`, exactly. -/
theorem C10_kl_single_formula_one (ε : ℝ) (hε : 0 ≤ ε) (N : ℕ) (t p : ℕ → ℝ) (ht : TGuard1 ε N t)
    (hp : InGuard ε N p) :
    singleBasisKL ε N t p = klDiv N t p + oneCorr ε N t := by
  unfold singleBasisKL klDiv oneCorr
  simp only [sumFin_eq]
  rw [← Finset.sum_sub_distrib, ← Finset.sum_add_distrib]
  refine Finset.sum_congr rfl (fun k _ => ?_)
  rcases ht k.val k.isLt with h0 | h1 | hg
  · rw [h0]; simp
  · rw [h1, C10_logit_one ε hε, probsToLogits_of_mem (hp k.val k.isLt).1 (hp k.val k.isLt).2]
    simp only [one_mul, Real.log_one, zero_sub, if_true]
    ring
  · rw [probsToLogits_of_mem hg.1 hg.2,
      probsToLogits_of_mem (hp k.val k.isLt).1 (hp k.val k.isLt).2]
    by_cases h1 : t k.val = 1
    · have hε0 : ε = 0 := le_antisymm (by have := hg.2; rwa [h1, le_sub_self_iff] at this) hε
      rw [if_pos h1, hε0, sub_zero, Real.log_one]; ring
    · rw [if_neg h1]; ring

/-- size of the correction: for a normalised non-negative target at most one probability is `1`, so
`log(1 − ε) ≤ oneCorr ≤ 0`; and `−2ε ≤ log(1 − ε)` for `ε ≤ 1/2` — the value differs from the Kullback–Leibler
divergence by at most `2ε` (`ε = 2⁻⁵²` in the code). -/
theorem C10_oneCorr_bounds (ε : ℝ) (hε0 : 0 ≤ ε) (hε : ε ≤ 1 / 2) (N : ℕ) (t : ℕ → ℝ)
    (ht0 : ∀ k, k < N → 0 ≤ t k) (hsum : ∑ k : Fin N, t k.val = 1) :
    -(2 * ε) ≤ oneCorr ε N t ∧ oneCorr ε N t ≤ 0 := by
  have hpos : (0 : ℝ) < 1 - ε := sub_pos.mpr (hε.trans_lt (by norm_num))
  have hL0 : Real.log (1 - ε) ≤ 0 := Real.log_nonpos hpos.le (sub_le_self 1 hε0)
  -- `log x ≥ 1 − 1/x` at `x = 1 − ε`, and `1/(1 − ε) ≤ 1 + 2ε` because `(1 + 2ε)(1 − ε) = 1 + 2ε(1/2 − ε)`
  have hL : -(2 * ε) ≤ Real.log (1 - ε) := by
    have h2 : (1 - ε)⁻¹ ≤ 1 + 2 * ε := by
      rw [inv_le_iff_one_le_mul₀ hpos, show (1 + 2 * ε) * (1 - ε) = 1 + 2 * (ε * (1 / 2 - ε)) by ring]
      exact le_add_of_nonneg_right (mul_nonneg two_pos.le (mul_nonneg hε0 (sub_nonneg.mpr hε)))
    calc -(2 * ε) = 1 - (1 + 2 * ε) := by ring
      _ ≤ 1 - (1 - ε)⁻¹ := sub_le_sub_left h2 1
      _ ≤ _ := Real.one_sub_inv_le_log_of_pos hpos
  -- `oneCorr = (number of ones) · log(1 − ε)`, and a normalised non-negative vector has at most one `1`
  have hc : oneCorr ε N t = (∑ k : Fin N, if t k.val = 1 then (1 : ℝ) else 0) * Real.log (1 - ε) := by
    simp only [oneCorr, Finset.sum_mul, ite_mul, one_mul, zero_mul]
  have hc0 : 0 ≤ ∑ k : Fin N, if t k.val = 1 then (1 : ℝ) else 0 :=
    Finset.sum_nonneg fun k _ => by split_ifs <;> norm_num
  have hc1 : (∑ k : Fin N, if t k.val = 1 then (1 : ℝ) else 0) ≤ 1 :=
    hsum ▸ Finset.sum_le_sum fun k _ => by
      split_ifs with h
      exacts [h.ge, ht0 k.val k.isLt]
  rw [hc]
  exact ⟨hL.trans ((one_mul _).ge.trans (mul_le_mul_of_nonpos_right hc1 hL0)),
    mul_nonpos_of_nonneg_of_nonpos hc0 hL0⟩

/-- **the distance to the Kullback–Leibler divergence when a target probability is exactly one** (normalised target):
`|_single_basis_KL − klDiv| ≤ 2ε`. -/
theorem C10_kl_single_close (ε : ℝ) (hε0 : 0 ≤ ε) (hε : ε ≤ 1 / 2) (N : ℕ) (t p : ℕ → ℝ) (ht : TGuard1 ε N t)
    (hp : InGuard ε N p) (hsum : ∑ k : Fin N, t k.val = 1) :
    |singleBasisKL ε N t p - klDiv N t p| ≤ 2 * ε := by
  rw [C10_kl_single_formula_one ε hε0 N t p ht hp, add_sub_cancel_left, abs_le]
  have := C10_oneCorr_bounds ε hε0 hε N t (fun k hk => ht.nonneg hε0 k hk) hsum
  exact ⟨this.1, this.2.trans (mul_nonneg two_pos.le hε0)⟩

/-- Gibbs' inequality: the KL divergence (`0 · log 0 = 0`) of a NON-NEGATIVE `t` from a positive `p` with
`Σ p ≤ Σ t` is non-negative -/
theorem C10_gibbs (N : ℕ) (t p : ℕ → ℝ) (ht : ∀ k, k < N → 0 ≤ t k) (hp : ∀ k, k < N → 0 < p k)
    (hsum : ∑ k : Fin N, p k.val ≤ ∑ k : Fin N, t k.val) : 0 ≤ klDiv N t p := by
  have h : ∀ k : Fin N, t k.val - p k.val ≤ t k.val * (Real.log (t k.val) - Real.log (p k.val)) := by
    intro k
    have hpk := hp k.val k.isLt
    rcases (ht k.val k.isLt).eq_or_lt with h0 | htk
    · rw [← h0, zero_mul, zero_sub]; exact neg_nonpos.mpr hpk.le
    -- `log(p/t) ≤ p/t − 1`, times `t > 0`
    have hl := mul_le_mul_of_nonneg_left (Real.log_le_sub_one_of_pos (div_pos hpk htk)) htk.le
    rw [Real.log_div hpk.ne' htk.ne', mul_sub, mul_sub, mul_div_cancel₀ _ htk.ne', mul_one] at hl
    rw [mul_sub]
    exact neg_sub (p k.val) _ ▸ neg_sub (t k.val * Real.log (p k.val)) _ ▸ neg_le_neg hl
  calc (0 : ℝ) ≤ ∑ k : Fin N, (t k.val - p k.val) := by rw [Finset.sum_sub_distrib]; exact sub_nonneg.mpr hsum
    _ ≤ _ := Finset.sum_le_sum fun k _ => h k

theorem C10_point_mass (N : ℕ) (t : ℕ → ℝ) (ht0 : ∀ k, k < N → 0 ≤ t k) (hsum : ∑ k : Fin N, t k.val = 1)
    (k0 : Fin N) (h1 : t k0.val = 1) : ∀ k : Fin N, k ≠ k0 → t k.val = 0 := by
  intro k hk
  have hsplit := Finset.add_sum_erase Finset.univ (fun k : Fin N => t k.val) (Finset.mem_univ k0)
  rw [hsum, h1] at hsplit
  have hz : ∑ x ∈ Finset.univ.erase k0, t x.val = 0 := add_eq_left.mp hsplit
  exact (Finset.sum_eq_zero_iff_of_nonneg fun x _ => ht0 x.val x.isLt).mp hz k
    (Finset.mem_erase.mpr ⟨hk, Finset.mem_univ k⟩)

/-- **C10.2b, one basis** `_single_basis_KL ≥ 0` for every normalised target whose probabilities are `0`, `1` or inside
the clamp's range (basis states, GHZ, W, product states, rank-deficient density matrices included), the model
distribution being inside the clamp's range and normalised. For a point mass at `k₀` the value is
`log(1 − ε) − log p_{k₀} ≥ 0` because `p_{k₀} ≤ 1 − ε`; otherwise Gibbs' inequality. -/
theorem C10_kl_nonneg_single (ε : ℝ) (hε : 0 < ε) (N : ℕ) (t p : ℕ → ℝ) (ht : TGuard1 ε N t) (hp : InGuard ε N p)
    (hsum : ∑ k : Fin N, t k.val = 1 ∧ ∑ k : Fin N, p k.val = 1) : 0 ≤ singleBasisKL ε N t p := by
  have ht0 : ∀ k, k < N → 0 ≤ t k := fun k hk => ht.nonneg hε.le k hk
  by_cases hone : ∃ k0 : Fin N, t k0.val = 1
  · obtain ⟨k0, h1⟩ := hone
    have hz := C10_point_mass N t ht0 hsum.1 k0 h1
    obtain ⟨hp1, hp2⟩ := hp k0.val k0.isLt
    unfold singleBasisKL
    simp only [sumFin_eq]
    rw [Fintype.sum_eq_single k0 fun k hk => by rw [hz k hk, zero_mul],
      Fintype.sum_eq_single k0 fun k hk => by rw [hz k hk, zero_mul], h1, one_mul, one_mul, C10_logit_one ε hε.le,
      probsToLogits_of_mem hp1 hp2, sub_nonneg]
    exact Real.log_le_log (hε.trans_le hp1) hp2
  · have htg : TGuard ε N t := fun k hk =>
      (ht k hk).imp_right fun h => h.resolve_left fun h1 => hone ⟨⟨k, hk⟩, h1⟩
    rw [C10_kl_single_formula ε N t p htg hp]
    exact C10_gibbs N t p ht0 (fun k hk => hε.trans_le (hp k hk).1) (by rw [hsum.1, hsum.2])

/-- the loop `KL = 0.0; KL += …; KL /= float(len)`, `.item()` returns the arithmetic mean as a Python float -/
theorem C10_kl_mean {β : Type} (f : β → ℝ) (items : List β) (h : items ≠ []) :
    klMean f items = .ok ⟨.pyfloat, (items.map f).sum / items.length⟩ := by
  unfold klMean
  simp only [length_beq_zero h, kind_fold_tensor items h, foldl_add_list, zero_add, transc_ofNat]
  rfl

theorem C10_born_target_pure (n : ℕ) (d : Char → M2 ℝ) (it : Basis n × TargetSrc (ℕ → C ℝ)) :
    targetProbsPure n d it.1 it.2 = tBornPure n d it := by
  obtain ⟨b, src⟩ := it
  cases src <;> (funext k; simp [targetProbsPure, tBornPure, pureBorn, absSq_eq])

theorem C10_born_model_pure (n : ℕ) (d : Char → M2 ℝ) (psi : (Fin n → Bool) → C ℝ) (Z : ℝ) (b : Basis n) :
    nnProbsPure n d psi Z b = fun k => pureBorn n d b (vecOf n psi) k / Z := by
  funext k; simp only [nnProbsPure, pureBorn, absSq_eq]; rfl

theorem C10_born_target_mixed (n : ℕ) (d : Char → M2 ℝ) (it : Basis n × TargetSrc (ℕ → ℕ → C ℝ)) :
    targetProbsMixed n d it.1 it.2 = tBornMixed n d it := by
  obtain ⟨b, src⟩ := it
  cases src <;> rfl

theorem C10_kl_resolve_once {V : Type} {n : ℕ} (t : V) (bases : List (Basis n)) :
    resolve (.once t) (some bases) = .ok (.list (bases.map (fun b => (b, TargetSrc.rotate t)))) := rfl

theorem C10_kl_resolve_once_none {V : Type} {n : ℕ} (t : V) :
    resolve (Target.once t : Target V n) none = .ok (.noBases t) := rfl

theorem C10_kl_value (ε : ℝ) (n : ℕ) (d : Char → M2 ℝ) (psi : (Fin n → Bool) → C ℝ)
    (prob : (Fin n → Bool) → ℝ) (Z : ℝ) (target : Target (ℕ → C ℝ) n) (bases : Option (List (Basis n)))
    (items : List (Basis n × TargetSrc (ℕ → C ℝ)))
    (hres : resolve target bases = .ok (.list items)) (hne : items ≠ []) :
    klPure ε n (some d) psi prob Z target bases
      = .ok ⟨.pyfloat, (items.map (fun it => singleBasisKL ε (2 ^ n) (tBornPure n d it)
          (fun k => pureBorn n d it.1 (vecOf n psi) k / Z))).sum / items.length⟩ := by
  unfold klPure
  simp only [effDict_some, hres, bind, Except.bind]
  rw [C10_kl_mean _ _ hne]
  simp only [C10_born_target_pure, C10_born_model_pure]

theorem C10_kl_value_mixed (ε : ℝ) (n : ℕ) (d : Char → M2 ℝ) (rho : (Fin n → Bool) → (Fin n → Bool) → C ℝ)
    (prob : (Fin n → Bool) → ℝ) (Z : ℝ) (target : Target (ℕ → ℕ → C ℝ) n) (bases : Option (List (Basis n)))
    (items : List (Basis n × TargetSrc (ℕ → ℕ → C ℝ)))
    (hres : resolve target bases = .ok (.list items)) (hne : items ≠ []) :
    klMixed ε n d rho prob Z target bases
      = .ok ⟨.pyfloat, (items.map (fun it => singleBasisKL ε (2 ^ n) (tBornMixed n d it)
          (fun k => mixedBorn n d it.1 rho k / Z))).sum / items.length⟩ := by
  unfold klMixed
  simp only [hres, bind, Except.bind]
  rw [C10_kl_mean _ _ hne]
  simp only [C10_born_target_mixed]
  rfl

theorem C10_kl_value_none (ε : ℝ) (n : ℕ) (d : Option (Char → M2 ℝ)) (psi : (Fin n → Bool) → C ℝ)
    (prob : (Fin n → Bool) → ℝ) (Z : ℝ) (t : ℕ → C ℝ) :
    klPure ε n d psi prob Z (.once t) none
      = .ok ⟨.pyfloat, singleBasisKL ε (2 ^ n) (fun k => Complex.normSq (C10L.toC (t k))) (fun k => prob (row n k))⟩ := by
  unfold klPure
  simp only [C10_kl_resolve_once_none, bind, Except.bind, klNone]
  have : (fun k => absSq (t k)) = fun k => Complex.normSq (C10L.toC (t k)) := by funext k; exact absSq_eq _
  rw [this, zero_add]
  rfl

theorem C10_kl_value_mixed_none (ε : ℝ) (n : ℕ) (d : Char → M2 ℝ) (rho : (Fin n → Bool) → (Fin n → Bool) → C ℝ)
    (prob : (Fin n → Bool) → ℝ) (Z : ℝ) (T : ℕ → ℕ → C ℝ) :
    klMixed ε n d rho prob Z (.once T) none
      = .ok ⟨.pyfloat, singleBasisKL ε (2 ^ n) (fun k => (T k k).1) (fun k => prob (row n k))⟩ := by
  unfold klMixed
  simp only [C10_kl_resolve_once_none, bind, Except.bind, klNone]
  rw [zero_add]
  rfl

/-- **C10.2a (wavefunction, bases given or dict target)** whenever the clamp is inactive on the MODEL's Born
distributions and every TARGET Born probability is exactly `0` or inside the clamp's range (`TGuard`: basis states in a
rotated basis, GHZ, W, product states … are covered), `KL` is the mean over the items `resolve` produced (the requested
bases, repeated bases counted as often as they are listed) of the Kullback–Leibler divergence between the target's and
the model's Born distributions, as a Python float. -/
theorem C10_kl_formula (ε : ℝ) (n : ℕ) (d : Char → M2 ℝ) (psi : (Fin n → Bool) → C ℝ)
    (prob : (Fin n → Bool) → ℝ) (Z : ℝ) (target : Target (ℕ → C ℝ) n) (bases : Option (List (Basis n)))
    (items : List (Basis n × TargetSrc (ℕ → C ℝ)))
    (hres : resolve target bases = .ok (.list items)) (hne : items ≠ [])
    (hguard : ∀ it ∈ items, TGuard ε (2 ^ n) (tBornPure n d it)
        ∧ InGuard ε (2 ^ n) (fun k => pureBorn n d it.1 (vecOf n psi) k / Z)) :
    klPure ε n (some d) psi prob Z target bases
      = .ok ⟨.pyfloat, (items.map (fun it =>
          klDiv (2 ^ n) (tBornPure n d it) (fun k => pureBorn n d it.1 (vecOf n psi) k / Z))).sum / items.length⟩ := by
  rw [C10_kl_value ε n d psi prob Z target bases items hres hne]
  rw [List.map_congr_left (fun it hit => C10_kl_single_formula ε _ _ _ (hguard it hit).1 (hguard it hit).2)]

/-- **C10.2a, target probabilities exactly one allowed** (`TGuard1`, `ε ≥ 0`: a basis-state target with its own basis
in the list): each item's value is `klDiv + oneCorr`, `−2ε ≤ oneCorr ≤ 0` (`C10_oneCorr_bounds`). -/
theorem C10_kl_formula_one (ε : ℝ) (hε : 0 ≤ ε) (n : ℕ) (d : Char → M2 ℝ) (psi : (Fin n → Bool) → C ℝ)
    (prob : (Fin n → Bool) → ℝ) (Z : ℝ) (target : Target (ℕ → C ℝ) n) (bases : Option (List (Basis n)))
    (items : List (Basis n × TargetSrc (ℕ → C ℝ)))
    (hres : resolve target bases = .ok (.list items)) (hne : items ≠ [])
    (hguard : ∀ it ∈ items, TGuard1 ε (2 ^ n) (tBornPure n d it)
        ∧ InGuard ε (2 ^ n) (fun k => pureBorn n d it.1 (vecOf n psi) k / Z)) :
    klPure ε n (some d) psi prob Z target bases
      = .ok ⟨.pyfloat, (items.map (fun it =>
          klDiv (2 ^ n) (tBornPure n d it) (fun k => pureBorn n d it.1 (vecOf n psi) k / Z)
            + oneCorr ε (2 ^ n) (tBornPure n d it))).sum / items.length⟩ := by
  rw [C10_kl_value ε n d psi prob Z target bases items hres hne]
  rw [List.map_congr_left (fun it hit => C10_kl_single_formula_one ε hε _ _ _ (hguard it hit).1 (hguard it hit).2)]

/-- **C10.2a (wavefunction, `bases=None`)**: the KL divergence between `|target|²` and `probability(space, Z)`. -/
theorem C10_kl_formula_none (ε : ℝ) (n : ℕ) (d : Option (Char → M2 ℝ)) (psi : (Fin n → Bool) → C ℝ)
    (prob : (Fin n → Bool) → ℝ) (Z : ℝ) (t : ℕ → C ℝ)
    (hg1 : TGuard ε (2 ^ n) (fun k => Complex.normSq (C10L.toC (t k))))
    (hg2 : InGuard ε (2 ^ n) (fun k => prob (row n k))) :
    klPure ε n d psi prob Z (.once t) none
      = .ok ⟨.pyfloat, klDiv (2 ^ n) (fun k => Complex.normSq (C10L.toC (t k))) (fun k => prob (row n k))⟩ := by
  rw [C10_kl_value_none, C10_kl_single_formula ε _ _ _ hg1 hg2]

/-- `bases=None` with a target probability exactly one (a computational-basis state as target) -/
theorem C10_kl_formula_none_one (ε : ℝ) (hε : 0 ≤ ε) (n : ℕ) (d : Option (Char → M2 ℝ))
    (psi : (Fin n → Bool) → C ℝ) (prob : (Fin n → Bool) → ℝ) (Z : ℝ) (t : ℕ → C ℝ)
    (hg1 : TGuard1 ε (2 ^ n) (fun k => Complex.normSq (C10L.toC (t k))))
    (hg2 : InGuard ε (2 ^ n) (fun k => prob (row n k))) :
    klPure ε n d psi prob Z (.once t) none
      = .ok ⟨.pyfloat, klDiv (2 ^ n) (fun k => Complex.normSq (C10L.toC (t k))) (fun k => prob (row n k))
          + oneCorr ε (2 ^ n) (fun k => Complex.normSq (C10L.toC (t k)))⟩ := by
  rw [C10_kl_value_none, C10_kl_single_formula_one ε hε _ _ _ hg1 hg2]

/-- **C10.2a (density matrix, bases given or dict target)** -/
theorem C10_kl_formula_mixed (ε : ℝ) (n : ℕ) (d : Char → M2 ℝ) (rho : (Fin n → Bool) → (Fin n → Bool) → C ℝ)
    (prob : (Fin n → Bool) → ℝ) (Z : ℝ) (target : Target (ℕ → ℕ → C ℝ) n) (bases : Option (List (Basis n)))
    (items : List (Basis n × TargetSrc (ℕ → ℕ → C ℝ)))
    (hres : resolve target bases = .ok (.list items)) (hne : items ≠ [])
    (hguard : ∀ it ∈ items, TGuard ε (2 ^ n) (tBornMixed n d it)
        ∧ InGuard ε (2 ^ n) (fun k => mixedBorn n d it.1 rho k / Z)) :
    klMixed ε n d rho prob Z target bases
      = .ok ⟨.pyfloat, (items.map (fun it =>
          klDiv (2 ^ n) (tBornMixed n d it) (fun k => mixedBorn n d it.1 rho k / Z))).sum / items.length⟩ := by
  rw [C10_kl_value_mixed ε n d rho prob Z target bases items hres hne]
  rw [List.map_congr_left (fun it hit => C10_kl_single_formula ε _ _ _ (hguard it hit).1 (hguard it hit).2)]

theorem C10_kl_formula_mixed_one (ε : ℝ) (hε : 0 ≤ ε) (n : ℕ) (d : Char → M2 ℝ)
    (rho : (Fin n → Bool) → (Fin n → Bool) → C ℝ)
    (prob : (Fin n → Bool) → ℝ) (Z : ℝ) (target : Target (ℕ → ℕ → C ℝ) n) (bases : Option (List (Basis n)))
    (items : List (Basis n × TargetSrc (ℕ → ℕ → C ℝ)))
    (hres : resolve target bases = .ok (.list items)) (hne : items ≠ [])
    (hguard : ∀ it ∈ items, TGuard1 ε (2 ^ n) (tBornMixed n d it)
        ∧ InGuard ε (2 ^ n) (fun k => mixedBorn n d it.1 rho k / Z)) :
    klMixed ε n d rho prob Z target bases
      = .ok ⟨.pyfloat, (items.map (fun it =>
          klDiv (2 ^ n) (tBornMixed n d it) (fun k => mixedBorn n d it.1 rho k / Z)
            + oneCorr ε (2 ^ n) (tBornMixed n d it))).sum / items.length⟩ := by
  rw [C10_kl_value_mixed ε n d rho prob Z target bases items hres hne]
  rw [List.map_congr_left (fun it hit => C10_kl_single_formula_one ε hε _ _ _ (hguard it hit).1 (hguard it hit).2)]

/-- **C10.2a (density matrix, `bases=None`)**: the target's real DIAGONAL against `probability(space, Z)`. -/
theorem C10_kl_formula_mixed_none (ε : ℝ) (n : ℕ) (d : Char → M2 ℝ) (rho : (Fin n → Bool) → (Fin n → Bool) → C ℝ)
    (prob : (Fin n → Bool) → ℝ) (Z : ℝ) (T : ℕ → ℕ → C ℝ)
    (hg1 : TGuard ε (2 ^ n) (fun k => (T k k).1)) (hg2 : InGuard ε (2 ^ n) (fun k => prob (row n k))) :
    klMixed ε n d rho prob Z (.once T) none
      = .ok ⟨.pyfloat, klDiv (2 ^ n) (fun k => (T k k).1) (fun k => prob (row n k))⟩ := by
  rw [C10_kl_value_mixed_none, C10_kl_single_formula ε _ _ _ hg1 hg2]

theorem C10_kl_formula_mixed_none_one (ε : ℝ) (hε : 0 ≤ ε) (n : ℕ) (d : Char → M2 ℝ)
    (rho : (Fin n → Bool) → (Fin n → Bool) → C ℝ)
    (prob : (Fin n → Bool) → ℝ) (Z : ℝ) (T : ℕ → ℕ → C ℝ)
    (hg1 : TGuard1 ε (2 ^ n) (fun k => (T k k).1)) (hg2 : InGuard ε (2 ^ n) (fun k => prob (row n k))) :
    klMixed ε n d rho prob Z (.once T) none
      = .ok ⟨.pyfloat, klDiv (2 ^ n) (fun k => (T k k).1) (fun k => prob (row n k))
          + oneCorr ε (2 ^ n) (fun k => (T k k).1)⟩ := by
  rw [C10_kl_value_mixed_none, C10_kl_single_formula_one ε hε _ _ _ hg1 hg2]

/-- **C10.2b (wavefunction)** `KL ≥ 0` whenever (`ε > 0`) the MODEL's Born distributions are inside the clamp's range and
every TARGET Born probability is `0`, `1` or inside it — basis states (in their own and in rotated bases), GHZ, W,
product states included — both distributions being normalised in every requested basis (`C10_kl_nonneg_rbm` discharges
the normalisation for the RBM states with C04_psi_probs_sum and C01). -/
theorem C10_kl_nonneg (ε : ℝ) (hε : 0 < ε) (n : ℕ) (d : Char → M2 ℝ) (psi : (Fin n → Bool) → C ℝ)
    (prob : (Fin n → Bool) → ℝ) (Z : ℝ) (target : Target (ℕ → C ℝ) n) (bases : Option (List (Basis n)))
    (items : List (Basis n × TargetSrc (ℕ → C ℝ)))
    (hres : resolve target bases = .ok (.list items)) (hne : items ≠ [])
    (hguard : ∀ it ∈ items, TGuard1 ε (2 ^ n) (tBornPure n d it)
        ∧ InGuard ε (2 ^ n) (fun k => pureBorn n d it.1 (vecOf n psi) k / Z))
    (hnorm : ∀ it ∈ items, ∑ k : Fin (2 ^ n), tBornPure n d it k.val = 1
        ∧ ∑ k : Fin (2 ^ n), pureBorn n d it.1 (vecOf n psi) k.val / Z = 1) :
    ∃ v, klPure ε n (some d) psi prob Z target bases = .ok ⟨.pyfloat, v⟩ ∧ 0 ≤ v := by
  refine ⟨_, C10_kl_value ε n d psi prob Z target bases items hres hne, ?_⟩
  exact list_sum_div_nonneg items _ (fun it hit =>
    C10_kl_nonneg_single ε hε _ _ _ (hguard it hit).1 (hguard it hit).2 (hnorm it hit))

/-- **C10.2b (wavefunction, `bases=None`)** -/
theorem C10_kl_nonneg_none (ε : ℝ) (hε : 0 < ε) (n : ℕ) (d : Option (Char → M2 ℝ)) (psi : (Fin n → Bool) → C ℝ)
    (prob : (Fin n → Bool) → ℝ) (Z : ℝ) (t : ℕ → C ℝ)
    (hg1 : TGuard1 ε (2 ^ n) (fun k => Complex.normSq (C10L.toC (t k))))
    (hg2 : InGuard ε (2 ^ n) (fun k => prob (row n k)))
    (hnorm : ∑ k : Fin (2 ^ n), Complex.normSq (C10L.toC (t k.val)) = 1 ∧ ∑ k : Fin (2 ^ n), prob (row n k.val) = 1) :
    ∃ v, klPure ε n d psi prob Z (.once t) none = .ok ⟨.pyfloat, v⟩ ∧ 0 ≤ v :=
  ⟨_, C10_kl_value_none ε n d psi prob Z t, C10_kl_nonneg_single ε hε _ _ _ hg1 hg2 hnorm⟩

/-- **C10.2b (density matrix)** rank-deficient targets (pure states, low-rank mixtures: zero Born probabilities) included -/
theorem C10_kl_nonneg_mixed (ε : ℝ) (hε : 0 < ε) (n : ℕ) (d : Char → M2 ℝ)
    (rho : (Fin n → Bool) → (Fin n → Bool) → C ℝ)
    (prob : (Fin n → Bool) → ℝ) (Z : ℝ) (target : Target (ℕ → ℕ → C ℝ) n) (bases : Option (List (Basis n)))
    (items : List (Basis n × TargetSrc (ℕ → ℕ → C ℝ)))
    (hres : resolve target bases = .ok (.list items)) (hne : items ≠ [])
    (hguard : ∀ it ∈ items, TGuard1 ε (2 ^ n) (tBornMixed n d it)
        ∧ InGuard ε (2 ^ n) (fun k => mixedBorn n d it.1 rho k / Z))
    (hnorm : ∀ it ∈ items, ∑ k : Fin (2 ^ n), tBornMixed n d it k.val = 1
        ∧ ∑ k : Fin (2 ^ n), mixedBorn n d it.1 rho k.val / Z = 1) :
    ∃ v, klMixed ε n d rho prob Z target bases = .ok ⟨.pyfloat, v⟩ ∧ 0 ≤ v := by
  refine ⟨_, C10_kl_value_mixed ε n d rho prob Z target bases items hres hne, ?_⟩
  exact list_sum_div_nonneg items _ (fun it hit =>
    C10_kl_nonneg_single ε hε _ _ _ (hguard it hit).1 (hguard it hit).2 (hnorm it hit))

/-- **C10.2b (density matrix, `bases=None`)** -/
theorem C10_kl_nonneg_mixed_none (ε : ℝ) (hε : 0 < ε) (n : ℕ) (d : Char → M2 ℝ)
    (rho : (Fin n → Bool) → (Fin n → Bool) → C ℝ) (prob : (Fin n → Bool) → ℝ) (Z : ℝ) (T : ℕ → ℕ → C ℝ)
    (hg1 : TGuard1 ε (2 ^ n) (fun k => (T k k).1)) (hg2 : InGuard ε (2 ^ n) (fun k => prob (row n k)))
    (hnorm : ∑ k : Fin (2 ^ n), (T k.val k.val).1 = 1 ∧ ∑ k : Fin (2 ^ n), prob (row n k.val) = 1) :
    ∃ v, klMixed ε n d rho prob Z (.once T) none = .ok ⟨.pyfloat, v⟩ ∧ 0 ≤ v :=
  ⟨_, C10_kl_value_mixed_none ε n d rho prob Z T, C10_kl_nonneg_single ε hε _ _ _ hg1 hg2 hnorm⟩

/-- non-vacuity of the guard: two different distributions inside `[2⁻⁵², 1 − 2⁻⁵²]`, summing to one -/
example : 0 ≤ singleBasisKL ((2 : ℝ)⁻¹ ^ 52) 2 (fun k => if k = 0 then 1 / 4 else 3 / 4) (fun _ => 1 / 2) := by
  refine C10_kl_nonneg_single _ eps52_pos _ _ _ (InGuard.tguard fun k _ => mem52 ?_).tguard1
    (fun _ _ => mem52 (by norm_num)) (by norm_num [Fin.sum_univ_two])
  split_ifs <;> norm_num

/-- non-vacuity with ZERO and ONE target probabilities, `ε = 2⁻⁵²`:
a GHZ-like target `(1/2, 0, 0, 1/2)` against the uniform distribution — the value is the Kullback–Leibler divergence and
non-negative; a basis state `(1, 0)` against `(1/2, 1/2)` — non-negative, and within `2ε` of the divergence. -/
example : singleBasisKL ((2 : ℝ)⁻¹ ^ 52) 4 (fun k => if k = 0 ∨ k = 3 then 1 / 2 else 0) (fun _ => 1 / 4)
      = klDiv 4 (fun k => if k = 0 ∨ k = 3 then 1 / 2 else 0) (fun _ => 1 / 4)
    ∧ 0 ≤ singleBasisKL ((2 : ℝ)⁻¹ ^ 52) 4 (fun k => if k = 0 ∨ k = 3 then 1 / 2 else 0) (fun _ => 1 / 4)
    ∧ 0 ≤ singleBasisKL ((2 : ℝ)⁻¹ ^ 52) 2 (fun k => if k = 0 then 1 else 0) (fun _ => 1 / 2)
    ∧ |singleBasisKL ((2 : ℝ)⁻¹ ^ 52) 2 (fun k => if k = 0 then 1 else 0) (fun _ => 1 / 2)
        - klDiv 2 (fun k => if k = 0 then 1 else 0) (fun _ => 1 / 2)| ≤ 2 * (2 : ℝ)⁻¹ ^ 52 := by
  have hg4 : TGuard ((2 : ℝ)⁻¹ ^ 52) 4 (fun k => if k = 0 ∨ k = 3 then 1 / 2 else 0) := fun k _ => by
    beta_reduce
    split_ifs
    · exact Or.inr (mem52 (by norm_num))
    · exact Or.inl rfl
  have hp4 : InGuard ((2 : ℝ)⁻¹ ^ 52) 4 (fun _ => 1 / 4) := fun _ _ => mem52 (by norm_num)
  have hg2 : TGuard1 ((2 : ℝ)⁻¹ ^ 52) 2 (fun k => if k = 0 then 1 else 0) := fun k _ => by
    beta_reduce
    split_ifs
    · exact Or.inr (Or.inl rfl)
    · exact Or.inl rfl
  have hp2 : InGuard ((2 : ℝ)⁻¹ ^ 52) 2 (fun _ => 1 / 2) := fun _ _ => mem52 (by norm_num)
  refine ⟨C10_kl_single_formula _ _ _ _ hg4 hp4, ?_, ?_, ?_⟩
  · exact C10_kl_nonneg_single _ eps52_pos _ _ _ hg4.tguard1 hp4 (by simp [Fin.sum_univ_four]; norm_num)
  · exact C10_kl_nonneg_single _ eps52_pos _ _ _ hg2 hp2 (by norm_num [Fin.sum_univ_two])
  · exact C10_kl_single_close _ eps52_pos.le (eps52_le.trans (by norm_num)) _ _ _ hg2 hp2 (by norm_num [Fin.sum_univ_two])

/-- the one-site instance of the non-vacuity examples (`exDict`, `exBasis`, `exTarget`, `exPsi` with `Z = 1`): the Born
distributions `(16/25, 9/25)` and `(9/25, 16/25)` are inside the guard at `ε = 2⁻⁵²` -/
theorem ex_guard : InGuard ((2 : ℝ)⁻¹ ^ 52) 2 (pureBorn 1 exDict exBasis exTarget)
    ∧ InGuard ((2 : ℝ)⁻¹ ^ 52) 2 (fun k => pureBorn 1 exDict exBasis (vecOf 1 exPsi) k / 1) := by
  refine ⟨fun k hk => mem52 ?_, fun k hk => mem52 ?_⟩
  · simp only [pureBorn]
    rw [ex_rot_target k hk]
    split_ifs <;> norm_num
  · simp only [pureBorn, div_one]
    rw [show vecOf 1 exPsi = fun k' => exPsi (row 1 k') from rfl, ex_rot_psi k hk]
    split_ifs <;> norm_num

/-- non-vacuity of `C10_kl_formula` / `C10_kl_nonneg` at the top level: one site, basis `X` rotated by a rational
orthogonal matrix, state `ψ = (1,0)` (`Z = 1`), NON-REAL target `t = (0, i)`: Born distributions `(16/25, 9/25)` vs
`(9/25, 16/25)` — inside the guard, normalised, different. -/
example : ∃ v, klPure ((2 : ℝ)⁻¹ ^ 52) 1 (some exDict) exPsi (fun _ => 0) 1 (.once exTarget) (some [exBasis])
    = .ok ⟨.pyfloat, v⟩ ∧ 0 ≤ v := by
  refine C10_kl_nonneg _ eps52_pos 1 exDict exPsi _ 1 _ _ _ (C10_kl_resolve_once _ _) (by simp)
    (List.forall_mem_singleton.mpr ⟨ex_guard.1.tguard.tguard1, ex_guard.2⟩) (List.forall_mem_singleton.mpr ⟨?_, ?_⟩)
  · show ∑ k : Fin 2, Complex.normSq (C10L.toC (Unitaries.rotatePsi 1 (usOf exDict exBasis) exTarget k.val)) = 1
    rw [Fin.sum_univ_two, ex_rot_target _ (by simp), ex_rot_target _ (by simp)]; norm_num
  · show ∑ k : Fin 2, Complex.normSq (C10L.toC (Unitaries.rotatePsi 1 (usOf exDict exBasis)
        (fun k' => exPsi (row 1 k')) k.val)) / 1 = 1
    rw [Fin.sum_univ_two, ex_rot_psi _ (by simp), ex_rot_psi _ (by simp)]; norm_num

/-- the own normalised state as a KL item (wavefunction): the single target is `ψ/√Z` over `space`, a dict entry
is the model's rotated state divided by `√Z` -/
def OwnPure (n : ℕ) (d : Char → M2 ℝ) (psi : (Fin n → Bool) → C ℝ) (Z : ℝ)
    (it : Basis n × TargetSrc (ℕ → C ℝ)) : Prop :=
  match it.2 with
  | .rotate t => ∀ k, t k = ((vecOf n psi k).1 / √Z, (vecOf n psi k).2 / √Z)
  | .given tr => ∀ k, k < 2 ^ n → tr k = ((Unitaries.rotatePsi n (usOf d it.1) (vecOf n psi) k).1 / √Z,
                                            (Unitaries.rotatePsi n (usOf d it.1) (vecOf n psi) k).2 / √Z)

/-- the own normalised state as a KL item (density matrix): the single target is `ρ/Z` over `space × space`, a dict
entry has the model's rotated probabilities `/Z` on its real diagonal -/
def OwnMixed (n : ℕ) (d : Char → M2 ℝ) (rho : (Fin n → Bool) → (Fin n → Bool) → C ℝ) (Z : ℝ)
    (it : Basis n × TargetSrc (ℕ → ℕ → C ℝ)) : Prop :=
  match it.2 with
  | .rotate T => ∀ i j, i < 2 ^ n → j < 2 ^ n → T i j = ((rho (row n i) (row n j)).1 / Z, (rho (row n i) (row n j)).2 / Z)
  | .given Tr => ∀ k, k < 2 ^ n → (Tr k k).1 = mixedBorn n d it.1 rho k / Z

/-- an own item has the model's Born distribution (homogeneity of the `_kron_mult` sweep, `rotatePsi_smul`) -/
theorem OwnPure.born {n : ℕ} {d : Char → M2 ℝ} {psi : (Fin n → Bool) → C ℝ} {Z : ℝ} (hZ : 0 ≤ Z)
    {it : Basis n × TargetSrc (ℕ → C ℝ)} (h : OwnPure n d psi Z it) (k : ℕ) (hk : k < 2 ^ n) :
    tBornPure n d it k = pureBorn n d it.1 (vecOf n psi) k / Z := by
  obtain ⟨b, src⟩ := it
  cases src with
  | rotate t =>
    have ht : t = fun k => ((vecOf n psi k).1 / √Z, (vecOf n psi k).2 / √Z) := funext h
    simp only [tBornPure, pureBorn, ht, rotatePsi_div, normSq_toC_div_sqrt hZ]
  | given tr => simp only [tBornPure, pureBorn, h k hk, normSq_toC_div_sqrt hZ]

/-- the same for a density matrix (homogeneity of `rotate_rho_probs` in `ρ`; `_convert_basis_element_to_index` inverts
the rows of `space`) -/
theorem OwnMixed.born {n : ℕ} {d : Char → M2 ℝ} {rho : (Fin n → Bool) → (Fin n → Bool) → C ℝ} {Z : ℝ}
    {it : Basis n × TargetSrc (ℕ → ℕ → C ℝ)} (h : OwnMixed n d rho Z it) (k : ℕ) (hk : k < 2 ^ n) :
    tBornMixed n d it k = mixedBorn n d it.1 rho k / Z := by
  obtain ⟨b, src⟩ := it
  cases src with
  | rotate T =>
    have hT : matAt n T = fun σ σ' => C.smul Z⁻¹ (rho σ σ') := by
      funext σ σ'
      rw [matAt, h _ _ (basisIndex_lt σ) (basisIndex_lt σ'), row_basisIndex, row_basisIndex, div_eq_smul_inv]
    simp only [tBornMixed, mixedBorn, hT, rotateRhoProbs_smul, inv_mul_eq_div]
  | given Tr => exact h k hk

/-- **C10.2c (wavefunction, every list of bases / dict)** WITHOUT any guard: against the model's own normalised
state the KL divergence is exactly `0` in every basis, hence so is the mean. -/
theorem C10_kl_self_zero (ε : ℝ) (n : ℕ) (d : Char → M2 ℝ) (psi : (Fin n → Bool) → C ℝ)
    (prob : (Fin n → Bool) → ℝ) (Z : ℝ) (hZ : 0 ≤ Z) (target : Target (ℕ → C ℝ) n)
    (bases : Option (List (Basis n))) (items : List (Basis n × TargetSrc (ℕ → C ℝ)))
    (hres : resolve target bases = .ok (.list items)) (hne : items ≠ [])
    (hown : ∀ it ∈ items, OwnPure n d psi Z it) :
    klPure ε n (some d) psi prob Z target bases = .ok ⟨.pyfloat, 0⟩ := by
  rw [C10_kl_value ε n d psi prob Z target bases items hres hne,
    List.map_congr_left fun it hit => singleBasisKL_of_eq ε _ _ _ ((hown it hit).born hZ)]
  simp

/-- **C10.2c (wavefunction, `bases=None`)**: needs only the Born rule of the state, `probability(σ, Z) = |ψ(σ)|²/Z`
(C01_normSq_psi_positive / _complex). -/
theorem C10_kl_self_zero_none (ε : ℝ) (n : ℕ) (d : Option (Char → M2 ℝ)) (psi : (Fin n → Bool) → C ℝ)
    (prob : (Fin n → Bool) → ℝ) (Z : ℝ) (hZ : 0 ≤ Z)
    (hborn : ∀ σ, prob σ = ((psi σ).1 ^ 2 + (psi σ).2 ^ 2) / Z) :
    klPure ε n d psi prob Z (.once (fun k => ((vecOf n psi k).1 / √Z, (vecOf n psi k).2 / √Z))) none
      = .ok ⟨.pyfloat, 0⟩ := by
  rw [C10_kl_value_none, singleBasisKL_of_eq]
  intro k _
  rw [normSq_toC_div_sqrt hZ, normSq_toC, hborn]
  rfl

/-- **C10.2c (density matrix, every list of bases / dict)** without guard. -/
theorem C10_kl_self_zero_mixed (ε : ℝ) (n : ℕ) (d : Char → M2 ℝ) (rho : (Fin n → Bool) → (Fin n → Bool) → C ℝ)
    (prob : (Fin n → Bool) → ℝ) (Z : ℝ) (target : Target (ℕ → ℕ → C ℝ) n)
    (bases : Option (List (Basis n))) (items : List (Basis n × TargetSrc (ℕ → ℕ → C ℝ)))
    (hres : resolve target bases = .ok (.list items)) (hne : items ≠ [])
    (hown : ∀ it ∈ items, OwnMixed n d rho Z it) :
    klMixed ε n d rho prob Z target bases = .ok ⟨.pyfloat, 0⟩ := by
  rw [C10_kl_value_mixed ε n d rho prob Z target bases items hres hne,
    List.map_congr_left fun it hit => singleBasisKL_of_eq ε _ _ _ (hown it hit).born]
  simp

/-- **C10.2c (density matrix, `bases=None`)**: needs only `probability(σ, Z) = Re ρ(σ,σ)/Z` (C02_diagonal). -/
theorem C10_kl_self_zero_mixed_none (ε : ℝ) (n : ℕ) (d : Char → M2 ℝ) (rho : (Fin n → Bool) → (Fin n → Bool) → C ℝ)
    (prob : (Fin n → Bool) → ℝ) (Z : ℝ) (hdiag : ∀ σ, prob σ = (rho σ σ).1 / Z) :
    klMixed ε n d rho prob Z
        (.once (fun i j => ((rho (row n i) (row n j)).1 / Z, (rho (row n i) (row n j)).2 / Z))) none
      = .ok ⟨.pyfloat, 0⟩ := by
  rw [C10_kl_value_mixed_none, singleBasisKL_of_eq]
  exact fun k _ => (hdiag _).symm

/-- the hypotheses of the self-KL theorems are satisfiable by the obvious targets: a single own target with any
non-empty list of bases -/
example (n : ℕ) (d : Char → M2 ℝ) (psi : (Fin n → Bool) → C ℝ) (Z : ℝ) (b : Basis n) (bs : List (Basis n)) :
    ∀ it ∈ (b :: bs).map (fun b => (b, TargetSrc.rotate
        (fun k => ((vecOf n psi k).1 / √Z, (vecOf n psi k).2 / √Z)))), OwnPure n d psi Z it :=
  List.forall_mem_map.mpr fun _ _ _ => rfl

/-- **C10.2c, the own normalised state `ψ/√Z` as single target over any non-empty list of bases**, any dictionary -/
theorem kl_self_zero_once (ε : ℝ) (n : ℕ) (d : Char → M2 ℝ) (psi : (Fin n → Bool) → C ℝ)
    (prob : (Fin n → Bool) → ℝ) (Z : ℝ) (hZ : 0 ≤ Z) (b : Basis n) (bs : List (Basis n)) :
    klPure ε n (some d) psi prob Z (.once (fun k => ((vecOf n psi k).1 / √Z, (vecOf n psi k).2 / √Z)))
      (some (b :: bs)) = .ok ⟨.pyfloat, 0⟩ :=
  C10_kl_self_zero ε n d psi prob Z hZ _ _ _ (C10_kl_resolve_once _ _) (by simp)
    (List.forall_mem_map.mpr fun _ _ _ => rfl)

/-! ## 3. NLL -/

/-- The grouping by `np.unique` disappears: the keys `uniqueSorted` produces are duplicate-free and cover the samples
(`uniqueSorted_nodup`, `mem_uniqueSorted`), so the per-group sums add up to the sum over all samples (`sum_groups`). -/
theorem C10_nll_grouped (ε : ℝ) {n : ℕ} (p : Basis n → (Fin n → Bool) → ℝ)
    (samples : List (Basis n × (Fin n → Bool))) (hne : samples ≠ []) :
    nllBases ε p samples
      = .ok ⟨.pyfloat, -((samples.map (fun s => Real.log (clampProbs ε (p s.1 s.2)))).sum) / samples.length⟩ := by
  unfold nllBases
  obtain ⟨x, hx⟩ := List.exists_mem_of_ne_nil _ hne
  have hkeys : uniqueSorted (samples.map (·.1)) ≠ [] :=
    List.ne_nil_of_mem ((mem_uniqueSorted _ _).mpr (List.mem_map_of_mem hx))
  simp only [length_beq_zero hne, kind_fold_tensor _ hkeys, foldl_sub_list, zero_sub, transc_ofNat, sumList_eq, beq_eq_decide]
  have hg := sum_groups (fun key σ => probsToLogits ε (p key σ)) (uniqueSorted (samples.map (·.1)))
    (uniqueSorted_nodup _) samples (fun s hs => (mem_uniqueSorted _ _).mpr (List.mem_map.mpr ⟨s, hs, rfl⟩))
  rw [hg]
  rfl

theorem nllBases_zip (ε : ℝ) {n : ℕ} (p : Basis n → (Fin n → Bool) → ℝ) (samples : List (Fin n → Bool))
    (bs : List (Basis n)) (hlen : bs.length = samples.length) (hne : samples ≠ []) :
    nllBases ε p (bs.zip samples)
      = .ok ⟨.pyfloat, -(((bs.zip samples).map (fun s => Real.log (clampProbs ε (p s.1 s.2)))).sum) / samples.length⟩ := by
  have hzl : (bs.zip samples).length = samples.length := by simp [hlen]
  have hz : bs.zip samples ≠ [] := fun h => hne (List.length_eq_zero_iff.mp (by rw [← hzl, h]; rfl))
  rw [C10_nll_grouped ε _ _ hz, hzl]

/-- **C10.3a (wavefunction)** `NLL` with per-sample bases is minus the mean over the samples of the log of the clamped
probability the state assigns to each sample IN ITS OWN BASIS (`sampleProbPure`: `|⟨σ|U_β|ψ⟩|²/Z`, resp.
`probability(σ, Z)` for all-`Z` rows), independent of how the samples are grouped. -/
theorem C10_nll_formula (ε : ℝ) (n : ℕ) (d : Char → M2 ℝ) (psi : (Fin n → Bool) → C ℝ)
    (prob : (Fin n → Bool) → ℝ) (Z : ℝ) (samples : List (Fin n → Bool)) (bs : List (Basis n))
    (hlen : bs.length = samples.length) (hne : samples ≠ []) :
    nllPure ε n (some d) psi prob Z samples (some bs)
      = .ok ⟨.pyfloat, -(((bs.zip samples).map (fun s =>
          Real.log (clampProbs ε (sampleProbPure n d psi prob Z s.1 s.2)))).sum) / samples.length⟩ := by
  simp only [nllPure, hlen, bne_self_eq_false, Bool.false_eq_true, if_false]
  exact nllBases_zip ε _ samples bs hlen hne

/-- **C10.3a (density matrix)** -/
theorem C10_nll_formula_mixed (ε : ℝ) (n : ℕ) (d : Char → M2 ℝ) (rho : (Fin n → Bool) → (Fin n → Bool) → C ℝ)
    (prob : (Fin n → Bool) → ℝ) (Z : ℝ) (samples : List (Fin n → Bool)) (bs : List (Basis n))
    (hlen : bs.length = samples.length) (hne : samples ≠ []) :
    nllMixed ε n d rho prob Z samples (some bs)
      = .ok ⟨.pyfloat, -(((bs.zip samples).map (fun s =>
          Real.log (clampProbs ε (sampleProbMixed n d rho prob Z s.1 s.2)))).sum) / samples.length⟩ := by
  simp only [nllMixed, hlen, bne_self_eq_false, Bool.false_eq_true, if_false]
  exact nllBases_zip ε _ samples bs hlen hne

/-- **C10.3a (`sample_bases=None`, either state type)** -/
theorem C10_nll_formula_none (ε : ℝ) (n : ℕ) (prob : (Fin n → Bool) → ℝ) (samples : List (Fin n → Bool)) :
    nllNone ε prob samples
      = .ok ⟨.pyfloat, -((samples.map (fun σ => Real.log (clampProbs ε (prob σ)))).sum / samples.length)⟩ := by
  simp only [nllNone, sumList_eq, transc_ofNat, bind, Except.bind, Kind.item, pure, Except.pure]
  rfl

/-- **C10.3b** the NLL is invariant under any permutation (hence any regrouping) of the (basis, sample) pairs. -/
theorem C10_nll_perm (ε : ℝ) {n : ℕ} (p : Basis n → (Fin n → Bool) → ℝ)
    (s1 s2 : List (Basis n × (Fin n → Bool))) (h : s1.Perm s2) :
    nllBases ε p s1 = nllBases ε p s2 := by
  by_cases h1 : s1 = []
  · subst h1
    have : s2 = [] := List.nil_perm.mp h
    subst this; rfl
  · have h2 : s2 ≠ [] := fun e => h1 (by subst e; exact List.perm_nil.mp h)
    rw [C10_nll_grouped ε p s1 h1, C10_nll_grouped ε p s2 h2, (h.map _).sum_eq, h.length_eq]

theorem C10_nll_sampleProb (n : ℕ) (d : Char → M2 ℝ) (psi : (Fin n → Bool) → C ℝ)
    (prob : (Fin n → Bool) → ℝ) (Z : ℝ) (b : Basis n) (σ : Fin n → Bool) :
    sampleProbPure n d psi prob Z b σ
      = if anyRot b then Complex.normSq (C10L.toC (Unitaries.rotatePsiInnerProd n (usOf d b) (rotOf b) psi σ)) / Z
        else prob σ := by
  unfold sampleProbPure
  split_ifs <;> simp [absSq_eq]

/-! ## 4. Kinds -/

theorem IsNumber.error {α : Type} (e : PyErr) : IsNumber (.error e : Except PyErr (Res α)) := fun _ h => nomatch h

theorem IsNumber.ite {α : Type} (c : Prop) [Decidable c] {a b : Except PyErr (Res α)} (ha : IsNumber a)
    (hb : IsNumber b) : IsNumber (if c then a else b) := by
  split_ifs <;> assumption

theorem IsNumber.bind {α β : Type} (r : Except PyErr β) (g : β → Except PyErr (Res α)) (h : ∀ b, IsNumber (g b)) :
    IsNumber (r >>= g) := by
  cases r
  exacts [.error _, h _]

theorem C10_kind_item {α : Type} (k : Kind) (v : α) :
    IsNumber (do let k' ← Kind.item k; return (⟨k', v⟩ : Res α)) := by
  intro x hx
  cases k <;> simp [Kind.item, bind, Except.bind, pure, Except.pure] at hx <;> (subst hx; exact Or.inl rfl)

section kinds
set_option linter.unusedSectionVars false
variable {α : Type} [Add α] [Mul α] [Neg α] [Sub α] [Div α] [Zero α] [One α] [Transc α]

theorem C10_kind_klMean {β : Type} (f : β → α) (items : List β) : IsNumber (klMean f items) :=
  .ite _ (.error _) (C10_kind_item _ _)

theorem C10_kind_klNone (ε : α) (N : ℕ) (t p : ℕ → α) : IsNumber (klNone ε N t p) := C10_kind_item _ _

theorem C10_kind_nllBases (ε : α) {n : ℕ} (p : Basis n → (Fin n → Bool) → α)
    (samples : List (Basis n × (Fin n → Bool))) : IsNumber (nllBases ε p samples) :=
  .ite _ (.error _) (C10_kind_item _ _)

theorem C10_kind_nllNone (ε : α) {n : ℕ} (prob : (Fin n → Bool) → α) (samples : List (Fin n → Bool)) :
    IsNumber (nllNone ε prob samples) := C10_kind_item _ _

/-- **C10.4** on EVERY code path of the model — every carrier (so also the `Float` instance the driver runs), every
state type, target form, list of bases, sample list — a returned value is a Python `float` or a `numpy.float64`,
never a tensor. (With the `.item()` of F4 removed, `nllBases` would end in `Kind.arith .tensor .pyfloat = .tensor`.) -/
theorem C10_kind (ε : α) (n N : ℕ) (dp : Option (Char → M2 α)) (d : Char → M2 α)
    (psi : (Fin n → Bool) → C α) (rho : (Fin n → Bool) → (Fin n → Bool) → C α) (prob : (Fin n → Bool) → α) (Z : α) :
    (∀ t ψ, IsNumber (fidelityPureRes N t ψ Z)) ∧
    (∀ eig : List (C α), IsNumber (fidelityMixedRes eig)) ∧
    (∀ target bases, IsNumber (klPure ε n dp psi prob Z target bases)) ∧
    (∀ target bases, IsNumber (klMixed ε n d rho prob Z target bases)) ∧
    (∀ samples sb, IsNumber (nllPure ε n dp psi prob Z samples sb)) ∧
    (∀ samples sb, IsNumber (nllMixed ε n d rho prob Z samples sb)) := by
  refine ⟨fun t ψ => C10_kind_item _ _, fun eig x hx => ?_, fun target bases => .bind _ _ fun plan => ?_,
    fun target bases => .bind _ _ fun plan => ?_, fun samples sb => ?_, fun samples sb => ?_⟩
  · cases hx
    exact Or.inr rfl
  · cases plan
    exacts [C10_kind_klNone _ _ _ _, C10_kind_klMean _ _]
  · cases plan
    exacts [C10_kind_klNone _ _ _ _, C10_kind_klMean _ _]
  · cases sb
    exacts [C10_kind_nllNone _ _ _, .ite _ (.error _) (C10_kind_nllBases _ _ _)]
  · cases sb
    exacts [C10_kind_nllNone _ _ _, .ite _ (.error _) (C10_kind_nllBases _ _ _)]

end kinds

/-- **F10 (QuCumber fix 4aa6393), in the model.** A state without a `unitary_dict` attribute (`dict = none`:
`PositiveWaveFunction`) evaluates `KL` over a list of bases and `NLL` with per-sample bases exactly as a state carrying
the default dictionary `create_dict()` would — so every theorem of this file stated for `some d` (formula, non-negativity,
self-zero, permutation invariance, result kind) applies to positive wavefunctions with `d = defaultDict`. Without that
fix these paths raise `AttributeError` (finding F10); the check replays the witness on the implementation on every run and
expects numbers. -/
theorem C10_pos_default_dict (ε : ℝ) (n : ℕ) (psi : (Fin n → Bool) → C ℝ) (prob : (Fin n → Bool) → ℝ) (Z : ℝ) :
    (∀ (target : Target (ℕ → C ℝ) n) (bases : Option (List (Basis n))),
      klPure ε n none psi prob Z target bases = klPure ε n (some defaultDict) psi prob Z target bases) ∧
    (∀ (samples : List (Fin n → Bool)) (sb : Option (List (Basis n))),
      nllPure ε n none psi prob Z samples sb = nllPure ε n (some defaultDict) psi prob Z samples sb) :=
  ⟨fun _ _ => rfl, fun _ _ => rfl⟩

/-! ## 5. Mixed fidelity -/

/-- **C10.5, value for an arbitrary eigenvalue list** (`harness/c10.py` cites the theorem under this name; the link to
the Uhlmann fidelity is `C10_fid_mixed_uhlmann` below). GIVEN the eigenvalue list `eig` that
`np.linalg.eigvals(target·ρ/Z)` returned, whatever it is:
(a) the value is `(Σ_i √|Re λ_i|)²`, returned as a `numpy.float64`;
(b) it is non-negative;
(c) if the real parts of `eig` are, up to order, the squares `μ_i²` of non-negative reals summing to one — the case
    of the model's own state, where `target·ρ̂ = ρ̂²` and `μ` are the eigenvalues of the PSD trace-one `ρ̂` — the value
    is `(tr ρ̂)² = 1`. -/
theorem C10_fid_mixed_partial (eig : List (C ℝ)) :
    fidelityMixedRes eig = .ok ⟨.npfloat, ((eig.map (fun l => √|l.1|)).sum) ^ 2⟩
    ∧ 0 ≤ fidelityMixed eig
    ∧ ∀ μ : List ℝ, (∀ m ∈ μ, 0 ≤ m) → μ.sum = 1 → (eig.map Prod.fst).Perm (μ.map (fun m => m ^ 2)) →
        fidelityMixed eig = 1 := by
  refine ⟨?_, ?_, ?_⟩
  · simp only [fidelityMixedRes, fidelityMixed_eq]; rfl
  · rw [fidelityMixed_eq]; positivity
  · intro μ hμ hsum hperm
    rw [fidelityMixed_eq]
    have h1 : (eig.map (fun l => √|l.1|)) = (eig.map Prod.fst).map (fun x => √|x|) := by
      rw [List.map_map]; rfl
    rw [h1, (hperm.map _).sum_eq, List.map_map, List.map_congr_left (g := id) fun m hm => by
      simp only [Function.comp, id, abs_of_nonneg (sq_nonneg m), Real.sqrt_sq (hμ m hm)], List.map_id, hsum, one_pow]

/-- non-vacuity of `C10_fid_mixed_partial` (c): eigenvalues `{1/4, 1/4}` are the squares of `{1/2, 1/2}` -/
example : fidelityMixed ([(1 / 4, 0), (1 / 4, 0)] : List (C ℝ)) = 1 :=
  (C10_fid_mixed_partial _).2.2 [1 / 2, 1 / 2] (by intro m hm; simp at hm; rcases hm with rfl | rfl; all_goals norm_num)
    (by norm_num) (by simp; norm_num)

/-! ### 5b. The mixed fidelity IS the Uhlmann fidelity (spectral theory of a product of two PSD matrices)

What is assumed about the external routine, and nothing else: the list `eig` handed to `fidelityMixed` is, as a
multiset (any order), the multiset of roots of the characteristic polynomial of the matrix the code passes to
`np.linalg.eigvals` — eigenvalues counted with algebraic multiplicity, which is what a correct eigenvalue routine
returns.  `C10L.toC` reads the model's real pair as a complex number. -/

section uhlmann
open Matrix
open scoped ComplexOrder MatrixOrder
variable {ι : Type} [Fintype ι] [DecidableEq ι]

/-- SPECIFICATION: the root Uhlmann fidelity `tr √(√ρ σ √ρ)` of two complex matrices, `√` being the positive
semidefinite square root (Mathlib's `CFC.sqrt` in the C⋆-algebra of matrices ordered by `A ≤ B ↔ B − A` PSD; it is
characterised by `C10_psd_sqrt_spec`).  The Uhlmann fidelity is its square. -/
noncomputable def uhlmannTr (σ ρ : Matrix ι ι ℂ) : ℂ := (CFC.sqrt (CFC.sqrt ρ * σ * CFC.sqrt ρ)).trace

/-- `CFC.sqrt ρ` is THE positive semidefinite square root of a PSD `ρ`: it is PSD, squares to `ρ`, and is the only
such matrix. -/
theorem C10_psd_sqrt_spec (ρ : Matrix ι ι ℂ) (hρ : ρ.PosSemidef) :
    (CFC.sqrt ρ).PosSemidef ∧ CFC.sqrt ρ * CFC.sqrt ρ = ρ ∧
    ∀ B : Matrix ι ι ℂ, B.PosSemidef → B * B = ρ → B = CFC.sqrt ρ :=
  ⟨(CFC.sqrt_nonneg ρ).posSemidef, CFC.sqrt_mul_sqrt_self ρ hρ.nonneg, fun _ hB h => (CFC.sqrt_unique h hB.nonneg).symm⟩

/-- **C10.5, Uhlmann's identity.** Let `σ` (target) and `ρ` (model, `ρ/Z`) be positive semidefinite complex matrices
over any finite index type. If the eigenvalue list `eig` is, up to order, the multiset of roots of the characteristic
polynomial of `σ * ρ` (with multiplicity), then the value `(Σ √|Re λ|)²` the code computes is the squared Uhlmann
fidelity `(tr √(√ρ σ √ρ))²` — as a complex identity (so the trace is real) and in the real form `(Re tr …)²`.
No normalisation is needed for this identity. -/
theorem C10_fid_mixed_uhlmann (σ ρ : Matrix ι ι ℂ) (hσ : σ.PosSemidef) (hρ : ρ.PosSemidef)
    (eig : List (C ℝ)) (heig : ((eig.map C10L.toC : List ℂ) : Multiset ℂ) = (σ * ρ).charpoly.roots) :
    ((fidelityMixed eig : ℝ) : ℂ) = uhlmannTr σ ρ ^ 2 ∧ fidelityMixed eig = (uhlmannTr σ ρ).re ^ 2 := by
  obtain ⟨r, -, htr, -, h⟩ := exists_rootFidelity σ ρ hσ hρ
  rw [uhlmannTr, htr, h eig heig, Complex.ofReal_re, Complex.ofReal_pow]
  exact ⟨rfl, rfl⟩

/-- **C10.5, range.** For PSD `σ`, `ρ` of trace one the root fidelity `tr √(√ρ σ √ρ)` is a real number in `[0,1]`
(`tr √(√ρ σ √ρ) ≤ (tr σ + tr ρ)/2`, `exists_rootFidelity`), hence the value the code returns from the spectrum of `σ * ρ` lies in
`[0,1]`. -/
theorem C10_fid_mixed_range (σ ρ : Matrix ι ι ℂ) (hσ : σ.PosSemidef) (hρ : ρ.PosSemidef)
    (hσ1 : σ.trace = 1) (hρ1 : ρ.trace = 1) :
    ((uhlmannTr σ ρ).im = 0 ∧ 0 ≤ (uhlmannTr σ ρ).re ∧ (uhlmannTr σ ρ).re ≤ 1) ∧
    ∀ eig : List (C ℝ), ((eig.map C10L.toC : List ℂ) : Multiset ℂ) = (σ * ρ).charpoly.roots →
      0 ≤ fidelityMixed eig ∧ fidelityMixed eig ≤ 1 := by
  obtain ⟨r, h0, htr, hle, h⟩ := exists_rootFidelity σ ρ hσ hρ
  rw [hσ1, hρ1, Complex.one_re, one_add_one_eq_two] at hle
  have h1 : r ≤ 1 := (mul_le_iff_le_one_right two_pos).mp hle
  rw [uhlmannTr, htr, Complex.ofReal_im, Complex.ofReal_re]
  exact ⟨⟨rfl, h0, h1⟩, fun eig heig => by rw [h eig heig]; exact ⟨sq_nonneg r, pow_le_one₀ h0 h1⟩⟩

/-- **C10.5, own state.** For a PSD `ρ` of trace one, `√ρ ρ √ρ = ρ²`, `√(ρ²) = ρ`, so the root fidelity of `ρ` with
itself is `tr ρ = 1`, and the value the code returns from the spectrum of `ρ * ρ` is exactly 1. -/
theorem C10_fid_mixed_self_uhlmann (ρ : Matrix ι ι ℂ) (hρ : ρ.PosSemidef) (hρ1 : ρ.trace = 1) :
    uhlmannTr ρ ρ = 1 ∧
    ∀ eig : List (C ℝ), ((eig.map C10L.toC : List ℂ) : Multiset ℂ) = (ρ * ρ).charpoly.roots → fidelityMixed eig = 1 := by
  have h1 : uhlmannTr ρ ρ = 1 := (rootFidelity_self ρ hρ).trans hρ1
  refine ⟨h1, fun eig heig => ?_⟩
  rw [(C10_fid_mixed_uhlmann ρ ρ hρ hρ eig heig).2, h1, Complex.one_re, one_pow]

/-- **C10.5 on the model's own matrices.** `σ̂ = matC N T` is the target, `ρ̂ = matC N (ρ/Z)` the normalised model
state (PSD by C02_posSemidef), and `eig` is the spectrum of the very matrix the model hands to `np.linalg.eigvals`
(`fidProd = σ̂·ρ̂`): the returned value is the squared Uhlmann fidelity of `σ̂` and `ρ̂`, and lies in `[0,1]` when both
have trace one (C02_trace for `ρ̂`). -/
theorem C10_fid_mixed_uhlmann_model (N : ℕ) (T rho : ℕ → ℕ → C ℝ) (Z : ℝ)
    (hT : (matC N T).PosSemidef)
    (hpsd : (matC N (fun i j => ((rho i j).1 / Z, (rho i j).2 / Z))).PosSemidef)
    (eig : List (C ℝ))
    (heig : ((eig.map C10L.toC : List ℂ) : Multiset ℂ) = (matC N (fidProd N T rho Z)).charpoly.roots) :
    fidelityMixed eig = (uhlmannTr (matC N T) (matC N (fun i j => ((rho i j).1 / Z, (rho i j).2 / Z)))).re ^ 2
    ∧ ((matC N T).trace = 1 → (matC N (fun i j => ((rho i j).1 / Z, (rho i j).2 / Z))).trace = 1 →
        0 ≤ fidelityMixed eig ∧ fidelityMixed eig ≤ 1) := by
  rw [matC_fidProd] at heig
  exact ⟨(C10_fid_mixed_uhlmann _ _ hT hpsd eig heig).2,
    fun h1 h2 => (C10_fid_mixed_range _ _ hT hpsd h1 h2).2 eig heig⟩

/-- **C10.5, self-fidelity on the model's own matrices** (the instance `σ̂ = ρ̂` of `C10_fid_mixed_self_uhlmann`). Let
the target be the model's own normalised density matrix `ρ̂ = ρ/Z`, positive semidefinite with trace one
(C02_posSemidef, C02_trace). If the external eigenvalue list `eig` is the spectrum — the roots of the characteristic
polynomial, with multiplicity — of the very matrix the model hands to `np.linalg.eigvals` (`fidProd = ρ̂·ρ̂`), then the
returned fidelity is exactly 1. -/
theorem C10_fid_mixed_self (N : ℕ) (rho : ℕ → ℕ → C ℝ) (Z : ℝ)
    (hpsd : (matC N (fun i j => ((rho i j).1 / Z, (rho i j).2 / Z))).PosSemidef)
    (htr : (matC N (fun i j => ((rho i j).1 / Z, (rho i j).2 / Z))).trace = 1)
    (eig : List (C ℝ))
    (heig : ((eig.map C10L.toC : List ℂ) : Multiset ℂ)
      = (matC N (fidProd N (fun i j => ((rho i j).1 / Z, (rho i j).2 / Z)) rho Z)).charpoly.roots) :
    fidelityMixed eig = 1 := by
  rw [matC_fidProd] at heig
  exact (C10_fid_mixed_self_uhlmann _ hpsd htr).2 eig heig

/-- non-vacuity of `C10_fid_mixed_uhlmann` / `C10_fid_mixed_range` on a non-trivial pair: the pure state `|0⟩⟨0|` against
the maximally mixed qubit state `𝟙/2`; `σρ = diag(1/2, 0)`, and the Uhlmann fidelity is `1/2`. -/
example : fidelityMixed ([(1 / 2, 0), (0, 0)] : List (C ℝ))
      = (uhlmannTr (diagonal ![1, 0] : Matrix (Fin 2) (Fin 2) ℂ) (diagonal ![1 / 2, 1 / 2])).re ^ 2
    ∧ fidelityMixed ([(1 / 2, 0), (0, 0)] : List (C ℝ)) = 1 / 2 := by
  refine ⟨(C10_fid_mixed_uhlmann _ _ ?_ ?_ _ ?_).2, ?_⟩
  · refine PosSemidef.diagonal (fun i => ?_); fin_cases i <;> simp
  · refine PosSemidef.diagonal (fun i => ?_); fin_cases i <;> simp
  · rw [diagonal_mul_diagonal, roots_charpoly_diagonal]
    simp only [C10L.toC, Fin.univ_val_map, List.map_cons, List.map_nil, List.ofFn_succ, List.ofFn_zero, Multiset.coe_eq_coe]
    refine List.Perm.of_eq ?_
    simp [Complex.ext_iff]
  · have h : (0 : ℝ) ≤ 1 / 2 := by norm_num
    simp only [fidelityMixed_eq, List.map_cons, List.map_nil, List.sum_cons, List.sum_nil, abs_zero, Real.sqrt_zero,
      add_zero, abs_of_nonneg h, Real.sq_sqrt h]

end uhlmann

/-! ## 6. The hypotheses on the state are discharged by C01 for the RBM wavefunctions the driver runs -/

section rbm
variable {n h : ℕ}

/-- the complex / positive RBM wavefunction, its normalisation and probability, exactly as `DriverLib.C10` hands
them to the metrics -/
noncomputable def rbmPsi (am ph : RBM ℝ n h) : (Fin n → Bool) → C ℝ := fun σ => Wave.psiCplx am ph (fun j => bit (σ j))
noncomputable def rbmPsiPos (am : RBM ℝ n h) : (Fin n → Bool) → C ℝ := fun σ => Wave.psiPos am (fun j => bit (σ j))
noncomputable def rbmZ (am : RBM ℝ n h) : ℝ :=
  Wave.normalization am (fun k : Fin (2 ^ n) => (spaceRow n k.val : Fin n → ℝ))
noncomputable def rbmProb (am : RBM ℝ n h) : (Fin n → Bool) → ℝ :=
  fun σ => Wave.probability am (fun j => bit (σ j)) (rbmZ am)

theorem C10_rbm_Z_pos (am : RBM ℝ n h) : 0 < rbmZ am := C01_normalization_pos am

/-- `Z = Σ_σ probability(σ, 1)` (C01) is the squared norm of any state vector obeying the Born rule -/
theorem rbmZ_eq_normSqVec (am : RBM ℝ n h) (psi : (Fin n → Bool) → C ℝ)
    (hpsi : ∀ σ, (psi σ).1 ^ 2 + (psi σ).2 ^ 2 = Wave.probability am (fun j => bit (σ j)) 1) :
    rbmZ am = normSqVec (2 ^ n) (vecOf n psi) := by
  unfold rbmZ normSqVec vecOf
  rw [C01_normalization, ← sum_rows n (fun σ => Wave.probability am (fun j => bit (σ j)) 1)]
  exact Finset.sum_congr rfl fun k _ => by rw [normSq_toC, hpsi]; rfl

theorem C10_rbm_Z_eq (am ph : RBM ℝ n h) : rbmZ am = normSqVec (2 ^ n) (vecOf n (rbmPsi am ph)) :=
  rbmZ_eq_normSqVec am _ fun _ => C01_normSq_psi_complex am ph _

theorem C10_rbm_Z_eq_pos (am : RBM ℝ n h) : rbmZ am = normSqVec (2 ^ n) (vecOf n (rbmPsiPos am)) :=
  rbmZ_eq_normSqVec am _ fun _ => C01_normSq_psi_positive am _

theorem C10_rbm_born (am ph : RBM ℝ n h) (σ : Fin n → Bool) :
    rbmProb am σ = ((rbmPsi am ph σ).1 ^ 2 + (rbmPsi am ph σ).2 ^ 2) / rbmZ am := by
  unfold rbmPsi
  rw [C01_normSq_psi_complex]; simp [rbmProb, Wave.probability]

theorem C10_rbm_born_pos (am : RBM ℝ n h) (σ : Fin n → Bool) :
    rbmProb am σ = ((rbmPsiPos am σ).1 ^ 2 + (rbmPsiPos am σ).2 ^ 2) / rbmZ am := by
  unfold rbmPsiPos
  rw [C01_normSq_psi_positive]; simp [rbmProb, Wave.probability]

/-- **C10.1 for the RBM states, no hypotheses left** (all `n`, `h`, all real parameters): against every normalised
target the fidelity of a complex RBM wavefunction is the squared overlap of the normalised states and lies in `[0,1]`;
against its own normalised state it is 1. -/
theorem C10_fid_rbm (am ph : RBM ℝ n h) (t : ℕ → C ℝ) (ht : normSqVec (2 ^ n) t = 1) :
    fidelityPure (2 ^ n) t (vecOf n (rbmPsi am ph)) (rbmZ am) = overlapSq (2 ^ n) t (vecOf n (rbmPsi am ph))
    ∧ 0 ≤ fidelityPure (2 ^ n) t (vecOf n (rbmPsi am ph)) (rbmZ am)
    ∧ fidelityPure (2 ^ n) t (vecOf n (rbmPsi am ph)) (rbmZ am) ≤ 1 :=
  ⟨C10_fid_overlap_normalised _ t _ _ (C10_rbm_Z_pos am) (C10_rbm_Z_eq am ph) ht,
   (C10_fid_range _ t _ _ (C10_rbm_Z_pos am) (C10_rbm_Z_eq am ph) ht).1,
   (C10_fid_range _ t _ _ (C10_rbm_Z_pos am) (C10_rbm_Z_eq am ph) ht).2⟩

theorem C10_fid_self_rbm (am ph : RBM ℝ n h) :
    fidelityPure (2 ^ n) (fun k => ((vecOf n (rbmPsi am ph) k).1 / √(rbmZ am), (vecOf n (rbmPsi am ph) k).2 / √(rbmZ am)))
      (vecOf n (rbmPsi am ph)) (rbmZ am) = 1 :=
  C10_fid_self _ _ _ (C10_rbm_Z_pos am) (C10_rbm_Z_eq am ph)

theorem C10_fid_self_rbm_pos (am : RBM ℝ n h) :
    fidelityPure (2 ^ n) (fun k => ((vecOf n (rbmPsiPos am) k).1 / √(rbmZ am), (vecOf n (rbmPsiPos am) k).2 / √(rbmZ am)))
      (vecOf n (rbmPsiPos am)) (rbmZ am) = 1 :=
  C10_fid_self _ _ _ (C10_rbm_Z_pos am) (C10_rbm_Z_eq_pos am)

/-- **C10.2c for the RBM states, `bases=None`, no hypotheses left**: KL against the own normalised state is 0. -/
theorem C10_kl_self_zero_none_rbm (ε : ℝ) (d : Option (Char → M2 ℝ)) (am ph : RBM ℝ n h) :
    klPure ε n d (rbmPsi am ph) (rbmProb am) (rbmZ am)
      (.once (fun k => ((vecOf n (rbmPsi am ph) k).1 / √(rbmZ am), (vecOf n (rbmPsi am ph) k).2 / √(rbmZ am)))) none
      = .ok ⟨.pyfloat, 0⟩ :=
  C10_kl_self_zero_none ε n d _ _ _ (C10_rbm_Z_pos am).le (C10_rbm_born am ph)

theorem C10_kl_self_zero_none_rbm_pos (ε : ℝ) (d : Option (Char → M2 ℝ)) (am : RBM ℝ n h) :
    klPure ε n d (rbmPsiPos am) (rbmProb am) (rbmZ am)
      (.once (fun k => ((vecOf n (rbmPsiPos am) k).1 / √(rbmZ am), (vecOf n (rbmPsiPos am) k).2 / √(rbmZ am)))) none
      = .ok ⟨.pyfloat, 0⟩ :=
  C10_kl_self_zero_none ε n d _ _ _ (C10_rbm_Z_pos am).le (C10_rbm_born_pos am)

/-- **C10.2c for the complex RBM state, every non-empty list of bases and every dictionary, no hypotheses left.** -/
theorem C10_kl_self_zero_rbm (ε : ℝ) (d : Char → M2 ℝ) (am ph : RBM ℝ n h) (b : Basis n) (bs : List (Basis n)) :
    klPure ε n (some d) (rbmPsi am ph) (rbmProb am) (rbmZ am)
      (.once (fun k => ((vecOf n (rbmPsi am ph) k).1 / √(rbmZ am), (vecOf n (rbmPsi am ph) k).2 / √(rbmZ am))))
      (some (b :: bs)) = .ok ⟨.pyfloat, 0⟩ :=
  kl_self_zero_once ε n d _ _ _ (C10_rbm_Z_pos am).le b bs

/-- **C10.2c for the POSITIVE RBM wavefunction over a list of bases** (`dict = none`: rotated with the default dictionary,
F10 fix), no hypotheses left. -/
theorem C10_kl_self_zero_rbm_pos (ε : ℝ) (am : RBM ℝ n h) (b : Basis n) (bs : List (Basis n)) :
    klPure ε n none (rbmPsiPos am) (rbmProb am) (rbmZ am)
      (.once (fun k => ((vecOf n (rbmPsiPos am) k).1 / √(rbmZ am), (vecOf n (rbmPsiPos am) k).2 / √(rbmZ am))))
      (some (b :: bs)) = .ok ⟨.pyfloat, 0⟩ :=
  kl_self_zero_once ε n defaultDict _ _ _ (C10_rbm_Z_pos am).le b bs

end rbm

/-! ## 6b. The `space=` argument: a permuted enumeration with the correspondingly permuted target -/

/-- **`fidelity(nn_state, target[:, perm], space=space[perm])`**: evaluating the state on ANY re-ordering of the basis
elements and giving the target's coefficients in that same order does not change the fidelity (`Z` is what the caller's
`normalization(space)` returned). -/
theorem C10_fid_space_perm (N : ℕ) (π : Equiv.Perm (Fin N)) (t ψ : ℕ → C ℝ) (Z : ℝ) :
    fidelityPure N (reidx N π t) (reidx N π ψ) Z = fidelityPure N t ψ Z := by
  simp only [fidelityPure_eq, braket, reidx_val]
  exact congrArg _ (Equiv.sum_comp π fun k : Fin N =>
    (starRingEnd ℂ) (C10L.toC (t k.val)) * C10L.toC ((ψ k.val).1 / √Z, (ψ k.val).2 / √Z))

/-- **`KL(nn_state, target[:, perm], space=space[perm])`, `bases=None`**: `_single_basis_KL` of two probability vectors
listed in the same (arbitrary) order of the basis elements. -/
theorem C10_kl_space_perm (ε : ℝ) (N : ℕ) (π : Equiv.Perm (Fin N)) (t p : ℕ → ℝ) :
    singleBasisKL ε N (reidx N π t) (reidx N π p) = singleBasisKL ε N t p := by
  unfold singleBasisKL
  simp only [sumFin_eq, reidx_val]
  rw [Equiv.sum_comp π (fun k : Fin N => t k.val * probsToLogits ε (t k.val)),
    Equiv.sum_comp π (fun k : Fin N => t k.val * probsToLogits ε (p k.val))]

/-! ## 7. Composition with C04 (the model's rotations ARE the dense Kronecker rotation) and C02 -/

section compose
open Matrix
open scoped ComplexOrder
variable {n : ℕ}

/-- SPECIFICATION (not the code). Born distribution of the pure state `ψ` (any norm) measured in the product basis with
per-site unitaries `us`: `|(U ψ)(σ)|²`, `U = ⊗_j us_j` the dense Kronecker operator of C04 (`denseK`, site 0 leftmost). -/
noncomputable def bornPure (us : Fin n → M2 ℝ) (ψ : (Fin n → Bool) → ℂ) (σ : Fin n → Bool) : ℝ :=
  Complex.normSq ((denseK us).mulVec ψ σ)

/-- SPECIFICATION. Born distribution of the density matrix `ρ` in that basis: `Re (U ρ U†)(σ,σ)`. -/
noncomputable def bornMixed (us : Fin n → M2 ℝ) (ρ : Matrix (Fin n → Bool) (Fin n → Bool) ℂ) (σ : Fin n → Bool) : ℝ :=
  ((denseK us * ρ * (denseK us)ᴴ) σ σ).re

/-- **KL's Born distributions are the dense ones (wavefunction).** Entry `basisIndex σ` of the model's `pureBorn`
(the `_kron_mult` sweep) is `|(U v)(σ)|²` — for EVERY dictionary, basis and vector (C04_rotate_psi). -/
theorem C10_pureBorn_dense (d : Char → M2 ℝ) (b : Basis n) (v : ℕ → C ℝ) (σ : Fin n → Bool) :
    pureBorn n d b v (basisIndex σ) = bornPure (usOf d b) (fun τ => C10L.toC (v (basisIndex τ))) σ := by
  have hp : psiVec (n := n) v = fun τ => C10L.toC (v (basisIndex τ)) := by
    funext τ; simp only [psiVec, C04_index_convention]; rfl
  have h := congrFun (C04_rotate_psi (usOf d b) v) σ
  rw [hp] at h
  simp only [psiVec, ← C04_index_convention] at h
  unfold pureBorn bornPure
  rw [toC_eq, h]

theorem C10_pureBorn_dense_row (d : Char → M2 ℝ) (b : Basis n) (v : ℕ → C ℝ) (k : ℕ) (hk : k < 2 ^ n) :
    pureBorn n d b v k = bornPure (usOf d b) (fun τ => C10L.toC (v (basisIndex τ))) (row n k) := by
  rw [← C10_pureBorn_dense, basisIndex_row k hk]

theorem vecOf_basisIndex (psi : (Fin n → Bool) → C ℝ) (τ : Fin n → Bool) : vecOf n psi (basisIndex τ) = psi τ :=
  congrArg psi (row_basisIndex n τ)

/-- **KL's / NLL's Born distributions are the dense ones (density matrix)**: entry `basisIndex σ` of `mixedBorn`
(`rotate_rho_probs`) is `Re (U ρ U†)(σ,σ)` whenever the dictionary's `Z` is the identity (C04_rho_probs_dense). -/
theorem C10_mixedBorn_dense (d : Char → M2 ℝ) (hZ : m2c (d 'Z') = 1) (b : Basis n)
    (ρ : (Fin n → Bool) → (Fin n → Bool) → C ℝ) (σ : Fin n → Bool) :
    mixedBorn n d b ρ (basisIndex σ) = bornMixed (usOf d b) (Matrix.of fun a c => C10L.toC (ρ a c)) σ := by
  unfold mixedBorn bornMixed
  rw [row_basisIndex, C04_rho_probs_dense _ _ _ _ (usOf_Z d hZ b)]
  rfl

/-- **C10.3 (NLL ↔ Born, wavefunction).** The probability `NLL` assigns to sample `σ` measured in basis `b` is the entry at
`σ` of the very Born distribution `KL` uses for that basis (`pureBorn … / Z`), i.e. `|(U_b ψ)(σ)|² / Z` with the dense
Kronecker `U_b` — on rotated rows (`rotate_psi_inner_prod`, C04_inner_prod_dense) and on all-`Z` rows
(`probability(σ, Z)`, Born rule of the state `hborn`: C01). Needs the dictionary's `Z` to be the identity. -/
theorem C10_nll_born (d : Char → M2 ℝ) (hZ : m2c (d 'Z') = 1) (psi : (Fin n → Bool) → C ℝ)
    (prob : (Fin n → Bool) → ℝ) (Z : ℝ) (hborn : ∀ σ, prob σ = ((psi σ).1 ^ 2 + (psi σ).2 ^ 2) / Z)
    (b : Basis n) (σ : Fin n → Bool) :
    sampleProbPure n d psi prob Z b σ = pureBorn n d b (vecOf n psi) (basisIndex σ) / Z
    ∧ sampleProbPure n d psi prob Z b σ = bornPure (usOf d b) (fun τ => C10L.toC (psi τ)) σ / Z := by
  have h2 : sampleProbPure n d psi prob Z b σ = bornPure (usOf d b) (fun τ => C10L.toC (psi τ)) σ / Z := by
    unfold sampleProbPure bornPure
    have hd := C04_inner_prod_dense (usOf d b) (rotOf b) psi σ (usOf_Z d hZ b)
    by_cases hr : anyRot b = true
    · rw [if_pos hr, absSq_eq, toC_eq, hd]; rfl
    · rw [if_neg hr, hborn, ← normSq_toC]
      have hone : denseK (usOf d b) = 1 := by
        rw [← C04_fastK_eq_dense _ _ (usOf_Z d hZ b)]
        exact fastK_one _ (eq_false_of_ne_true hr)
      rw [hone, Matrix.one_mulVec]
  refine ⟨?_, h2⟩
  simp only [h2, C10_pureBorn_dense, vecOf_basisIndex]

/-- **C10.3 (NLL ↔ Born, density matrix)**: `rotate_rho_probs(σ)/Z` resp. `probability(σ, Z) = Re ρ(σ,σ)/Z`
(C02_diagonal) is the entry at `σ` of `mixedBorn … / Z`, i.e. `Re (U_b ρ U_b†)(σ,σ) / Z`. -/
theorem C10_nll_born_mixed (d : Char → M2 ℝ) (hZ : m2c (d 'Z') = 1) (rho : (Fin n → Bool) → (Fin n → Bool) → C ℝ)
    (prob : (Fin n → Bool) → ℝ) (Z : ℝ) (hdiag : ∀ σ, prob σ = (rho σ σ).1 / Z)
    (b : Basis n) (σ : Fin n → Bool) :
    sampleProbMixed n d rho prob Z b σ = mixedBorn n d b rho (basisIndex σ) / Z
    ∧ sampleProbMixed n d rho prob Z b σ = bornMixed (usOf d b) (Matrix.of fun a c => C10L.toC (rho a c)) σ / Z := by
  have h1 : sampleProbMixed n d rho prob Z b σ = mixedBorn n d b rho (basisIndex σ) / Z := by
    unfold sampleProbMixed mixedBorn
    rw [row_basisIndex]
    by_cases hr : anyRot b = true
    · rw [if_pos hr]
    · rw [if_neg hr, hdiag, C04_rho_probs, fastK_one _ (eq_false_of_ne_true hr)]
      simp
  exact ⟨h1, by rw [h1, C10_mixedBorn_dense d hZ]⟩

/-- **C10.3a restated with the Born distributions (wavefunction).** `NLL` with per-sample bases is minus the mean over the
samples of `log clamp_ε(P_β(σ))`, `P_β(σ) = |(U_β ψ)(σ)|²/Z` the Born probability of the sample in ITS OWN basis — the
same distribution `KL` compares with the target. The clamp stays in the statement: below `ε` (above `1−ε`) the summand is
`log ε` (`log(1−ε)`), not the log Born probability. -/
theorem C10_nll_formula_born (ε : ℝ) (d : Char → M2 ℝ) (hZ : m2c (d 'Z') = 1) (psi : (Fin n → Bool) → C ℝ)
    (prob : (Fin n → Bool) → ℝ) (Z : ℝ) (hborn : ∀ σ, prob σ = ((psi σ).1 ^ 2 + (psi σ).2 ^ 2) / Z)
    (samples : List (Fin n → Bool)) (bs : List (Basis n))
    (hlen : bs.length = samples.length) (hne : samples ≠ []) :
    nllPure ε n (some d) psi prob Z samples (some bs)
      = .ok ⟨.pyfloat, -(((bs.zip samples).map (fun s =>
          Real.log (clampProbs ε (bornPure (usOf d s.1) (fun τ => C10L.toC (psi τ)) s.2 / Z)))).sum) / samples.length⟩ := by
  rw [C10_nll_formula ε n d psi prob Z samples bs hlen hne]
  simp only [(C10_nll_born d hZ psi prob Z hborn _ _).2]

/-- **C10.3a restated with the Born distributions (density matrix).** -/
theorem C10_nll_formula_born_mixed (ε : ℝ) (d : Char → M2 ℝ) (hZ : m2c (d 'Z') = 1)
    (rho : (Fin n → Bool) → (Fin n → Bool) → C ℝ)
    (prob : (Fin n → Bool) → ℝ) (Z : ℝ) (hdiag : ∀ σ, prob σ = (rho σ σ).1 / Z)
    (samples : List (Fin n → Bool)) (bs : List (Basis n))
    (hlen : bs.length = samples.length) (hne : samples ≠ []) :
    nllMixed ε n d rho prob Z samples (some bs)
      = .ok ⟨.pyfloat, -(((bs.zip samples).map (fun s =>
          Real.log (clampProbs ε (bornMixed (usOf d s.1) (Matrix.of fun a c => C10L.toC (rho a c)) s.2 / Z)))).sum)
            / samples.length⟩ := by
  rw [C10_nll_formula_mixed ε n d rho prob Z samples bs hlen hne]
  simp only [(C10_nll_born_mixed d hZ rho prob Z hdiag _ _).2]

/-! ### normalisation of the Born distributions (C04 unitarity), the default dictionary -/

theorem C10_defaultDict_Z : m2c (defaultDict (α := ℝ) 'Z') = 1 := by
  have : defaultDict (α := ℝ) 'Z' = Unitaries.dZ := by simp [defaultDict]
  rw [this, C04_dZ]

theorem C10_defaultDict_unitary (c : Char) : (m2c (defaultDict (α := ℝ) c))ᴴ * m2c (defaultDict c) = 1 := by
  unfold defaultDict
  split_ifs
  · exact C04_dX_unitary
  · exact C04_dY_unitary
  · rw [C04_dZ]; simp

/-- the Born probabilities of a vector sum to its squared norm in every basis of a unitary dictionary (C04_psi_probs_sum) -/
theorem C10_pureBorn_sum (d : Char → M2 ℝ) (hU : ∀ c, (m2c (d c))ᴴ * m2c (d c) = 1) (b : Basis n) (v : ℕ → C ℝ) :
    ∑ k : Fin (2 ^ n), pureBorn n d b v k.val = normSqVec (2 ^ n) v := by
  have h := C04_psi_probs_sum (usOf d b) (fun j => hU _) v
  rw [← sum_rows n, ← sum_rows n] at h
  unfold normSqVec pureBorn
  have hidx : ∀ k : Fin (2 ^ n), idxOf (rowBits n k.val) = k.val := by
    intro k
    rw [← C04_index_convention]
    exact basisIndex_row k.val k.isLt
  simp only [psiVec, hidx] at h
  exact h

/-- the Born probabilities of a matrix sum to the real part of its trace in every basis of a unitary dictionary with
`Z ↦ 1` (C04_rho_probs_dense, C04_rho_probs_sum, C04_dense_unitary) -/
theorem C10_mixedBorn_sum (d : Char → M2 ℝ) (hU : ∀ c, (m2c (d c))ᴴ * m2c (d c) = 1) (hZ : m2c (d 'Z') = 1)
    (b : Basis n) (ρ : (Fin n → Bool) → (Fin n → Bool) → C ℝ) :
    ∑ k : Fin (2 ^ n), mixedBorn n d b ρ k.val = ∑ k : Fin (2 ^ n), (ρ (row n k.val) (row n k.val)).1 := by
  have hK := C04_dense_unitary (usOf d b) (fun j => hU _)
  have hs := C04_rho_probs_sum (denseK (usOf d b)) (Matrix.of fun a c => QV.toC (ρ a c)) hK
  have h1 : ∀ k : Fin (2 ^ n), mixedBorn n d b ρ k.val
      = ((denseK (usOf d b) * (Matrix.of fun a c => QV.toC (ρ a c)) * (denseK (usOf d b))ᴴ) (rowBits n k.val) (rowBits n k.val)).re := by
    intro k
    unfold mixedBorn
    rw [C04_rho_probs_dense _ _ _ _ (usOf_Z d hZ b)]
    rfl
  simp_rw [h1]
  rw [sum_rows n (fun σ => ((denseK (usOf d b) * (Matrix.of fun a c => QV.toC (ρ a c)) * (denseK (usOf d b))ᴴ) σ σ).re),
    ← Complex.re_sum, hs, Matrix.trace, Complex.re_sum, ← sum_rows n]
  rfl

/-! ### `KL` in dense form -/

/-- **C10.2a in dense form, any dictionary**: under the clamp guard, `KL(nn_state, target, bases)` for a single
wavefunction target is the mean over the listed bases of the Kullback–Leibler divergence between
`|(U_b t)(σ)|²` and `|(U_b ψ)(σ)|²/Z`, `U_b = ⊗_j d(b_j)` the DENSE Kronecker product of the registered matrices
(the very expression the numpy oracle of `harness/c10.py` evaluates). -/
theorem C10_kl_formula_dense (ε : ℝ) (d : Char → M2 ℝ) (psi : (Fin n → Bool) → C ℝ)
    (prob : (Fin n → Bool) → ℝ) (Z : ℝ) (t : ℕ → C ℝ) (b : Basis n) (bs : List (Basis n))
    (hguard : ∀ b' ∈ b :: bs, TGuard ε (2 ^ n) (pureBorn n d b' t)
        ∧ InGuard ε (2 ^ n) (fun k => pureBorn n d b' (vecOf n psi) k / Z)) :
    klPure ε n (some d) psi prob Z (.once t) (some (b :: bs))
      = .ok ⟨.pyfloat, (((b :: bs).map (fun b' =>
          klDiv (2 ^ n) (fun k => bornPure (usOf d b') (fun τ => C10L.toC (t (basisIndex τ))) (row n k))
            (fun k => bornPure (usOf d b') (fun τ => C10L.toC (psi τ)) (row n k) / Z))).sum) / ((b :: bs).length : ℕ)⟩ := by
  rw [C10_kl_formula ε n d psi prob Z (.once t) (some (b :: bs)) _ (C10_kl_resolve_once _ _) (by simp)
    (List.forall_mem_map.mpr hguard), List.map_map, List.length_map]
  congr 4
  refine List.map_congr_left fun b' _ => ?_
  simp only [Function.comp, tBornPure]
  exact klDiv_congr (fun k hk => C10_pureBorn_dense_row d b' t k hk) fun k hk => by
    rw [C10_pureBorn_dense_row d b' _ k hk]
    simp only [vecOf_basisIndex]

/-- **C10.2a in dense form, density matrix, any dictionary with `Z ↦ 1`**: under the clamp guard `KL` of a single target
matrix `T` over a list of bases is the mean of the Kullback–Leibler divergences between `Re (U_b T U_b†)(σ,σ)` and
`Re (U_b ρ U_b†)(σ,σ)/Z`, `U_b` the dense Kronecker product of the registered matrices. -/
theorem C10_kl_formula_dense_mixed (ε : ℝ) (d : Char → M2 ℝ) (hZ : m2c (d 'Z') = 1)
    (rho : (Fin n → Bool) → (Fin n → Bool) → C ℝ)
    (prob : (Fin n → Bool) → ℝ) (Z : ℝ) (T : ℕ → ℕ → C ℝ) (b : Basis n) (bs : List (Basis n))
    (hguard : ∀ b' ∈ b :: bs, TGuard ε (2 ^ n) (mixedBorn n d b' (matAt n T))
        ∧ InGuard ε (2 ^ n) (fun k => mixedBorn n d b' rho k / Z)) :
    klMixed ε n d rho prob Z (.once T) (some (b :: bs))
      = .ok ⟨.pyfloat, (((b :: bs).map (fun b' =>
          klDiv (2 ^ n) (fun k => bornMixed (usOf d b') (Matrix.of fun x y => C10L.toC (matAt n T x y)) (row n k))
            (fun k => bornMixed (usOf d b') (Matrix.of fun x y => C10L.toC (rho x y)) (row n k) / Z))).sum)
              / ((b :: bs).length : ℕ)⟩ := by
  rw [C10_kl_formula_mixed ε n d rho prob Z (.once T) (some (b :: bs)) _ (C10_kl_resolve_once _ _) (by simp)
    (List.forall_mem_map.mpr hguard), List.map_map, List.length_map]
  congr 4
  refine List.map_congr_left fun b' _ => ?_
  simp only [Function.comp, tBornMixed]
  exact klDiv_congr (fun k hk => by rw [← C10_mixedBorn_dense d hZ b' (matAt n T) (row n k), basisIndex_row k hk])
    fun k hk => by rw [← C10_mixedBorn_dense d hZ b' rho (row n k), basisIndex_row k hk]

/-- non-vacuity of `C10_kl_formula_dense` (guard satisfiable at the top level): the rational rotation `exDict`, state
`(1,0)`, non-real target `(0,i)` — Born distributions `(16/25, 9/25)` vs `(9/25, 16/25)`. -/
example : ∃ v, klPure ((2 : ℝ)⁻¹ ^ 52) 1 (some exDict) exPsi (fun _ => 0) 1 (.once exTarget) (some [exBasis])
    = .ok ⟨.pyfloat, v⟩ :=
  ⟨_, C10_kl_formula_dense _ exDict exPsi _ 1 exTarget exBasis []
    (List.forall_mem_singleton.mpr ⟨ex_guard.1.tguard, ex_guard.2⟩)⟩

/-- non-vacuity of `C10_kl_formula_dense_mixed`: one site, the maximally mixed state `𝟙/2` (`Z = 1`) against the target
`diag(1/4, 3/4)` in the basis `Z` of the default dictionary (both distributions inside the guard, different). -/
example : ∃ v, klMixed ((2 : ℝ)⁻¹ ^ 52) 1 defaultDict (fun σ τ => if σ = τ then ((1 / 2 : ℝ), (0 : ℝ)) else (0, 0))
    (fun _ => 1 / 2) 1 (.once (fun i j => if i = j then ((if i = 0 then (1 / 4 : ℝ) else 3 / 4), (0 : ℝ)) else (0, 0)))
    (some [(⟨#['Z'], rfl⟩ : Basis 1)]) = .ok ⟨.pyfloat, v⟩ := by
  have hb : ∀ (ρ : (Fin 1 → Bool) → (Fin 1 → Bool) → C ℝ) (k : ℕ),
      mixedBorn 1 defaultDict (⟨#['Z'], rfl⟩ : Basis 1) ρ k = (ρ (Metrics.row 1 k) (Metrics.row 1 k)).1 := by
    intro ρ k
    rw [mixedBorn, C04_rho_probs, fastK_one _ (by decide)]
    simp [QV.toC]
  refine ⟨_, C10_kl_formula_dense_mixed _ defaultDict C10_defaultDict_Z _ _ 1 _ _ []
    (List.forall_mem_singleton.mpr ⟨InGuard.tguard fun k hk => mem52 ?_, fun k hk => mem52 ?_⟩)⟩
  · simp only [hb, matAt, basisIndex_row k hk, if_true]
    split_ifs <;> norm_num
  · simp only [hb, if_true]
    norm_num

/-! ### the normalisation / PSD / trace hypotheses discharged for the RBM states the driver runs -/

section rbm2
variable {h a : ℕ}

theorem C10_rbm_prob_sum (am ph : RBM ℝ n h) : ∑ k : Fin (2 ^ n), rbmProb am (row n k.val) = 1 := by
  have hZ := C10_rbm_Z_pos am
  simp_rw [C10_rbm_born am ph, ← normSq_toC]
  rw [← Finset.sum_div]
  have := C10_rbm_Z_eq am ph
  unfold normSqVec vecOf at this
  rw [← this, div_self hZ.ne']

/-- `KL ≥ 0` for a single normalised target over a non-empty list of bases, for any unitary dictionary and any state vector
with `Z = ‖ψ‖² > 0`: both Born distributions are normalised in every basis (`C10_pureBorn_sum`) -/
theorem kl_nonneg_once (ε : ℝ) (hε : 0 < ε) (d : Char → M2 ℝ) (hU : ∀ c, (m2c (d c))ᴴ * m2c (d c) = 1)
    (psi : (Fin n → Bool) → C ℝ) (prob : (Fin n → Bool) → ℝ) (Z : ℝ) (hZ : 0 < Z)
    (hZψ : Z = normSqVec (2 ^ n) (vecOf n psi)) (t : ℕ → C ℝ) (ht : normSqVec (2 ^ n) t = 1)
    (b : Basis n) (bs : List (Basis n))
    (hguard : ∀ b' ∈ b :: bs, TGuard1 ε (2 ^ n) (pureBorn n d b' t)
        ∧ InGuard ε (2 ^ n) (fun k => pureBorn n d b' (vecOf n psi) k / Z)) :
    ∃ v, klPure ε n (some d) psi prob Z (.once t) (some (b :: bs)) = .ok ⟨.pyfloat, v⟩ ∧ 0 ≤ v := by
  refine C10_kl_nonneg ε hε n d _ _ _ _ _ _ (C10_kl_resolve_once _ _) (by simp) (List.forall_mem_map.mpr hguard)
    (List.forall_mem_map.mpr fun b' _ => ⟨?_, ?_⟩)
  · show ∑ k : Fin (2 ^ n), pureBorn n d b' t k.val = 1
    rw [C10_pureBorn_sum d hU, ht]
  · show ∑ k : Fin (2 ^ n), pureBorn n d b' (vecOf n psi) k.val / Z = 1
    rw [← Finset.sum_div, C10_pureBorn_sum d hU, ← hZψ, div_self hZ.ne']

/-- **C10.2b for the complex RBM wavefunction, every unitary dictionary, every non-empty list of bases, every normalised
target — normalisation hypotheses discharged** (C04_psi_probs_sum for both Born distributions, C01 for `Z = ‖ψ‖² > 0`).
What remains is the clamp guard: model probabilities in `[ε, 1−ε]`, target probabilities `0`, `1` or in `[ε, 1−ε]`. -/
theorem C10_kl_nonneg_rbm (ε : ℝ) (hε : 0 < ε) (d : Char → M2 ℝ) (hU : ∀ c, (m2c (d c))ᴴ * m2c (d c) = 1)
    (am ph : RBM ℝ n h) (t : ℕ → C ℝ) (ht : normSqVec (2 ^ n) t = 1) (b : Basis n) (bs : List (Basis n))
    (hguard : ∀ b' ∈ b :: bs, TGuard1 ε (2 ^ n) (pureBorn n d b' t)
        ∧ InGuard ε (2 ^ n) (fun k => pureBorn n d b' (vecOf n (rbmPsi am ph)) k / rbmZ am)) :
    ∃ v, klPure ε n (some d) (rbmPsi am ph) (rbmProb am) (rbmZ am) (.once t) (some (b :: bs)) = .ok ⟨.pyfloat, v⟩
      ∧ 0 ≤ v :=
  kl_nonneg_once ε hε d hU _ _ _ (C10_rbm_Z_pos am) (C10_rbm_Z_eq am ph) t ht b bs hguard

/-- the same for the positive RBM wavefunction, which rotates with the DEFAULT dictionary (`dict = none`, F10 fix) -/
theorem C10_kl_nonneg_rbm_pos (ε : ℝ) (hε : 0 < ε) (am : RBM ℝ n h) (t : ℕ → C ℝ) (ht : normSqVec (2 ^ n) t = 1)
    (b : Basis n) (bs : List (Basis n))
    (hguard : ∀ b' ∈ b :: bs, TGuard1 ε (2 ^ n) (pureBorn n defaultDict b' t)
        ∧ InGuard ε (2 ^ n) (fun k => pureBorn n defaultDict b' (vecOf n (rbmPsiPos am)) k / rbmZ am)) :
    ∃ v, klPure ε n none (rbmPsiPos am) (rbmProb am) (rbmZ am) (.once t) (some (b :: bs)) = .ok ⟨.pyfloat, v⟩
      ∧ 0 ≤ v :=
  kl_nonneg_once ε hε defaultDict C10_defaultDict_unitary _ _ _ (C10_rbm_Z_pos am) (C10_rbm_Z_eq_pos am) t ht b bs hguard

/-- **C10.2b, `bases=None`, RBM wavefunctions** (`Σ probability(σ, Z) = 1` by C01) -/
theorem C10_kl_nonneg_none_rbm (ε : ℝ) (hε : 0 < ε) (dd : Option (Char → M2 ℝ)) (am ph : RBM ℝ n h) (t : ℕ → C ℝ)
    (ht : normSqVec (2 ^ n) t = 1)
    (hg1 : TGuard1 ε (2 ^ n) (fun k => Complex.normSq (C10L.toC (t k))))
    (hg2 : InGuard ε (2 ^ n) (fun k => rbmProb am (row n k))) :
    ∃ v, klPure ε n dd (rbmPsi am ph) (rbmProb am) (rbmZ am) (.once t) none = .ok ⟨.pyfloat, v⟩ ∧ 0 ≤ v :=
  C10_kl_nonneg_none ε hε n dd _ _ _ t hg1 hg2 ⟨ht, C10_rbm_prob_sum am ph⟩

/-! #### the density-matrix RBM -/

/-- the density matrix, its normalisation and probability exactly as `DriverLib.C10` hands them to the metrics -/
noncomputable def rbmRho (am ph : PRBM ℝ n h a) : (Fin n → Bool) → (Fin n → Bool) → C ℝ :=
  fun σ τ => Density.rho am ph (fun j => bit (σ j)) (fun j => bit (τ j))
noncomputable def rbmZd (am : PRBM ℝ n h a) : ℝ :=
  Density.normalization am (fun k : Fin (2 ^ n) => (spaceRow n k.val : Fin n → ℝ))
noncomputable def rbmProbD (am : PRBM ℝ n h a) : (Fin n → Bool) → ℝ :=
  fun σ => Density.probability am (fun j => bit (σ j)) (rbmZd am)
/-- `rho(space, space)` as the fidelity branch indexes it -/
noncomputable def rbmRhoIdx (am ph : PRBM ℝ n h a) : ℕ → ℕ → C ℝ := fun k l => rbmRho am ph (row n k) (row n l)

theorem C10_rbm_Zd_pos (am : PRBM ℝ n h a) : 0 < rbmZd am := C02.C02_normalization_pos am

theorem C10_rbm_diag (am ph : PRBM ℝ n h a) (σ : Fin n → Bool) :
    rbmProbD am σ = (rbmRho am ph σ σ).1 / rbmZd am := by
  unfold rbmProbD rbmRho
  rw [(C02.C02_diagonal am ph _).2]
  simp [Density.probability]

theorem C10_rbm_trace (am ph : PRBM ℝ n h a) :
    ∑ k : Fin (2 ^ n), (rbmRho am ph (row n k.val) (row n k.val)).1 = rbmZd am :=
  (C02.C02_trace am ph).1

/-- the matrix `ρ/Z` the fidelity branch builds is `Z⁻¹ •` the matrix of C02 -/
theorem C10_rbm_matC (am ph : PRBM ℝ n h a) :
    matC (2 ^ n) (fun i j => ((rbmRhoIdx am ph i j).1 / rbmZd am, (rbmRhoIdx am ph i j).2 / rbmZd am))
      = (((rbmZd am)⁻¹ : ℝ) : ℂ) • C02.rhoFullC am ph := by
  ext i j
  simp only [matC, Matrix.of_apply, Matrix.smul_apply, smul_eq_mul]
  rw [div_eq_smul_inv, C10L.toC_smul]
  rfl

/-- under the NZ guard of C02, `ρ/Z` is positive semidefinite with trace one (C02_posSemidef, C02_trace_matrix) -/
theorem C10_rbm_state (am ph : PRBM ℝ n h a)
    (hz : ∀ σ τ : Fin n → Bool, C02.NZ am ph (C02.bits σ) (C02.bits τ)) :
    (matC (2 ^ n) (fun i j => ((rbmRhoIdx am ph i j).1 / rbmZd am, (rbmRhoIdx am ph i j).2 / rbmZd am))).PosSemidef
    ∧ (matC (2 ^ n) (fun i j => ((rbmRhoIdx am ph i j).1 / rbmZd am, (rbmRhoIdx am ph i j).2 / rbmZd am))).trace = 1 := by
  rw [C10_rbm_matC]
  have hZ := C10_rbm_Zd_pos am
  constructor
  · refine (C02.C02_posSemidef am ph hz).smul ?_
    exact_mod_cast (inv_pos.mpr hZ).le
  · rw [Matrix.trace_smul, C02.C02_trace_matrix, smul_eq_mul, ← Complex.ofReal_mul]
    show (((rbmZd am)⁻¹ * rbmZd am : ℝ) : ℂ) = 1
    rw [inv_mul_cancel₀ hZ.ne']; simp

/-- **C10.5 for the density-matrix RBM, own state.** Under C02's NZ guard (e.g. `Σ_j |U_μ k j| < 2π`,
C02_NZ_of_phase_weights_small), the fidelity of the model against its own normalised density matrix is exactly 1 —
`hpsd`/`htr` of `C10_fid_mixed_self` discharged; only the `eigvals` hypothesis is left. -/
theorem C10_fid_mixed_self_rbm (am ph : PRBM ℝ n h a)
    (hz : ∀ σ τ : Fin n → Bool, C02.NZ am ph (C02.bits σ) (C02.bits τ)) (eig : List (C ℝ))
    (heig : ((eig.map C10L.toC : List ℂ) : Multiset ℂ)
      = (matC (2 ^ n) (fidProd (2 ^ n)
          (fun i j => ((rbmRhoIdx am ph i j).1 / rbmZd am, (rbmRhoIdx am ph i j).2 / rbmZd am))
          (rbmRhoIdx am ph) (rbmZd am))).charpoly.roots) :
    fidelityMixed eig = 1 :=
  C10_fid_mixed_self (2 ^ n) (rbmRhoIdx am ph) (rbmZd am) (C10_rbm_state am ph hz).1 (C10_rbm_state am ph hz).2 eig heig

/-- `C10_fid_mixed_self_rbm` for EVERY parameter setting whose phase network has `Σ_j |U_μ k j| < 2π` per auxiliary unit
(C02_NZ_of_phase_weights_small): C02's NZ guard is satisfiable on an open set of parameters containing the initialisation. -/
theorem C10_fid_mixed_self_rbm_small (am ph : PRBM ℝ n h a) (hU : ∀ k, ∑ j, |ph.U k j| < 2 * Real.pi)
    (eig : List (C ℝ))
    (heig : ((eig.map C10L.toC : List ℂ) : Multiset ℂ)
      = (matC (2 ^ n) (fidProd (2 ^ n)
          (fun i j => ((rbmRhoIdx am ph i j).1 / rbmZd am, (rbmRhoIdx am ph i j).2 / rbmZd am))
          (rbmRhoIdx am ph) (rbmZd am))).charpoly.roots) :
    fidelityMixed eig = 1 :=
  C10_fid_mixed_self_rbm am ph (C02.C02_NZ_of_phase_weights_small am ph hU) eig heig

/-- **C10.5 for the density-matrix RBM, any target state**: against every PSD trace-one target the returned value is the
squared Uhlmann fidelity of target and `ρ/Z`, and lies in `[0,1]`. -/
theorem C10_fid_mixed_rbm (am ph : PRBM ℝ n h a)
    (hz : ∀ σ τ : Fin n → Bool, C02.NZ am ph (C02.bits σ) (C02.bits τ))
    (T : ℕ → ℕ → C ℝ) (hT : (matC (2 ^ n) T).PosSemidef) (hT1 : (matC (2 ^ n) T).trace = 1) (eig : List (C ℝ))
    (heig : ((eig.map C10L.toC : List ℂ) : Multiset ℂ)
      = (matC (2 ^ n) (fidProd (2 ^ n) T (rbmRhoIdx am ph) (rbmZd am))).charpoly.roots) :
    fidelityMixed eig = (uhlmannTr (matC (2 ^ n) T)
        (matC (2 ^ n) (fun i j => ((rbmRhoIdx am ph i j).1 / rbmZd am, (rbmRhoIdx am ph i j).2 / rbmZd am)))).re ^ 2
    ∧ 0 ≤ fidelityMixed eig ∧ fidelityMixed eig ≤ 1 := by
  have h := C10_fid_mixed_uhlmann_model (2 ^ n) T (rbmRhoIdx am ph) (rbmZd am) hT (C10_rbm_state am ph hz).1 eig heig
  exact ⟨h.1, h.2 hT1 (C10_rbm_state am ph hz).2⟩

/-- **C10.2b for the density-matrix RBM** (no NZ guard needed): every unitary dictionary with `Z ↦ 1`, every non-empty
list of bases, every target matrix with unit real trace — normalisation of both Born distributions discharged
(C04_rho_probs_sum, C04_dense_unitary, C02_trace). -/
theorem C10_kl_nonneg_mixed_rbm (ε : ℝ) (hε : 0 < ε) (d : Char → M2 ℝ) (hU : ∀ c, (m2c (d c))ᴴ * m2c (d c) = 1)
    (hZ : m2c (d 'Z') = 1) (am ph : PRBM ℝ n h a) (T : ℕ → ℕ → C ℝ)
    (hT1 : ∑ k : Fin (2 ^ n), (T k.val k.val).1 = 1) (b : Basis n) (bs : List (Basis n))
    (hguard : ∀ b' ∈ b :: bs, TGuard1 ε (2 ^ n) (mixedBorn n d b' (matAt n T))
        ∧ InGuard ε (2 ^ n) (fun k => mixedBorn n d b' (rbmRho am ph) k / rbmZd am)) :
    ∃ v, klMixed ε n d (rbmRho am ph) (rbmProbD am) (rbmZd am) (.once T) (some (b :: bs)) = .ok ⟨.pyfloat, v⟩
      ∧ 0 ≤ v := by
  refine C10_kl_nonneg_mixed ε hε n d _ _ _ _ _ _ (C10_kl_resolve_once _ _) (by simp) ?_ ?_
  · exact List.forall_mem_map.mpr hguard
  · refine List.forall_mem_map.mpr fun b' _ => ⟨?_, ?_⟩
    · show ∑ k : Fin (2 ^ n), mixedBorn n d b' (matAt n T) k.val = 1
      rw [C10_mixedBorn_sum d hU hZ, ← hT1]
      refine Finset.sum_congr rfl (fun k _ => ?_)
      simp only [matAt, basisIndex_row k.val k.isLt]
    · show ∑ k : Fin (2 ^ n), mixedBorn n d b' (rbmRho am ph) k.val / rbmZd am = 1
      rw [← Finset.sum_div, C10_mixedBorn_sum d hU hZ, C10_rbm_trace, div_self (C10_rbm_Zd_pos am).ne']

/-- **C10.2b, `bases=None`, density-matrix RBM** -/
theorem C10_kl_nonneg_mixed_none_rbm (ε : ℝ) (hε : 0 < ε) (d : Char → M2 ℝ) (am ph : PRBM ℝ n h a) (T : ℕ → ℕ → C ℝ)
    (hT1 : ∑ k : Fin (2 ^ n), (T k.val k.val).1 = 1)
    (hg1 : TGuard1 ε (2 ^ n) (fun k => (T k k).1)) (hg2 : InGuard ε (2 ^ n) (fun k => rbmProbD am (row n k))) :
    ∃ v, klMixed ε n d (rbmRho am ph) (rbmProbD am) (rbmZd am) (.once T) none = .ok ⟨.pyfloat, v⟩ ∧ 0 ≤ v := by
  refine C10_kl_nonneg_mixed_none ε hε n d _ _ _ T hg1 hg2 ⟨hT1, ?_⟩
  simp_rw [C10_rbm_diag am ph]
  rw [← Finset.sum_div, C10_rbm_trace, div_self (C10_rbm_Zd_pos am).ne']

/-- **C10.2c for the density-matrix RBM, every non-empty list of bases and EVERY dictionary, no hypotheses left**: against
its own normalised state `ρ/Z` (listed over `space × space`) `KL` is exactly `0`. -/
theorem C10_kl_self_zero_mixed_rbm (ε : ℝ) (d : Char → M2 ℝ) (am ph : PRBM ℝ n h a) (b : Basis n) (bs : List (Basis n)) :
    klMixed ε n d (rbmRho am ph) (rbmProbD am) (rbmZd am)
      (.once (fun i j => ((rbmRho am ph (row n i) (row n j)).1 / rbmZd am, (rbmRho am ph (row n i) (row n j)).2 / rbmZd am)))
      (some (b :: bs)) = .ok ⟨.pyfloat, 0⟩ :=
  C10_kl_self_zero_mixed ε n d _ _ _ _ _ _ (C10_kl_resolve_once _ _) (by simp)
    (List.forall_mem_map.mpr fun _ _ _ _ _ _ => rfl)

/-- **C10.3 for the RBM states**: the hypotheses of `C10_nll_formula_born[_mixed]` (Born rule / diagonal, `Z ↦ 1`) hold for
the states and the default dictionary the driver runs. -/
theorem C10_nll_born_rbm (ε : ℝ) (am ph : RBM ℝ n h) (samples : List (Fin n → Bool)) (bs : List (Basis n))
    (hlen : bs.length = samples.length) (hne : samples ≠ []) :
    nllPure ε n (some defaultDict) (rbmPsi am ph) (rbmProb am) (rbmZ am) samples (some bs)
      = .ok ⟨.pyfloat, -(((bs.zip samples).map (fun s => Real.log (clampProbs ε
          (bornPure (usOf defaultDict s.1) (fun τ => C10L.toC (rbmPsi am ph τ)) s.2 / rbmZ am)))).sum) / samples.length⟩ :=
  C10_nll_formula_born ε defaultDict C10_defaultDict_Z _ _ _ (C10_rbm_born am ph) samples bs hlen hne

theorem C10_nll_born_rbm_mixed (ε : ℝ) (am ph : PRBM ℝ n h a) (samples : List (Fin n → Bool)) (bs : List (Basis n))
    (hlen : bs.length = samples.length) (hne : samples ≠ []) :
    nllMixed ε n defaultDict (rbmRho am ph) (rbmProbD am) (rbmZd am) samples (some bs)
      = .ok ⟨.pyfloat, -(((bs.zip samples).map (fun s => Real.log (clampProbs ε
          (bornMixed (usOf defaultDict s.1) (Matrix.of fun x y => C10L.toC (rbmRho am ph x y)) s.2 / rbmZd am)))).sum)
            / samples.length⟩ :=
  C10_nll_formula_born_mixed ε defaultDict C10_defaultDict_Z _ _ _ (C10_rbm_diag am ph) samples bs hlen hne

end rbm2

end compose

/-! ## 8. NON-DEFAULT dictionaries: states constructed with `unitary_dict=create_dict(**kw)`

Every KL / NLL theorem above is stated for an ARBITRARY `d : Char → M2 ℝ` (hypotheses: unitary entries for the
normalisation / non-negativity statements, `Z ↦ 1` for the NLL ↔ Born statements, none for the value formulas and
`C10_kl_self_zero*`). The driver evaluates the metrics with `d = userDict kw`, `kw` the association list of the keyword
entries the state was constructed with (`[]` for the default dictionary). This section discharges the hypotheses on `d`
from LIST-level facts about `kw`, ties `userDict` to C04's dictionary-resolution model (`Unitaries.unitariesOf`,
`siteUs`), and restates the top-level results for `userDict kw` and the RBM states. -/

section userdict
open Matrix
variable {n h a : ℕ}

/-- `create_dict()` without keywords: the default dictionary (so every earlier `defaultDict` statement is the case `kw = []`
of what the driver runs). -/
theorem C10_userDict_nil : userDict ([] : Unitaries.UDict ℝ) = defaultDict :=
  dictFn_createDict_nil

/-- **"the given operators will overwrite the default matrices if they share the same key"** (`create_dict` docstring):
a letter the user registered — new (`H`, `Q`, …) or a default key (`X`, `Y`) — reads as the user's FIRST entry for it. -/
theorem C10_userDict_registered (kw : Unitaries.UDict ℝ) (c : Char) (m : M2 ℝ) (hc : kw.lookup c = some m) :
    userDict kw c = m := by
  rw [userDict_eq, hc]
  rfl

/-- a letter the user did NOT register keeps its default meaning -/
theorem C10_userDict_untouched (kw : Unitaries.UDict ℝ) (c : Char) (hc : kw.lookup c = none) :
    userDict kw c = defaultDict c := by
  rw [userDict_eq, hc]
  rfl

/-- **unitarity is inherited from the registered entries**: if every matrix the user registered is unitary, every lookup of
`userDict kw` is (defaults: C04_dX_unitary, C04_dY_unitary, C04_dZ). -/
theorem C10_userDict_unitary (kw : Unitaries.UDict ℝ) (hkw : ∀ e ∈ kw, (m2c e.2)ᴴ * m2c e.2 = 1) (c : Char) :
    (m2c (userDict kw c))ᴴ * m2c (userDict kw c) = 1 := by
  rcases userDict_cases kw c with ⟨e, he, -, h⟩ | h <;> rw [h]
  · exact hkw e he
  · exact C10_defaultDict_unitary c

/-- **`Z` stays the identity** unless the user overrides it with something else (a non-identity `Z` is outside this
property's generator: known finding F20 of C04). -/
theorem C10_userDict_Z (kw : Unitaries.UDict ℝ) (hZ : ∀ e ∈ kw, e.1 = 'Z' → m2c e.2 = 1) :
    m2c (userDict kw 'Z') = 1 := by
  rcases userDict_cases kw 'Z' with ⟨e, he, h1, h⟩ | h <;> rw [h]
  · exact hZ e he h1
  · exact C10_defaultDict_Z

/-- **`userDict` IS C04's dictionary resolution.** For a state whose own dictionary is `create_dict(**kw)` and a call
without `unitaries=` (how `KL` / `NLL` call the rotations), `_unitaries_of` + the per-letter lookup of `rotate_psi` /
`rotate_rho` (`Unitaries.siteUs`, every site looked up) succeeds exactly when every letter of the basis is a key, and then
returns the per-site matrices `usOf (userDict kw) b` the C10 model rotates with. -/
theorem C10_userDict_siteUs (kw : Unitaries.UDict ℝ) (b : Basis n)
    (hkeys : ∀ j, ((Unitaries.createDict kw).lookup (b.get j)).isSome = true) :
    Unitaries.siteUs (Unitaries.unitariesOf none (some (Unitaries.createDict kw))) (fun _ => true) b.get
      = .ok (usOf (userDict kw) b) :=
  siteUs_ok _ _ _ fun j _ => hkeys j

/-- the same for the fast paths (`_rotate_basis_state`: only the letters of ROTATED sites are looked up) -/
theorem C10_userDict_siteUs_fast (kw : Unitaries.UDict ℝ) (b : Basis n)
    (hkeys : ∀ j, b.get j ≠ 'Z' → ((Unitaries.createDict kw).lookup (b.get j)).isSome = true) :
    Unitaries.siteUs (Unitaries.unitariesOf none (some (Unitaries.createDict kw))) (Unitaries.rotOf b.get) b.get
      = .ok (usOf (userDict kw) b) :=
  siteUs_ok _ _ _ fun j hj => hkeys j (by simpa [Unitaries.rotOf] using hj)

/-- **C10.3 for the complex RBM state and ANY dictionary with `Z ↦ 1`** (generalises `C10_nll_born_rbm`, which is the
instance `d = defaultDict`): NLL with per-sample bases is minus the mean log clamped Born probability, the Born
distribution being that of the dense Kronecker product of the REGISTERED matrices of the sample's own basis letters. -/
theorem C10_nll_born_rbm_dict (ε : ℝ) (d : Char → M2 ℝ) (hZ : m2c (d 'Z') = 1) (am ph : RBM ℝ n h)
    (samples : List (Fin n → Bool)) (bs : List (Basis n)) (hlen : bs.length = samples.length) (hne : samples ≠ []) :
    nllPure ε n (some d) (rbmPsi am ph) (rbmProb am) (rbmZ am) samples (some bs)
      = .ok ⟨.pyfloat, -(((bs.zip samples).map (fun s => Real.log (clampProbs ε
          (bornPure (usOf d s.1) (fun τ => C10L.toC (rbmPsi am ph τ)) s.2 / rbmZ am)))).sum) / samples.length⟩ :=
  C10_nll_formula_born ε d hZ _ _ _ (C10_rbm_born am ph) samples bs hlen hne

/-- the same for the density-matrix RBM -/
theorem C10_nll_born_rbm_mixed_dict (ε : ℝ) (d : Char → M2 ℝ) (hZ : m2c (d 'Z') = 1) (am ph : PRBM ℝ n h a)
    (samples : List (Fin n → Bool)) (bs : List (Basis n)) (hlen : bs.length = samples.length) (hne : samples ≠ []) :
    nllMixed ε n d (rbmRho am ph) (rbmProbD am) (rbmZd am) samples (some bs)
      = .ok ⟨.pyfloat, -(((bs.zip samples).map (fun s => Real.log (clampProbs ε
          (bornMixed (usOf d s.1) (Matrix.of fun x y => C10L.toC (rbmRho am ph x y)) s.2 / rbmZd am)))).sum)
            / samples.length⟩ :=
  C10_nll_formula_born_mixed ε d hZ _ _ _ (C10_rbm_diag am ph) samples bs hlen hne

/-- **C10.3, what the driver runs for a `ComplexWaveFunction(…, unitary_dict=create_dict(**kw))`**: hypothesis on the
dictionary reduced to "the user did not register a non-identity `Z`".  SCOPE (`_hkeys`, not used by the proof): every letter
of every basis is a key of `create_dict(**kw)` — for an unregistered letter the code raises `KeyError` whereas the model's
`userDict` (`dictFn`: `getD`) would rotate with the identity and return `.ok`; such calls are outside the statement. -/
theorem C10_nll_born_rbm_userDict (ε : ℝ) (kw : Unitaries.UDict ℝ) (hZ : ∀ e ∈ kw, e.1 = 'Z' → m2c e.2 = 1)
    (am ph : RBM ℝ n h) (samples : List (Fin n → Bool)) (bs : List (Basis n))
    (_hkeys : ∀ b' ∈ bs, ∀ j, ((Unitaries.createDict kw).lookup (b'.get j)).isSome = true)
    (hlen : bs.length = samples.length) (hne : samples ≠ []) :
    nllPure ε n (some (userDict kw)) (rbmPsi am ph) (rbmProb am) (rbmZ am) samples (some bs)
      = .ok ⟨.pyfloat, -(((bs.zip samples).map (fun s => Real.log (clampProbs ε
          (bornPure (usOf (userDict kw) s.1) (fun τ => C10L.toC (rbmPsi am ph τ)) s.2 / rbmZ am)))).sum) / samples.length⟩ :=
  C10_nll_born_rbm_dict ε _ (C10_userDict_Z kw hZ) am ph samples bs hlen hne

/-- … and for a `DensityMatrix(…, unitary_dict=create_dict(**kw))` (same scope `_hkeys`: registered letters only) -/
theorem C10_nll_born_rbm_mixed_userDict (ε : ℝ) (kw : Unitaries.UDict ℝ) (hZ : ∀ e ∈ kw, e.1 = 'Z' → m2c e.2 = 1)
    (am ph : PRBM ℝ n h a) (samples : List (Fin n → Bool)) (bs : List (Basis n))
    (_hkeys : ∀ b' ∈ bs, ∀ j, ((Unitaries.createDict kw).lookup (b'.get j)).isSome = true)
    (hlen : bs.length = samples.length) (hne : samples ≠ []) :
    nllMixed ε n (userDict kw) (rbmRho am ph) (rbmProbD am) (rbmZd am) samples (some bs)
      = .ok ⟨.pyfloat, -(((bs.zip samples).map (fun s => Real.log (clampProbs ε
          (bornMixed (usOf (userDict kw) s.1) (Matrix.of fun x y => C10L.toC (rbmRho am ph x y)) s.2 / rbmZd am)))).sum)
            / samples.length⟩ :=
  C10_nll_born_rbm_mixed_dict ε _ (C10_userDict_Z kw hZ) am ph samples bs hlen hne

/-- **C10.2b for `ComplexWaveFunction(…, unitary_dict=create_dict(**kw))`**: `KL ≥ 0` over every non-empty list of bases
written with REGISTERED letters (`_hkeys`: every letter is a key of `create_dict(**kw)`; a scope condition the proof does not
use — for an unregistered letter the code raises `KeyError`, the model's `getD` would rotate with the identity), for every
normalised target — the hypothesis on the dictionary is only that the REGISTERED matrices are unitary. -/
theorem C10_kl_nonneg_rbm_userDict (ε : ℝ) (hε : 0 < ε) (kw : Unitaries.UDict ℝ)
    (hkw : ∀ e ∈ kw, (m2c e.2)ᴴ * m2c e.2 = 1)
    (am ph : RBM ℝ n h) (t : ℕ → C ℝ) (ht : normSqVec (2 ^ n) t = 1) (b : Basis n) (bs : List (Basis n))
    (_hkeys : ∀ b' ∈ b :: bs, ∀ j, ((Unitaries.createDict kw).lookup (b'.get j)).isSome = true)
    (hguard : ∀ b' ∈ b :: bs, TGuard1 ε (2 ^ n) (pureBorn n (userDict kw) b' t)
        ∧ InGuard ε (2 ^ n) (fun k => pureBorn n (userDict kw) b' (vecOf n (rbmPsi am ph)) k / rbmZ am)) :
    ∃ v, klPure ε n (some (userDict kw)) (rbmPsi am ph) (rbmProb am) (rbmZ am) (.once t) (some (b :: bs))
        = .ok ⟨.pyfloat, v⟩ ∧ 0 ≤ v :=
  C10_kl_nonneg_rbm ε hε _ (C10_userDict_unitary kw hkw) am ph t ht b bs hguard

/-- **C10.2b for `DensityMatrix(…, unitary_dict=create_dict(**kw))`** (registered matrices unitary, `Z` not replaced by a
non-identity; bases written with REGISTERED letters: scope condition `_hkeys` as in `C10_kl_nonneg_rbm_userDict`) -/
theorem C10_kl_nonneg_mixed_rbm_userDict (ε : ℝ) (hε : 0 < ε) (kw : Unitaries.UDict ℝ)
    (hkw : ∀ e ∈ kw, (m2c e.2)ᴴ * m2c e.2 = 1) (hZ : ∀ e ∈ kw, e.1 = 'Z' → m2c e.2 = 1)
    (am ph : PRBM ℝ n h a) (T : ℕ → ℕ → C ℝ)
    (hT1 : ∑ k : Fin (2 ^ n), (T k.val k.val).1 = 1) (b : Basis n) (bs : List (Basis n))
    (_hkeys : ∀ b' ∈ b :: bs, ∀ j, ((Unitaries.createDict kw).lookup (b'.get j)).isSome = true)
    (hguard : ∀ b' ∈ b :: bs, TGuard1 ε (2 ^ n) (mixedBorn n (userDict kw) b' (matAt n T))
        ∧ InGuard ε (2 ^ n) (fun k => mixedBorn n (userDict kw) b' (rbmRho am ph) k / rbmZd am)) :
    ∃ v, klMixed ε n (userDict kw) (rbmRho am ph) (rbmProbD am) (rbmZd am) (.once T) (some (b :: bs))
        = .ok ⟨.pyfloat, v⟩ ∧ 0 ≤ v :=
  C10_kl_nonneg_mixed_rbm ε hε _ (C10_userDict_unitary kw hkw) (C10_userDict_Z kw hZ) am ph T hT1 b bs hguard

/-- `C10_kl_self_zero_mixed_rbm` / `C10_kl_self_zero_rbm_pos` have no hypotheses; an instance on the Hadamard-extended
dictionary, bases `H S`, `Y Z`, `X X` -/
example (ε : ℝ) (am ph : PRBM ℝ 2 h a) : klMixed ε 2 (userDict exKw) (rbmRho am ph) (rbmProbD am) (rbmZd am)
    (.once (fun i j => ((rbmRho am ph (Metrics.row 2 i) (Metrics.row 2 j)).1 / rbmZd am, (rbmRho am ph (Metrics.row 2 i) (Metrics.row 2 j)).2 / rbmZd am)))
    (some [⟨#['H', 'S'], rfl⟩, ⟨#['Y', 'Z'], rfl⟩, ⟨#['X', 'X'], rfl⟩]) = .ok ⟨.pyfloat, 0⟩ :=
  C10_kl_self_zero_mixed_rbm ε _ am ph _ _

/-- non-vacuity on the Hadamard-extended dictionary: the new letter `H` reads as the Hadamard matrix, the overridden `Y`
as the user's matrix (NOT the default `dY`), the untouched `X` as the default; every lookup is unitary and `Z ↦ 1`. -/
example : userDict exKw 'H' = Unitaries.dX ∧ userDict exKw 'Y' = (fun r c => ((if r == c then 0 else 1), 0))
    ∧ userDict exKw 'X' = defaultDict 'X' ∧ (∀ c, (m2c (userDict exKw c))ᴴ * m2c (userDict exKw c) = 1)
    ∧ m2c (userDict exKw 'Z') = 1 :=
  ⟨C10_userDict_registered _ _ _ rfl, C10_userDict_registered _ _ _ rfl, C10_userDict_untouched _ _ rfl,
    C10_userDict_unitary _ exKw_unitary, C10_userDict_Z _ exKw_Z⟩

/-- every letter of the basis `H S Y Z` is a key of `create_dict(**exKw)`: the hypothesis of `C10_userDict_siteUs` holds -/
example : Unitaries.siteUs (Unitaries.unitariesOf none (some (Unitaries.createDict exKw))) (fun _ => true)
    (⟨#['H', 'S', 'Y', 'Z'], rfl⟩ : Basis 4).get = .ok (usOf (userDict exKw) ⟨#['H', 'S', 'Y', 'Z'], rfl⟩) :=
  C10_userDict_siteUs exKw _ (by decide)

/-- the hypotheses of `C10_nll_born_rbm_userDict` / `_mixed_userDict` on the Hadamard-extended dictionary: two samples
measured in the bases `H S` and `Y Z` of a 2-qubit state with arbitrary parameters -/
example (ε : ℝ) (am ph : RBM ℝ 2 h) : ∃ v, nllPure ε 2 (some (userDict exKw)) (rbmPsi am ph) (rbmProb am) (rbmZ am)
    [fun _ => true, fun j => j = 0] (some [⟨#['H', 'S'], rfl⟩, ⟨#['Y', 'Z'], rfl⟩]) = .ok ⟨.pyfloat, v⟩ :=
  ⟨_, C10_nll_born_rbm_userDict ε exKw exKw_Z am ph _ _ (by decide) rfl (by simp)⟩

example (ε : ℝ) (am ph : PRBM ℝ 2 h a) : ∃ v, nllMixed ε 2 (userDict exKw) (rbmRho am ph) (rbmProbD am) (rbmZd am)
    [fun _ => true, fun j => j = 0] (some [⟨#['H', 'S'], rfl⟩, ⟨#['Y', 'Z'], rfl⟩]) = .ok ⟨.pyfloat, v⟩ :=
  ⟨_, C10_nll_born_rbm_mixed_userDict ε exKw exKw_Z am ph _ _ (by decide) rfl (by simp)⟩

end userdict

/-! ## 9. The `deprecated_kwarg` alias layer in front of `fidelity` / `KL` ("every code path returns …")
Model: `QV.CallForm.renameKw`, `aliasCall`, `metricBind` (QV/Model/CallForm.lean; utils/__init__.py:48-75,
training_statistics.py:26-27, 137-138); executed by driver op `c10.alias_call`. -/
section aliaslayer
open QV.CallForm
set_option linter.unusedSimpArgs false
variable {V : Type}

/-- SPECIFICATION: the values a call supplies for `target` under any of its three names -/
def targetSources (kw : List (String × V)) : List V :=
  (kwLookup kw "target").toList ++ (kwLookup kw "target_psi").toList ++ (kwLookup kw "target_rho").toList

/-- SPECIFICATION: what the undecorated function must see under the name `p`: the deprecated names are gone, `target` carries the one
supplied value, every other keyword (`space`, `bases`, ignored extras) is untouched -/
def normKw (kw : List (String × V)) (p : String) : Option V :=
  if p = "target_psi" ∨ p = "target_rho" then none
  else if p = "target" then (targetSources kw).head? else kwLookup kw p

/-- **`deprecated_kwarg.rename` for `fidelity` / `KL`**, every keyword dict: two of the three names `target`, `target_psi`, `target_rho`
⇒ `TypeError` (also the two DEPRECATED names together: the first is renamed, the second then collides); otherwise the renamed dict
gives `target` the one supplied value, drops the deprecated names and leaves everything else. Fails if a table entry pointed to
another name, the collision check were dropped or applied to the wrong name, or the popped value were lost. -/
theorem C10_alias_rename_spec (kw : List (String × V)) :
    (2 ≤ (targetSources kw).length → renameKw metricAliases kw = .error .TypeError) ∧
    ((targetSources kw).length ≤ 1 →
      ∃ kw', renameKw metricAliases kw = .ok kw' ∧ ∀ p, kwLookup kw' p = normKw kw p) := by
  cases ht : kwLookup kw "target" <;> cases hp : kwLookup kw "target_psi" <;> cases hr : kwLookup kw "target_rho" <;>
    simp only [targetSources, ht, hp, hr, Option.toList_none, Option.toList_some, List.append_nil, List.nil_append,
      List.cons_append, List.length_cons, List.length_nil, zero_add, Nat.reduceAdd, Nat.reduceLeDiff, Std.le_refl,
      nonpos_iff_eq_zero, OfNat.ofNat_ne_zero, Nat.not_ofNat_le_one, zero_le, metricAliases, renameKw, renameStep,
      kwLookup_append, kwLookup_eraseKey, String.reduceEq, ↓reduceIte, kwLookup, reduceCtorEq, imp_self, Except.ok.injEq,
      normKw, List.head?_nil, List.head?_cons, exists_eq_left', exists_const, forall_const, true_and, false_and, and_self]
  all_goals
    intro p
    have e1 : ("target_psi" = p) = (p = "target_psi") := propext eq_comm
    have e2 : ("target_rho" = p) = (p = "target_rho") := propext eq_comm
    have e3 : ("target" = p) = (p = "target") := propext eq_comm
    try simp only [e1, e2, e3]
    by_cases h1 : p = "target_psi"
    · subst h1; simp [ht, hp, hr]
    by_cases h2 : p = "target_rho"
    · subst h2; simp [ht, hp, hr]
    by_cases h3 : p = "target"
    · subst h3; simp [ht, hp, hr]
    first | (simp [h1, h2, h3]; done) | (simp [h1, h2, h3]; cases kwLookup kw p <;> rfl)

/-- **every accepted mix of positional / new-keyword / deprecated-keyword forms returns what the undecorated function returns on the
canonical call** (`kwc`: any keyword dict giving the parameters the normalised values — e.g. the same call written with `target=`),
for every signature `params`, every positional prefix, every body `f`; **two names for the target ⇒ refused and `f` not evaluated**. -/
theorem C10_alias_same_value {R : Type} (dflt : String → Option V) (params : List String) (f : List (String × V) → R)
    (pos : List V) (kw : List (String × V)) :
    (2 ≤ (targetSources kw).length → aliasCallValue metricAliases dflt params f pos kw = .error .TypeError) ∧
    ((targetSources kw).length ≤ 1 → ∀ kwc : List (String × V), (∀ p ∈ params, kwLookup kwc p = normKw kw p) →
      aliasCallValue metricAliases dflt params f pos kw =
        match bindParams dflt kwc params pos with
        | .error e => .error e
        | .ok r => .ok (f r)) := by
  obtain ⟨h2, h1⟩ := C10_alias_rename_spec kw
  refine ⟨fun h => ?_, fun h kwc hc => ?_⟩
  · simp only [aliasCallValue, aliasCall, h2 h]
  · obtain ⟨kw', hk, hl⟩ := h1 h
    have : bindParams dflt kw' params pos = bindParams dflt kwc params pos :=
      bindParams_congr dflt kw' kwc params pos (fun p hp => by rw [hl p, hc p hp])
    simp only [aliasCallValue, aliasCall, hk, this]
    cases bindParams dflt kwc params pos <;> rfl

/-- two call forms supplying the same values (under whichever names) are indistinguishable for the function -/
theorem C10_alias_forms_agree (dflt : String → Option V) (params : List String) (pos : List V)
    (kw₁ kw₂ : List (String × V)) (h₁ : (targetSources kw₁).length ≤ 1) (h₂ : (targetSources kw₂).length ≤ 1)
    (h : ∀ p ∈ params, normKw kw₁ p = normKw kw₂ p) :
    aliasCall metricAliases dflt params pos kw₁ = aliasCall metricAliases dflt params pos kw₂ := by
  obtain ⟨k₁, hk₁, hl₁⟩ := (C10_alias_rename_spec kw₁).2 h₁
  obtain ⟨k₂, hk₂, hl₂⟩ := (C10_alias_rename_spec kw₂).2 h₂
  simp only [aliasCall, hk₁, hk₂]
  exact bindParams_congr dflt k₁ k₂ params pos (fun p hp => by rw [hl₁ p, hl₂ p, h p hp])

/-- a target given positionally AND under any of the three names is refused (`fidelity(s, t, target_rho=t)`): the renamed keyword
collides with the positional argument in Python's binding -/
theorem C10_alias_positional_shadow (isKL : Bool) (pos : List Arg) (kw : List (String × Arg))
    (hpos : 2 ≤ pos.length) (hsrc : targetSources kw ≠ []) : metricBind isKL pos kw = .error .TypeError := by
  by_cases h : 2 ≤ (targetSources kw).length
  · simp only [metricBind, aliasCall, (C10_alias_rename_spec kw).1 h]
  · obtain ⟨kw', hk, hl⟩ := (C10_alias_rename_spec kw).2 (by omega)
    obtain ⟨v, hv⟩ : ∃ v, kwLookup kw' "target" = some v := by
      rw [hl "target"]
      cases hs : targetSources kw with
      | nil => exact absurd hs hsrc
      | cons v _ => exact ⟨v, by simp [normKw, hs]⟩
    simp only [metricBind, aliasCall, hk]
    exact bindParams_shadow metricDefault kw' ["nn_state"] "target" _ pos (by simp only [List.length_cons, List.length_nil]; omega) v hv

example : metricBind false [.ref 0] [("target_psi", .ref 1)]
    = .ok [("nn_state", .ref 0), ("target", .ref 1), ("space", .none)] := by rfl
example : metricBind true [.ref 0] [("bases", .ref 3), ("target_rho", .ref 1), ("junk", .int 7)]
    = metricBind true [.ref 0, .ref 1, .none, .ref 3] [] := by rfl
example : metricBind true [.ref 0] [("target_rho", .ref 1), ("target_psi", .ref 2)] = .error .TypeError := by rfl
example : metricBind false [.ref 0, .ref 1] [("target_rho", .ref 1)] = .error .TypeError := by rfl
example : targetSources [("space", Arg.ref 2), ("target_psi", Arg.ref 1)] = [Arg.ref 1] := by rfl

end aliaslayer

end C10
end QV.Props
