/-
C14 — Seeded runs are reproducible and evaluation never alters the model.   (PARTIAL)

"After seeding through the library's seeding call, the same sequence of operations
(initialisation, sampling, statistics, training) yields bit-identical samples, statistics and
trained parameters on every run, regardless of the state of any other random source in the
process, while a different seed yields different draws. Sampling, evaluating observables or
metrics, rotating, saving and computing gradients never change any model parameter."

What is proved here, and what is not.
In Lean every definition is a function, so "same inputs ⇒ same outputs" holds for any model by
construction.  The content of C14 is a FRAME statement: results depend on torch's generator,
the parameters and the arguments ONLY, and read-only operations write NO parameter.  The
model (`QV.Model.Frame`) is an op-level state machine with three separate global generators
(torch / numpy / Python `random`) in which each operation names the generator it reads, the
ordered list of calls it makes with their element counts, and the objects it writes; results
are `S.out op arch params draws` for an ARBITRARY function family `S` and an ARBITRARY stream
function `S.mix`.  All theorems hold ∀ S, ∀ histories (lists of operations), ∀ start states.

NOT proved (runtime facts no model of this code base exhibits; see `claims.d/C14.json`):
 * bit-identity of torch's CPU kernels across runs (the theorems say "equal inputs to `S.out`",
   the harness's two-process replay examines the implementation);
 * "a different seed yields different draws": only `C14_different_seed_partial` and
   `C14_same_stream_same_results` — the results are a function of the STREAM of the seed word torch
   derives from the seed (`seedWord`: any Python int in [-2^63, 2^64), reduced mod 2^64; everything
   else is refused, `C14_seed_accepted` / `C14_seed_rejected`) — are proved; that two seed words have
   different streams is a property of torch's PRNG (it reads the low 32 bits of the word; the harness
   measures this directly on torch and requires different draws exactly when torch's own streams differ).
   Full statement, not proved:
     theorem C14_different_seed : seedWord s ≠ seedWord s' → (run S st (.setSeed s true :: ops)).2
                                          ≠ (run S st (.setSeed s' true :: ops)).2
   (false for a constant `mix`, for torch's seeds congruent mod 2^32, and for histories that draw nothing).
-/
import QV.Model.Frame
import QV.Lemmas.Frame

namespace QV.Props
namespace C14
open QV.Frame

variable {P O : Type}

/-! ## 1. noninterference of numpy's / Python's generators -/

/-- **C14.1 (frame, noninterference).** Two processes that agree on torch's generator, the number of
objects allocated, the objects and the files — and differ ARBITRARILY in numpy's and Python's generator states —
execute histories with the same library part (the foreign `numpy.random` / `random` operations
may be different and differently interleaved).  Then every recorded result is the same, and
the final torch generator, objects (all parameters) and files are the same. -/
theorem C14_frame_rng (S : Sem P O) (st₁ st₂ : St P)
    (htorch : st₁.torchGen = st₂.torchGen) (hid : st₁.nextId = st₂.nextId)
    (hobjs : st₁.objs = st₂.objs) (hfiles : st₁.files = st₂.files)
    (ops₁ ops₂ : List Op) (hlib : lib ops₁ = lib ops₂) :
    (run S st₁ ops₁).2 = (run S st₂ ops₂).2
      ∧ (run S st₁ ops₁).1.torchGen = (run S st₂ ops₂).1.torchGen
      ∧ (run S st₁ ops₁).1.objs = (run S st₂ ops₂).1.objs
      ∧ (run S st₁ ops₁).1.files = (run S st₂ ops₂).1.files := by
  have hA : Agree 0 st₁ st₂ := ⟨htorch, hid, fun i _ => by rw [hobjs], fun p => by rw [hfiles]⟩
  obtain ⟨h1, h2⟩ := run_agree S hA ops₁ ops₂ hlib (fun _ _ _ _ => Nat.zero_le _)
  exact ⟨h2, h1.torch, funext (fun i => h1.objs i (Nat.zero_le _)), funext h1.files⟩

/-- **C14.1' (the other two sources are returned unchanged).** A history without foreign
operations — any interleaving of library calls and torch draws — leaves numpy's and Python's
generators exactly as they were. -/
theorem C14_frame_rng_unchanged (S : Sem P O) (ops : List Op) (hlibonly : ∀ op ∈ ops, op.isExternal = false) :
    ∀ st : St P, (run S st ops).1.numpyGen = st.numpyGen ∧ (run S st ops).1.pyGen = st.pyGen := fun st =>
  run_invariant S (fun m => m.numpyGen = st.numpyGen ∧ m.pyGen = st.pyGen) ops
    (fun op hop m hm =>
      have h := step_other_gens S m op (hlibonly op hop)
      ⟨h.1.trans hm.1, h.2.trans hm.2⟩)
    st ⟨rfl, rfl⟩

/-! ## 2. seeded determinism -/

/-- **C14.2 (seeded determinism).** `m₁`, `m₂` are two processes at the moment
`set_random_seed(s)` is called.  Their three generators are ARBITRARY (whatever preceded the
seeding does not matter).  They have allocated the same number of objects, hold the same files,
and agree on the objects in slots `≥ b`; the histories after the seeding have the same library
part and address only slots `≥ b`; the seed is ANY Python int torch accepts (`seedWord s = some w`:
`-2^63 ≤ s < 2^64`).  Then all results after the seeding are equal, and so are
the final torch generator, all parameters in slots `≥ b`, and the files. -/
theorem C14_seeded_determinism (S : Sem P O) (b : Nat) (m₁ m₂ : St P)
    (hid : m₁.nextId = m₂.nextId) (hobjs : ∀ i, b ≤ i → m₁.objs i = m₂.objs i)
    (hfiles : m₁.files = m₂.files) (s : Int) (w : Nat) (hs : seedWord s = some w)
    (suf₁ suf₂ : List Op) (hlib : lib suf₁ = lib suf₂) (hclosed : ClosedAbove b suf₁) :
    (run S m₁ (.setSeed s true :: suf₁)).2 = (run S m₂ (.setSeed s true :: suf₂)).2
      ∧ Agree b (run S m₁ (.setSeed s true :: suf₁)).1 (run S m₂ (.setSeed s true :: suf₂)).1 := by
  have hA : Agree b (step S m₁ (.setSeed s true)).1 (step S m₂ (.setSeed s true)).1 := by
    rw [step_setSeed_ok S m₁ s w hs, step_setSeed_ok S m₂ s w hs]
    exact ⟨rfl, hid, hobjs, fun p => by show m₁.files p = m₂.files p; rw [hfiles]⟩
  obtain ⟨h1, h2⟩ := run_agree S hA suf₁ suf₂ hlib hclosed
  rw [run_cons, run_cons]
  refine ⟨?_, h1⟩
  simp only [Op.isExternal, Bool.false_eq_true, if_false, h2]
  rw [step_setSeed_ok S m₁ s w hs, step_setSeed_ok S m₂ s w hs]

/-- **C14.2a** equal parameter stores at the seeding point: nothing else is needed. -/
theorem C14_seeded_determinism_same_store (S : Sem P O) (m₁ m₂ : St P)
    (hid : m₁.nextId = m₂.nextId) (hobjs : m₁.objs = m₂.objs) (hfiles : m₁.files = m₂.files)
    (s : Int) (w : Nat) (hs : seedWord s = some w) (suf₁ suf₂ : List Op) (hlib : lib suf₁ = lib suf₂) :
    (run S m₁ (.setSeed s true :: suf₁)).2 = (run S m₂ (.setSeed s true :: suf₂)).2
      ∧ (run S m₁ (.setSeed s true :: suf₁)).1.objs = (run S m₂ (.setSeed s true :: suf₂)).1.objs := by
  obtain ⟨h1, h2⟩ := C14_seeded_determinism S 0 m₁ m₂ hid (fun i _ => by rw [hobjs]) hfiles s w hs suf₁ suf₂ hlib
    (fun _ _ _ _ => Nat.zero_le _)
  exact ⟨h1, funext (fun i => h2.objs i (Nat.zero_le _))⟩

/-- **C14.2b** ARBITRARY (different) parameter stores at the seeding point, as long as the
history after the seeding only uses objects it constructs itself (slots `≥ nextId`): results and
the parameters of all those objects are equal. -/
theorem C14_seeded_determinism_fresh_objects (S : Sem P O) (m₁ m₂ : St P)
    (hid : m₁.nextId = m₂.nextId)
    (hwf₁ : ∀ i, m₁.nextId ≤ i → m₁.objs i = none) (hwf₂ : ∀ i, m₂.nextId ≤ i → m₂.objs i = none)
    (hfiles : m₁.files = m₂.files) (s : Int) (w : Nat) (hs : seedWord s = some w)
    (suf₁ suf₂ : List Op) (hlib : lib suf₁ = lib suf₂) (hclosed : ClosedAbove m₁.nextId suf₁) :
    (run S m₁ (.setSeed s true :: suf₁)).2 = (run S m₂ (.setSeed s true :: suf₂)).2
      ∧ ∀ i, m₁.nextId ≤ i →
          (run S m₁ (.setSeed s true :: suf₁)).1.objs i = (run S m₂ (.setSeed s true :: suf₂)).1.objs i := by
  obtain ⟨h1, h2⟩ := C14_seeded_determinism S m₁.nextId m₁ m₂ hid
    (fun i hi => by rw [hwf₁ i hi, hwf₂ i (hid ▸ hi)]) hfiles s w hs suf₁ suf₂ hlib hclosed
  exact ⟨h1, h2.objs⟩

/-- **C14.2c (whole histories).** Two runs from arbitrary processes with arbitrary, different
prefixes `pre₁`, `pre₂`, then `set_random_seed(s)`, then histories with the same library part:
if the prefixes left the same store (from slot `b` on) and files, the results recorded after the
prefix coincide. -/
theorem C14_seeded_determinism_histories (S : Sem P O) (b : Nat) (st₁ st₂ : St P) (pre₁ pre₂ : List Op)
    (hid : (run S st₁ pre₁).1.nextId = (run S st₂ pre₂).1.nextId)
    (hobjs : ∀ i, b ≤ i → (run S st₁ pre₁).1.objs i = (run S st₂ pre₂).1.objs i)
    (hfiles : (run S st₁ pre₁).1.files = (run S st₂ pre₂).1.files) (s : Int) (w : Nat) (hs : seedWord s = some w)
    (suf₁ suf₂ : List Op) (hlib : lib suf₁ = lib suf₂) (hclosed : ClosedAbove b suf₁) :
    (run S st₁ (pre₁ ++ .setSeed s true :: suf₁)).2.drop (run S st₁ pre₁).2.length
      = (run S st₂ (pre₂ ++ .setSeed s true :: suf₂)).2.drop (run S st₂ pre₂).2.length
    ∧ Agree b (run S st₁ (pre₁ ++ .setSeed s true :: suf₁)).1 (run S st₂ (pre₂ ++ .setSeed s true :: suf₂)).1 := by
  obtain ⟨h1, h2⟩ := C14_seeded_determinism S b _ _ hid hobjs hfiles s w hs suf₁ suf₂ hlib hclosed
  rw [run_append, run_append]
  simp only [List.drop_left]
  exact ⟨h1, h2⟩

/-! ## 3. read-only evaluation -/

/-- **C14.3 (one step).** Every operation other than construction, `reinitialize_parameters`,
`fit` and `load` — in particular `sample`, `statistics`, observable evaluation, metrics,
rotations, every gradient method and `save` — leaves EVERY parameter of EVERY object unchanged. -/
theorem C14_read_only_step (S : Sem P O) (st : St P) (op : Op) (h : op.writesParams = false) :
    (step S st op).1.objs = st.objs :=
  (step_objs_of_not_writes S st op h).1

/-- the operations the property names are among them -/
theorem C14_read_only_ops (i k num ns nc bi stp arg rows path : Nat) (init : Option Nat) :
    (Op.sample i k num init arg).writesParams = false
    ∧ (Op.statistics i ns nc bi stp init arg).writesParams = false
    ∧ (Op.eval i arg).writesParams = false ∧ (Op.metric i arg).writesParams = false
    ∧ (Op.rotate i arg).writesParams = false ∧ (Op.gradient i arg).writesParams = false
    ∧ (Op.batchGradient i k rows arg).writesParams = false ∧ (Op.save i path).writesParams = false :=
  ⟨rfl, rfl, rfl, rfl, rfl, rfl, rfl, rfl⟩

/-- **C14.3 (all histories).** After any history `ops₁`, any further history `ops₂` made of
non-writing operations leaves all parameters as `ops₁` left them. -/
theorem C14_read_only (S : Sem P O) (st : St P) (ops₁ ops₂ : List Op)
    (h : ∀ op ∈ ops₂, op.writesParams = false) :
    (run S st (ops₁ ++ ops₂)).1.objs = (run S st ops₁).1.objs := by
  rw [run_append]
  exact run_invariant S (fun m => m.objs = (run S st ops₁).1.objs) ops₂
    (fun op hop m hm => (C14_read_only_step S m op (h op hop)).trans hm) _ rfl

/-- **C14.3' (other objects).** An existing object is changed only by operations addressed to
it: training, re-initialising or loading ANOTHER object, or constructing new ones, leaves its
parameters unchanged. -/
theorem C14_read_only_other_objects (S : Sem P O) (j : Nat) (ops : List Op)
    (h : ∀ op ∈ ops, op.slot? ≠ some j) :
    ∀ st : St P, j < st.nextId → (run S st ops).1.objs j = st.objs j := fun st hj =>
  (run_invariant S (fun m => j < m.nextId ∧ m.objs j = st.objs j) ops
    (fun op hop m hm => ⟨Nat.lt_of_lt_of_le hm.1 (step_nextId_le S m op),
      (step_objs_other S m op j (h op hop) hm.1).trans hm.2⟩) st ⟨hj, rfl⟩).2

/-- **C14.3'' (sub-history of the writing operations).** The final process state (generators,
all parameters, files) of a history equals that of the history in which every read-only
operation (sample, statistics, evaluation, metric, rotation, gradient) is replaced by merely
drawing the same number of values from torch's generator.  (Dropping them altogether would
shift the stream seen by later `fit`s; that shift is their ONLY effect.) -/
theorem C14_read_only_skeleton (S : Sem P O) (st : St P) (ops : List Op) :
    (run S st ops).1 = (run S st (skeleton S st ops)).1 :=
  (run_skeleton S ops st).symm

/-! ## 4. how much of torch's stream each operation consumes -/

/-- **C14.4 (one step).** An operation other than `set_random_seed(·, cpu=True)` keeps the seed
and advances torch's generator by exactly the total element count of the random calls the model
lists for it (`stepCalls`; the harness compares the element TOTAL per operation with what the recorders observe —
which torch function draws the elements and in which order inside one operation is not compared). -/
theorem C14_draw_count_step (S : Sem P O) (st : St P) (op : Op) (h : ∀ s', op ≠ .setSeed s' true) :
    (step S st op).1.torchGen = ⟨st.torchGen.seedOf, st.torchGen.pos + stepDraws st op⟩ :=
  step_torchGen S st op fun s' e => absurd e (h s')

/-- **C14.4 (histories).** After `set_random_seed(s)` and any history without a further
`set_random_seed(·, cpu=True)`, torch's generator is at position `Σ draws` of the stream of the seed word of `s`. -/
theorem C14_draw_count (S : Sem P O) (s : Int) (w : Nat) (hs : seedWord s = some w) (ops : List Op)
    (h : ∀ op ∈ ops, ∀ s', op ≠ .setSeed s' true) :
    ∀ st : St P, (run S st (.setSeed s true :: ops)).1.torchGen
      = ⟨w, histDraws S (step S st (.setSeed s true)).1 ops⟩ := by
  intro st
  rw [run_cons]
  show (run S (step S st (.setSeed s true)).1 ops).1.torchGen = _
  rw [run_torchGen S ops (fun op hop s' e => absurd e (h op hop s')), step_setSeed_ok S st s w hs, Nat.zero_add]

/-- **C14.4 closed forms.** The ordered call lists (written with the code's loop structure)
add up to the stated functions of the arguments:
construction `h·n [+ a·n]` normals per network; `sample` `B·n` start bits (unless an initial
state is given) `+ k·B·(h[+a]+n)`; `statistics` a burn-in sample plus `⌈num_samples/chains⌉ - 1`
continuations; a completed `fit` per epoch `N + [numBatches·negB] + k·(negative rows)·(h[+a]+n)`. -/
theorem C14_draw_count_closed_forms (A : Arch) :
    callsTotal (initCalls A) = initDraws A
    ∧ (∀ k num init, callsTotal (sampleCalls A k num init) = sampleDraws A k num init)
    ∧ (∀ k rows, callsTotal (gibbsCalls A k rows) = k * (rows * units A))
    ∧ (∀ ns nc bi stp init, (statCalls A ns nc bi stp init).2 = none →
        callsTotal (statCalls A ns nc bi stp init).1 = statDraws A ns nc bi stp init)
    ∧ (∀ c : FitCfg, (fitCalls A c).2 = none → callsTotal (fitCalls A c).1 = fitDraws A c) :=
  ⟨callsTotal_init A, callsTotal_sample A, callsTotal_gibbs A, callsTotal_stat A, callsTotal_fit A⟩

/-- `_shuffle_data`'s batches partition the epoch: `range(0, N, B)` slices have sizes adding up
to `N`, and there are `⌈N/B⌉` of them. -/
theorem C14_draw_count_batches (N B : Nat) (hB : 0 < B) :
    listSum (sliceSizes N B) = N ∧ (sliceSizes N B).length = ceilDiv N B :=
  ⟨sliceSizes_sum N B hB, sliceSizes_length N B hB⟩

/-! ## 4b. `Observable.sample`, `fit` with an evaluator callback -/

/-- **C14.3 (the write set, complete).** An operation of the model may assign to a parameter ONLY if it is a
construction, `reinitialize_parameters`, `fit` or `load`; every other operation — in particular `Observable.sample`
(`obsSample`: it draws exactly what `NeuralState.sample` with the same arguments draws and is read-only) — is covered
by `C14_read_only_step` / `C14_read_only`.  (Which PUBLIC callables of the library fall into which operation class is
established by the correspondence harness, by introspection of the API; a public callable without a class breaks the check.) -/
theorem C14_read_only_ops_ext (i k num arg : Nat) (init : Option Nat) :
    (Op.obsSample i k num init arg).writesParams = false ∧ (Op.obsSample i k num init arg).isPure = true ∧
    (∀ (st : St P), stepCalls st (.obsSample i k num init arg) = stepCalls st (.sample i k num init arg)) ∧
    (∀ op : Op, op.writesParams = true →
      (∃ kd n h a, op = .construct kd n h a) ∨ (∃ j, op = .reinit j) ∨ (∃ j c, op = .fit j c) ∨ (∃ j p, op = .load j p)) := by
  refine ⟨rfl, rfl, fun st => ?_, fun op h => ?_⟩
  · rw [stepCalls_slot st rfl, stepCalls_slot st rfl]
    rfl
  · cases op <;> simp [Op.writesParams] at h
    · exact Or.inl ⟨_, _, _, _, rfl⟩
    · exact Or.inr (Or.inl ⟨_, rfl⟩)
    · exact Or.inr (Or.inr (Or.inl ⟨_, _, rfl⟩))
    · exact Or.inr (Or.inr (Or.inr ⟨_, _, rfl⟩))

/-- **C14.4 (training with a sampling callback).** `fit(…, callbacks=[ObservableEvaluator(period, …)])` draws from
torch's generator INSIDE the epoch loop. Whether the call raises is not affected by the evaluator, and when it
completes there is one block `E` of training calls (the witness is `epochCalls`: shuffle + Gibbs chains of the batches;
the statement only says that a block exists) such that the plain
`fit` makes `E` once per epoch while the `fit` with the evaluator makes, epoch by epoch, `E` followed — exactly in
the epochs `e` with `e % period == 0`, and after that epoch's last batch — by the calls of one `statistics(num_samples,
num_chains, burn_in, steps)`.  So the later epochs' shuffles see a stream shifted by the evaluator's draws: a seeded
run with an evaluator is reproducible (`C14_seeded_determinism` is about every `Op`, hence about this one), but it
is NOT the same run as without the evaluator. -/
theorem C14_fit_evaluator_calls (A : Arch) (c : FitCfg) :
    (fitCalls A c).2 = (fitCalls A c.noEval).2 ∧
    ((fitCalls A c).2 = none → ∃ E : List Call,
      (fitCalls A c.noEval).1 = (List.replicate c.numEpochs E).flatten ∧
      (fitCalls A c).1 = ((List.range c.numEpochs).map (fun j => E ++ evalCalls A c (c.startEpoch + j))).flatten) := by
  refine ⟨(fitCalls_err A c).trans (fitCalls_err A c.noEval).symm, fun hok => ⟨epochCalls A c, ?_, fitCalls_ok hok⟩⟩
  rw [fitCalls_ok (((fitCalls_err A c.noEval).trans (fitCalls_err A c).symm).trans hok)]
  show ((List.range c.numEpochs).map (fun _ => epochCalls A c ++ [])).flatten = _
  rw [List.append_nil, List.map_const', List.length_range]

/-- **C14.4 closed form with an evaluator.** A completed `fit` with an evaluator draws what the plain `fit` draws plus
one `statistics` worth of elements per epoch divisible by the period. -/
theorem C14_fit_evaluator_draws (A : Arch) (c : FitCfg) (cb : EvalCb) (h : c.evalCb = some cb)
    (hok : (fitCalls A c).2 = none) :
    callsTotal (fitCalls A c).1 = fitDraws A c.noEval
      + evalEpochs c cb.period * statDraws A cb.numSamples cb.numChains cb.burnIn cb.steps none := by
  rw [callsTotal_fit A c hok]
  unfold fitDraws evalDraws
  simp only [FitCfg.noEval, FitCfg.numEpochs, FitCfg.negB', effBases, h, Nat.add_zero]
  rfl

/-- **C14.4 (how often the evaluator samples).** Among the epochs `starting_epoch … epochs` exactly
`⌈(epochs+1)/p⌉ − ⌈starting_epoch/p⌉` are divisible by the period `p` (for `starting_epoch ≤ epochs + 1`). -/
theorem C14_eval_epochs_closed (c : FitCfg) (p : Nat) (hp : 0 < p) (hse : c.startEpoch ≤ c.epochs + 1) :
    evalEpochs c p = ceilDiv (c.epochs + 1) p - ceilDiv c.startEpoch p := by
  have := multiples_count p hp c.startEpoch c.numEpochs
  have e : c.startEpoch + c.numEpochs = c.epochs + 1 := by unfold FitCfg.numEpochs; omega
  rw [e] at this
  unfold evalEpochs
  omega

/-! ## 5. dependence on the seed — partial -/

/-- **C14.5 (partial).** The whole run after `set_random_seed(s)` — every result, every
parameter, the files — depends on the stream function only through the streams of the seeds
used: replacing `S.mix` by any `mix'` with the same stream for `s` (and for any later seed)
changes nothing.  I.e. the draws are a function of the seed's stream.
NOT proved: that different seeds have different streams (a property of torch's PRNG), hence not
"a different seed yields different draws". -/
theorem C14_different_seed_partial (S : Sem P O) (mix' : Nat → Nat → Nat) (s : Int) (w : Nat)
    (hw : seedWord s = some w) (st : St P)
    (ops : List Op) (hs : StreamEq S.mix mix' w)
    (hseeds : ∀ op ∈ ops, ∀ s' w', op = .setSeed s' true → seedWord s' = some w' → StreamEq S.mix mix' w')
    (hlibonly : ∀ op ∈ ops, op.isExternal = false) :
    run (S.withMix mix') st (.setSeed s true :: ops) = run S st (.setSeed s true :: ops) := by
  obtain ⟨h1, h2⟩ := run_gen S mix' ops { st with torchGen := ⟨w, 0⟩ } ⟨w, 0⟩ rfl (fun i => (hs i).symm)
    (fun op hop s' w' e hw' i => (hseeds op hop s' w' e hw' i).symm)
  rw [run_cons, run_cons, step_setSeed_ok _ st s w hw, step_setSeed_ok S st s w hw]
  exact Prod.ext (h2 rfl) (congrArg (Out.none :: ·) h1)

/-- **C14.5' (which seeds are seeds).** `set_random_seed(s)` hands `s` to torch unchanged, so it is an effective
seeding exactly for the Python ints torch accepts, `-2^63 ≤ s < 2^64`, and then the generator restarts at
position 0 of the stream of `s mod 2^64`. In particular two accepted seeds are identified by the library
ONLY if they are congruent modulo 2^64 (`-1` and `2^64 - 1`) — not modulo 2^31 or 2^32. -/
theorem C14_seed_accepted (S : Sem P O) (st : St P) (s : Int)
    (hlo : -9223372036854775808 ≤ s) (hhi : s < 18446744073709551616) :
    step S st (.setSeed s true) = ({ st with torchGen := ⟨(s % 18446744073709551616).toNat, 0⟩ }, .none) :=
  step_setSeed_ok S st s _ (by simp [seedWord, hlo, hhi])

/-- … every other int is refused with `ValueError` and NOTHING changes (the process is not seeded); with
`cpu=False` the call never touches torch's CPU generator, whatever the seed. -/
theorem C14_seed_rejected (S : Sem P O) (st : St P) (s : Int)
    (h : s < -9223372036854775808 ∨ 18446744073709551616 ≤ s) :
    step S st (.setSeed s true) = (st, .err .ValueError) ∧ step S st (.setSeed s false) = (st, .none) := by
  refine ⟨step_setSeed_rejected S st s ?_, rfl⟩
  unfold seedWord
  rw [if_neg]
  omega

theorem C14_seed_cpu_false (S : Sem P O) (st : St P) (s : Int) : step S st (.setSeed s false) = (st, .none) := rfl

/-- distinct accepted seeds give distinct seed words unless they differ by exactly 2^64 -/
theorem C14_seed_word_injective (s s' : Int) (w : Nat) (h : seedWord s = some w) (h' : seedWord s' = some w) :
    s = s' ∨ s = s' + 18446744073709551616 ∨ s' = s + 18446744073709551616 := by
  unfold seedWord at h h'
  split at h <;> split at h' <;> simp only [Option.some.injEq, reduceCtorEq] at h h'
  omega

/-- **C14.5'' (same stream ⇒ same results).** Two seedings whose seed words have the same stream under `S.mix`
(for torch: words congruent modulo 2^32) are followed by exactly the same results, for every history — the
converse direction of "a different seed yields different draws" that IS a theorem: results depend on the seed
through its stream only. -/
theorem C14_same_stream_same_results (S : Sem P O) (st : St P) (s s' : Int) (w w' : Nat)
    (hw : seedWord s = some w) (hw' : seedWord s' = some w') (hstream : ∀ i, S.mix w i = S.mix w' i)
    (ops : List Op) :
    (run S st (.setSeed s true :: ops)).2 = (run S st (.setSeed s' true :: ops)).2 := by
  rw [run_cons, run_cons, step_setSeed_ok S st s w hw, step_setSeed_ok S st s' w' hw']
  exact congrArg (Out.none :: ·)
    (run_gen S S.mix ops { st with torchGen := ⟨w, 0⟩ } ⟨w', 0⟩ rfl (fun i => (hstream i).symm) (fun _ _ _ _ _ _ _ => rfl)).1.symm

/-- the consumed draws are the next segment of the stream of the current seed -/
theorem C14_draws_are_stream_segment (S : Sem P O) (g : Gen) (m : Nat) :
    (Gen.take S.mix m g).1 = (List.range m).map (fun i => S.mix g.seedOf (g.pos + i)) :=
  congrArg Prod.fst (take_eq S.mix m g)

/-! ## non-vacuity: concrete instances (token semantics, executed by the driver) -/

section examples

/-- two processes at the seeding point: different torch / numpy / Python generator states -/
def exM₁ : St Nat := St.fresh Nat ⟨11, 5⟩ ⟨1, 0⟩ ⟨2, 0⟩
def exM₂ : St Nat := St.fresh Nat ⟨77, 123⟩ ⟨8, 41⟩ ⟨9, 3⟩

/-- a history after the seeding: a density matrix and a positive state are built, sampled,
statistics, a gradient with Gibbs chain, save; numpy / `random` perturbed differently -/
def exSuf₁ : List Op :=
  [.perturbNumpy 3, .construct .dens 2 (some 3) (some 1), .construct .pos 3 none none, .seedPy 4,
   .sample 0 2 5 none 0, .statistics 1 7 2 3 1 none 0, .batchGradient 0 2 4 1, .save 0 0, .reinit 1,
   .sample 1 0 4 none 0]
def exSuf₂ : List Op :=
  [.construct .dens 2 (some 3) (some 1), .seedNumpy 99, .construct .pos 3 none none,
   .sample 0 2 5 none 0, .perturbPy 17, .statistics 1 7 2 3 1 none 0, .batchGradient 0 2 4 1, .save 0 0,
   .perturbNumpy 1, .reinit 1, .sample 1 0 4 none 0]

example : lib exSuf₁ = lib exSuf₂ := by decide
example : ClosedAbove exM₁.nextId exSuf₁ := fun _ _ _ _ => Nat.zero_le _
example : exSuf₁ ≠ exSuf₂ := by decide

/-- the hypothesis "seeded" matters: WITHOUT the seeding call the two processes (different torch
generator states) produce different results under the token semantics … -/
example : (run tokenSem exM₁ exSuf₁).2 ≠ (run tokenSem exM₂ exSuf₂).2 := by decide +kernel

/-- … and WITH it they produce the same ones (instance of `C14_seeded_determinism`). -/
example : (run tokenSem exM₁ (.setSeed 5 true :: exSuf₁)).2 = (run tokenSem exM₂ (.setSeed 5 true :: exSuf₂)).2 :=
  (C14_seeded_determinism tokenSem 0 exM₁ exM₂ rfl (fun _ _ => rfl) rfl 5 5 (by decide) exSuf₁ exSuf₂ (by decide)
    (fun _ _ _ _ => Nat.zero_le _)).1

/-- `set_random_seed(s, cpu=False)` is NOT a seeding: the conclusion fails for it. -/
example : (run tokenSem exM₁ (.setSeed 5 false :: exSuf₁)).2 ≠ (run tokenSem exM₂ (.setSeed 5 false :: exSuf₂)).2 := by
  decide +kernel

/-- under the token semantics a different seed does give different results (this is a fact about
`tokenSem.mix`, the analogue of the PRNG-quality assumption, not a theorem about all `S`). -/
example : (run tokenSem exM₁ (.setSeed 5 true :: exSuf₁)).2 ≠ (run tokenSem exM₁ (.setSeed 6 true :: exSuf₁)).2 := by
  decide +kernel

/-- … also for seeds that differ only in bit 31 (`7` and `7 + 2^31`) and for a negative seed and its absolute
value; whereas `7` and `7 + 2^32` have the same stream under the token semantics (as they have for torch's
mt19937) and, by `C14_same_stream_same_results`, the same results; and `-1` is the same seed as `2^64 - 1`. -/
example : (run tokenSem exM₁ (.setSeed 7 true :: exSuf₁)).2 ≠ (run tokenSem exM₁ (.setSeed 2147483655 true :: exSuf₁)).2 := by
  decide +kernel
example : (run tokenSem exM₁ (.setSeed 5 true :: exSuf₁)).2 ≠ (run tokenSem exM₁ (.setSeed (-5) true :: exSuf₁)).2 := by
  decide +kernel
example : (run tokenSem exM₁ (.setSeed 7 true :: exSuf₁)).2 = (run tokenSem exM₁ (.setSeed 4294967303 true :: exSuf₁)).2 :=
  C14_same_stream_same_results tokenSem exM₁ 7 4294967303 7 4294967303 (by decide) (by decide) (fun _ => rfl) exSuf₁
example : seedWord (-1) = seedWord 18446744073709551615 := by decide
example : seedWord 18446744073709551616 = none ∧ seedWord (-9223372036854775809) = none := by decide

/-- The CONTENT of `initial_state` is part of the operation (`arg` of `Op.sample`): two histories that differ only in the
start chains handed to one `sample(k = 0, initial_state = …)` call (same row count, same `num_samples`) are NOT "the same
sequence of operations" — `lib` separates them, so `C14_seeded_determinism` says nothing about the pair — and under the
token semantics the two calls return different values although they sit at the same position of the same stream on the
same unchanged object (as the library does: `k = 0` returns the clone of the start chains). -/
example : lib (exSuf₁ ++ [.sample 0 0 2 (some 4) 17]) ≠ lib (exSuf₁ ++ [.sample 0 0 2 (some 4) 18]) := by decide
example : (run tokenSem exM₁ (.setSeed 5 true :: exSuf₁ ++ [.sample 0 0 2 (some 4) 17])).2
    ≠ (run tokenSem exM₁ (.setSeed 5 true :: exSuf₁ ++ [.sample 0 0 2 (some 4) 18])).2 := by decide +kernel
/-- … whereas the SAME call repeated at the same stream position on the unchanged object (re-seeding in between) returns the
same value: the pattern the harness' `pattern/results` point relies on. -/
def exRep : List (Out Nat) :=
  (run tokenSem exM₁ [.setSeed 5 true, .construct .pos 3 none none, .setSeed 9 true, .sample 0 0 2 (some 4) 17,
      .setSeed 9 true, .sample 0 0 2 (some 4) 17, .setSeed 9 true, .sample 0 0 2 (some 4) 18]).2
example : exRep[3]? = exRep[5]? ∧ exRep[3]? ≠ exRep[7]? ∧ exRep[3]? ≠ some .none ∧ exRep.length = 8 := by decide +kernel

/-- draw counts of the example: density matrix n=2,h=3,a=1 → 2·(3·2+1·2) = 16 normals;
`sample(k=2, 5 chains)` → 5·2 + 2·5·(3+1+2) = 70; a fit of a positive state with N=10, B=4,
k=2, 3 epochs, n=3, h=3: 3·(10 + 2·10·6) = 390; with neg_batch_size=3: 3·(10 + 9 + 2·9·6) = 381. -/
example : initDraws (resolveArch .dens 2 (some 3) (some 1)) = 16 := by decide
example : sampleDraws (resolveArch .dens 2 (some 3) (some 1)) 2 5 none = 70 := by decide
example : fitDraws (resolveArch .pos 3 none none) ⟨10, 3, 1, 4, none, 2, none, 0, none⟩ = 390 := by decide
example : fitDraws (resolveArch .pos 3 none none) ⟨10, 3, 1, 4, some 3, 2, none, 0, none⟩ = 381 := by decide

/-- with an evaluator of period 2 (5 samples, 2 chains, burn-in 3, 1 step) on epochs 1..3: one extra `statistics` (epoch 2):
2·3 + 3·2·6 + 2·(1·2·6) = 66 more elements -/
example : fitDraws (resolveArch .pos 3 none none) ⟨10, 3, 1, 4, none, 2, none, 0, some ⟨1, 4, 2, 3, 1⟩⟩ = 390 + 66 := by decide
example : evalEpochs (⟨10, 7, 2, 4, none, 2, none, 0, none⟩ : FitCfg) 3 = 2 := by decide

end examples

/-! ## 6. attribute forwarding (`NeuralStateBase.__getattr__`, `WaveFunctionBase.__getattr__`) and the
`compute_normalization` alias. Model: `QV.Frame.resolveMethod`, `rbmMethods`, `fwdOp`, `normalizationOp`; driver op `c14.resolve`. -/
section forwarding

/-- SPECIFICATION (independent list): the read-only evaluators of the two RBM classes, five of `BinaryRBM` and nine of
`PurificationRBM` (ten names in all) -/
def fwdEvaluatorNames (kd : Kind) : List String :=
  match kd with
  | .dens => ["effective_energy", "effective_energy_gradient", "gamma", "gamma_grad", "mixing_term", "partition",
      "prob_a_given_v", "prob_h_given_v", "prob_v_given_ha"]
  | _ => ["effective_energy", "effective_energy_gradient", "partition", "prob_h_given_v", "prob_v_given_h"]

theorem resolveMethod_forwarded {own : String → Bool} {kd : Kind} {name : String} {c : FwdClass}
    (h : resolveMethod own kd name = .forwarded c) :
    own name = false ∧ methodLookup (rbmMethods kd) name = some c := by
  unfold resolveMethod at h
  cases ho : own name <;> rw [ho] at h
  · cases hm : methodLookup (rbmMethods kd) name <;> rw [hm] at h <;> cases h
    exact ⟨rfl, rfl⟩
  · cases h

theorem stepDraws_eval (st : St P) (slot arg : Nat) : stepDraws st (.eval slot arg) = 0 := by
  rw [stepDraws, stepCalls_slot st rfl]
  cases st.objs slot <;> rfl

/-- **a forwarded call is the RBM method on `rbm_am`, and — unless it is `initialize_parameters` — read-only.** If `state.<name>` is answered
by `__getattr__` (`resolveMethod … = forwarded c`) then the state does not define the name, `c` is the class of the method of that
name of the RBM class of `rbm_am`, and the operation it denotes (`fwdOp`) writes no parameter of any object; an EVALUATOR moreover draws
nothing (torch's generator is left where it was), `gibbs_steps` draws exactly the Bernoulli calls of `k` Gibbs steps on `rows` chains
(the same frame as `compute_batch_gradients`' negative phase). Fails if e.g. `partition` were classified as a sampler, `gibbs_steps`
as an evaluator, `initialize_parameters` as an operation, or resolution preferred the RBM over the state's own attribute. -/
theorem C14_forwarded_read_only (S : Sem P O) (own : String → Bool) (kd : Kind) (name : String) (c : FwdClass)
    (h : resolveMethod own kd name = .forwarded c) :
    own name = false ∧ methodLookup (rbmMethods kd) name = some c ∧
    ∀ (slot arg k rows : Nat) (op : Op), fwdOp slot arg k rows c = some op →
      op.writesParams = false ∧ op.isPure = true ∧ op.slot? = some slot ∧
      (∀ st : St P, (step S st op).1.objs = st.objs) ∧
      (c = .evaluator → op = .eval slot arg ∧ ∀ st : St P, stepDraws st op = 0 ∧ (step S st op).1.torchGen = st.torchGen) ∧
      (c = .gibbs → op = .batchGradient slot k rows arg ∧
        ∀ (st : St P) (ob : Obj P), st.objs slot = some ob → stepCalls st op = gibbsCalls ob.arch k rows) := by
  obtain ⟨hown, hl⟩ := resolveMethod_forwarded h
  refine ⟨hown, hl, fun slot arg k rows op hop => ?_⟩
  cases c <;> cases hop
  case evaluator =>
    refine ⟨rfl, rfl, rfl, fun st => C14_read_only_step S st _ rfl,
      fun _ => ⟨rfl, fun st => ⟨stepDraws_eval st slot arg, ?_⟩⟩, nofun⟩
    rw [step_torchGen S st _ (by rintro _ ⟨⟩), stepDraws_eval]
    rfl
  case gibbs =>
    refine ⟨rfl, rfl, rfl, fun st => C14_read_only_step S st _ rfl, nofun, fun _ => ⟨rfl, fun st ob hob => ?_⟩⟩
    rw [stepCalls_slot st rfl, hob]
    rfl

/-- the table side: on a state that defines none of these names, exactly the names of `fwdEvaluatorNames` resolve to forwarded
EVALUATORS; `gibbs_steps` is the forwarded sampler; `initialize_parameters` is forwarded and is NOT an operation the read-only theorem
covers (it writes); an unknown name is an `AttributeError`; an own name is never forwarded -/
theorem C14_forwarded_table (kd : Kind) :
    ((rbmMethods kd).filter (fun e => e.2 = .evaluator)).map Prod.fst = fwdEvaluatorNames kd
    ∧ (∀ name ∈ fwdEvaluatorNames kd, resolveMethod (fun _ => false) kd name = .forwarded .evaluator)
    ∧ resolveMethod (fun _ => false) kd "gibbs_steps" = .forwarded .gibbs
    ∧ resolveMethod (fun _ => false) kd "initialize_parameters" = .forwarded .initParams
    ∧ resolveMethod (fun _ => false) kd "no_such_attribute" = .attributeError
    ∧ (∀ own name, own name = true → resolveMethod own kd name = .own) := by
  refine ⟨?_, ?_, ?_, ?_, ?_, fun own name h => by rw [resolveMethod, h]; rfl⟩ <;> cases kd <;> decide

example : resolveMethod (fun n => n == "normalization" || n == "compute_normalization") .cplx "partition" = .forwarded .evaluator := by decide
example : resolveMethod (fun n => n == "normalization" || n == "compute_normalization") .cplx "compute_normalization" = .own := by decide
example : resolveMethod (fun _ => false) .pos "gamma" = .attributeError := by decide

end forwarding

end C14
end QV.Props
