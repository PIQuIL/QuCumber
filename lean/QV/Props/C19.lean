/-
C19 — Basis-state indexing and data loading are mutually consistent.

"Row k of the generated Hilbert space, the single basis vector requested for index k, the index
computed back from that vector, and position k of every wavefunction / density-matrix array the
library produces or accepts all denote the same basis state: the n-bit big-endian binary expansion
of k, site 0 being the most significant bit and the leftmost factor of every tensor product; spaces
beyond the size limit are refused. The data loaders return samples, targets and bases exactly as
written in the files (targets to single precision), and reference-basis extraction returns precisely
the rows whose basis is all Z, in order."

All theorems: ∀ sizes, ∀ indices, ∀ bit lists, ∀ tables of tokens. Model definitions:
`QV.Model.Hilbert` (`maskRow` = the code's mask-and-reverse, `generateHilbertSpace`, `subspaceVector`,
`spaceGuard`, `convertBasisElementToIndex` = the code's `matmul` with `2 ** (arange(n,0,-1) - 1)`) and
`QV.Model.DataLoad` (tokenizer, `np.loadtxt` shape logic, `loadData`, `loadDataDM`, `extractRefbasis`);
all executed against the code by the C19 correspondence check (`harness/c19.py`, ops `c19.*`).
Specification side: `Nat.testBit`, Mathlib `∑`, `finProdFinEquiv` (the row-major flattening of a
Kronecker product), `List.Sublist`, `List.finRange`-indexed filters, the table printer `printTable`, and the
writer-side predicates `GoodTok` / `GoodRow` / `RectTable` (any `N ≥ 0`, `n ≥ 1`) / `BigTable` (targets only)
(`QV/Lemmas/DataLoad.lean`).

The loaders are modelled with fix F18 (`proposed/F18_loadtxt_ndmin.diff`, applied in /repo e29340c: samples and
per-sample bases read with `ndmin=2`), so the round-trip theorems hold for one-sample and one-site files too;
`C19_position_k(_states)` name the "position k of every array the library produces" clause on the generated space
(`overSpace`, `overSpace2`, executed by driver op `c19.arrays`); `QV.Model.HilbertInt` gives the int64 outcome
classes for arguments outside the documented domain (`C19_subspace_int64`, `C19_size_guard_int`).
-/
import Mathlib.Algebra.BigOperators.Fin
import Mathlib.Logic.Equiv.Fin.Basic
import QV.Lemmas.Hilbert
import QV.Lemmas.DataLoad
import QV.Model.Unitaries
import QV.Model.Density
import QV.Lemmas.HilbertInt

namespace QV.Props
namespace C19
open QV QV.DataLoad Finset

/-! ## Part 1 — indexing -/

theorem generateHilbertSpace_eq (size : Option ℕ) (nv : ℕ) :
    generateHilbertSpace size nv = if 20 < effSize size nv then .error .ValueError
      else .ok ((List.range (2 ^ effSize size nv)).map (maskRow (effSize size nv))) := by
  by_cases h : 20 < effSize size nv <;> simp only [generateHilbertSpace, spaceGuard_eq, h, if_true, if_false]

theorem rows_of_generate {size : Option ℕ} {nv : ℕ} {rows : List (List Bool)}
    (h : generateHilbertSpace size nv = .ok rows) :
    effSize size nv ≤ 20 ∧ rows = (List.range (2 ^ effSize size nv)).map (maskRow (effSize size nv)) := by
  rw [generateHilbertSpace_eq] at h
  split at h
  · cases h
  · exact ⟨Nat.le_of_not_lt ‹_›, (Except.ok.inj h).symm⟩

/-- **C19.1a** `generate_hilbert_space` (within the size limit) returns `2^s` rows and row `k` is the
`s`-bit big-endian binary expansion of `k`: entry `j` is bit `s-1-j` of `k`. (The model computes the row
as the code does: masks `k & (1 << i)`, `i = 0..s-1`, then reversal — dropping the reversal or reversing
the wrong axis falsifies this.) -/
theorem C19_row_is_binary_expansion (size : Option ℕ) (nv k : ℕ)
    (hs : effSize size nv ≤ 20) (hk : k < 2 ^ effSize size nv) :
    ∃ rows, generateHilbertSpace size nv = .ok rows ∧ rows.length = 2 ^ effSize size nv ∧
      rows[k]? = some (List.ofFn (fun j : Fin (effSize size nv) => k.testBit (effSize size nv - 1 - j.val))) := by
  refine ⟨_, by rw [generateHilbertSpace_eq, if_neg (Nat.not_lt.2 hs)], by rw [List.length_map, List.length_range], ?_⟩
  rw [List.getElem?_map, List.getElem?_range hk, Option.map_some, maskRow_eq_ofFn]

/-- **C19.1b** the same as a positional statement: the big-endian digit sum of row `k` is `k`. -/
theorem C19_row_digit_sum (n k : ℕ) (hk : k < 2 ^ n) :
    ∑ j : Fin n, (if k.testBit (n - 1 - j.val) then 2 ^ (n - 1 - j.val) else 0) = k := by
  have h := basisIndex_eq_sum (fun j : Fin n => k.testBit (n - 1 - j.val))
  rw [← h, basisIndex, ← List.ofFn_eq_map, basisIndexL_ofFn_testBit, Nat.mod_eq_of_lt hk]

/-- **C19.1c** the generated space lists every `s`-bit state exactly once. -/
theorem C19_space_enumerates_all (size : Option ℕ) (nv : ℕ) (rows : List (List Bool))
    (h : generateHilbertSpace size nv = .ok rows) :
    rows.Nodup ∧ ∀ σ : List Bool, σ ∈ rows ↔ σ.length = effSize size nv := by
  obtain ⟨-, rfl⟩ := rows_of_generate h
  constructor
  · refine List.Nodup.map_on ?_ List.nodup_range
    intro a ha b hb hab
    have h1 := congrArg basisIndexL hab
    rw [basisIndexL_maskRow, basisIndexL_maskRow, Nat.mod_eq_of_lt (List.mem_range.1 ha),
      Nat.mod_eq_of_lt (List.mem_range.1 hb)] at h1
    exact h1
  · intro σ
    constructor
    · intro hσ
      obtain ⟨k, _, rfl⟩ := List.mem_map.1 hσ
      exact maskRow_length _ k
    · intro hl
      refine List.mem_map.2 ⟨basisIndexL σ, List.mem_range.2 (hl ▸ basisIndexL_lt σ), ?_⟩
      rw [← hl, maskRow_basisIndexL]

/-- **C19.2a** `subspace_vector(num, size)` is the big-endian expansion of `num` (its low `s` bits), for
every `num` and every size (there is no size guard in the code). -/
theorem C19_subspace_is_binary_expansion (num : ℕ) (size : Option ℕ) (nv : ℕ) :
    subspaceVector num size nv
      = List.ofFn (fun j : Fin (effSize size nv) => num.testBit (effSize size nv - 1 - j.val)) := by
  simp [subspaceVector, maskRow_eq_ofFn]

/-- **C19.2b** the single vector requested for index `k` IS row `k` of the generated space. -/
theorem C19_subspace_eq_row (size : Option ℕ) (nv k : ℕ) (rows : List (List Bool))
    (h : generateHilbertSpace size nv = .ok rows) (hk : k < 2 ^ effSize size nv) :
    rows[k]? = some (subspaceVector k size nv) := by
  obtain ⟨-, rfl⟩ := rows_of_generate h
  rw [List.getElem?_map, List.getElem?_range hk]
  rfl

theorem C19_index_roundtrip_mod (size : Option ℕ) (nv num : ℕ) :
    convertBasisElementToIndex (subspaceVector num size nv) = num % 2 ^ effSize size nv := by
  rw [convertBasisElementToIndex_eq, subspaceVector, basisIndexL_maskRow]

/-- **C19.3a** the index computed back from the vector for `k` is `k` (for any `num`: its low `s` bits). -/
theorem C19_index_roundtrip (size : Option ℕ) (nv k : ℕ) (hk : k < 2 ^ effSize size nv) :
    convertBasisElementToIndex (subspaceVector k size nv) = k := by
  rw [C19_index_roundtrip_mod, Nat.mod_eq_of_lt hk]

/-- **C19.3b** conversely every 0/1 state is the vector of its own index. -/
theorem C19_state_roundtrip (σ : List Bool) :
    subspaceVector (convertBasisElementToIndex σ) (some σ.length) σ.length = σ := by
  have he : effSize (some σ.length) σ.length = σ.length := by
    cases h : σ.length <;> simp [effSize]
  rw [subspaceVector, he, convertBasisElementToIndex_eq, maskRow_basisIndexL]

/-- **C19.3c** the index is in range. -/
theorem C19_index_lt (σ : List Bool) : convertBasisElementToIndex σ < 2 ^ σ.length := by
  rw [convertBasisElementToIndex_eq]; exact basisIndexL_lt σ

/-- **C19.3d** row ↦ index is a bijection `Fin 2ⁿ ≃ (Fin n → Bool)`: forward map = binary expansion
(`spaceBit`, the function form of a row), inverse = the code's index. -/
theorem C19_index_equiv (n : ℕ) :
    ∃ e : Fin (2 ^ n) ≃ (Fin n → Bool),
      (∀ k j, e k j = k.val.testBit (n - 1 - j.val)) ∧
      (∀ σ, (e.symm σ).val = convertBasisElementToIndex (List.ofFn σ)) := by
  refine ⟨rowEquiv n, fun k j => rfl, fun σ => ?_⟩
  have hlen : (List.ofFn σ).length = n := by simp
  have h1 : convertBasisElementToIndex (List.ofFn σ) < 2 ^ n := by
    have := C19_index_lt (List.ofFn σ); rwa [hlen] at this
  have h2 : rowEquiv n ⟨_, h1⟩ = σ := by
    funext j
    have hm := maskRow_basisIndexL (List.ofFn σ)
    rw [hlen, maskRow_eq_ofFn] at hm
    simp only [rowEquiv_apply, rowBits, spaceBit, convertBasisElementToIndex_eq]
    exact congrFun (List.ofFn_injective hm) j
  rw [← h2, Equiv.symm_apply_apply, h2]

/-- **C19.3e** the code's index (a `matmul` with descending powers of two) is the big-endian digit sum
`Σ_j σ_j 2^(n-1-j)`. Ascending (little-endian) powers falsify this. -/
theorem C19_index_is_big_endian_sum {n : ℕ} (σ : Fin n → Bool) :
    convertBasisElementToIndex (List.ofFn σ) = ∑ j : Fin n, (if σ j then 2 ^ (n - 1 - j.val) else 0) := by
  rw [convertBasisElementToIndex_eq, ← basisIndex_eq_sum, basisIndex, List.ofFn_eq_map]

/-- **C19.4a** site `j` carries weight `2^(n-1-j)`: turning a 0 at site `j` into a 1 raises the index by
exactly that much. -/
theorem C19_msb_first (σ : List Bool) (j : ℕ) (hj : j < σ.length) (h0 : σ[j] = false) :
    convertBasisElementToIndex (σ.set j true) = convertBasisElementToIndex σ + 2 ^ (σ.length - 1 - j) := by
  rw [convertBasisElementToIndex_eq, convertBasisElementToIndex_eq, basisIndexL_set_true σ j hj h0]

/-- **C19.4b** site 0 is the most significant bit: it decides in which half of the index range the state lies. -/
theorem C19_site0_is_msb (b : Bool) (rest : List Bool) :
    (2 ^ rest.length ≤ convertBasisElementToIndex (b :: rest)) ↔ b = true := by
  rw [convertBasisElementToIndex_eq, basisIndexL]
  have := basisIndexL_lt rest
  cases b
  · simp; omega
  · simp

/-- **C19.5a** `generate_hilbert_space` raises (a `ValueError`, nothing else) iff the effective size exceeds 20
— 20 itself is accepted. -/
theorem C19_size_guard (size : Option ℕ) (nv : ℕ) :
    (generateHilbertSpace size nv = .error .ValueError ↔ 20 < effSize size nv) ∧
    (∀ e, generateHilbertSpace size nv = .error e → e = .ValueError) ∧
    ((∃ rows, generateHilbertSpace size nv = .ok rows) ↔ effSize size nv ≤ 20) := by
  rw [generateHilbertSpace_eq]
  by_cases h : 20 < effSize size nv
  · rw [if_pos h]
    exact ⟨iff_of_true rfl h, fun e he => (Except.error.inj he).symm,
      iff_of_false (fun ⟨_, hr⟩ => nomatch hr) (Nat.not_le.2 h)⟩
  · rw [if_neg h]
    exact ⟨iff_of_false (fun he => nomatch he) h, fun e he => (nomatch he),
      iff_of_true ⟨_, rfl⟩ (Nat.le_of_not_lt h)⟩

/-- **C19.5b** the effective size: `size if size else num_visible` — `None` and `0` both select the
default, any positive size is used as given. -/
theorem C19_effective_size (nv s : ℕ) :
    effSize none nv = nv ∧ effSize (some 0) nv = nv ∧ effSize (some (s + 1)) nv = s + 1 := by
  simp [effSize]

/-- **C19.6a** concatenating two registers multiplies the left index by the dimension of the right one:
`idx (σ ++ τ) = idx σ · 2^|τ| + idx τ` — the left factor of a tensor product is the more significant. -/
theorem C19_kron_index (σ τ : List Bool) :
    convertBasisElementToIndex (σ ++ τ)
      = convertBasisElementToIndex σ * 2 ^ τ.length + convertBasisElementToIndex τ := by
  simp only [convertBasisElementToIndex_eq, basisIndexL_append]

/-- **C19.6b** the same against Mathlib's flattening of a product index (the index convention of
`Matrix.kronecker` after `finProdFinEquiv`, and of `np.kron`): position of `(σ, τ)` = position of `σ ++ τ`. -/
theorem C19_kron_index_finProd (σ τ : List Bool) :
    (finProdFinEquiv (⟨convertBasisElementToIndex σ, C19_index_lt σ⟩,
        (⟨convertBasisElementToIndex τ, C19_index_lt τ⟩ : Fin (2 ^ τ.length)))).val
      = convertBasisElementToIndex (σ ++ τ) := by
  rw [C19_kron_index]
  simp [finProdFinEquiv, Nat.mul_comm, Nat.add_comm]

/-- **C19.6c** the stride test used by the Kronecker sweep (`QV.Model.Unitaries.stage`, the model of
`_kron_mult`, stride `2^(n-1-s)` for site `s`) reads exactly the site-`s` entry of row `idx`. -/
theorem C19_kron_stage_bit (n idx : ℕ) (s : Fin n) :
    ((idx / 2 ^ (n - 1 - s.val)) % 2 == 1) = spaceBit n idx s := by
  rw [spaceBit, Nat.testBit_eq_decide_div_mod_eq, beq_eq_decide]

/-- **C19.6d** position `k` of the arrays the library PRODUCES from the generated space: for a row-wise function
`f` (`psi`, `amplitude`, `probability`) entry `k` of `f(space)` is `f` at the big-endian expansion of `k`
(`spaceRow n k`, the vector the state models of C01/C02/C04/C10 are stated on); for a pair function `g` with
`expand=True` (`rho(space, space)`, `pi`, `gamma`) entry `[k][l]` is `g(row k, row l)` — row index from the first
argument, column index from the second; and the single vector `subspace_vector(k)` denotes the same state.
The space is the list the model of `generate_hilbert_space` computes (masks, reversal). A dropped reversal,
a transposed `expand`, or an enumeration in another order falsifies this. -/
theorem C19_position_k {α β γ : Type} [Zero α] [One α] (n : ℕ) (rows : List (List Bool))
    (h : generateHilbertSpace none n = .ok rows) (f : (Fin n → α) → β) (g : (Fin n → α) → (Fin n → α) → γ)
    (k l : ℕ) (hk : k < 2 ^ n) (hl : l < 2 ^ n) :
    (overSpace n f rows)[k]? = some (f (spaceRow n k)) ∧
    ((overSpace2 n g rows)[k]?.bind (fun r => r[l]?)) = some (g (spaceRow n k) (spaceRow n l)) ∧
    (rowVec n (subspaceVector k none n) : Fin n → α) = spaceRow n k := by
  obtain ⟨-, rfl⟩ := rows_of_generate h
  have he : effSize none n = n := rfl
  rw [he]
  refine ⟨?_, ?_, ?_⟩
  · simp [overSpace, List.getElem?_map, List.getElem?_range hk, rowVec_maskRow]
  · simp [overSpace2, List.getElem?_map, List.getElem?_range hk, List.getElem?_range hl, rowVec_maskRow]
  · simp only [subspaceVector, he, rowVec_maskRow]

/-- **C19.6e** the instance the property names: `rho(space, space)[k][l]` computed over the generated space is the
entry `Density.rhoFull am ph k l` that C02's theorems (Hermitian, PSD, trace) are about, and `psi(space)[k]` is the
wavefunction at row `k`. -/
theorem C19_position_k_states {α : Type} [Add α] [Mul α] [Neg α] [Sub α] [Div α] [Zero α] [One α] [Transc α]
    {n h a : ℕ} (rows : List (List Bool)) (hr : generateHilbertSpace none n = .ok rows)
    (am ph : PRBM α n h a) (wam wph : RBM α n h) (k l : Fin (2 ^ n)) :
    ((overSpace2 n (Density.rho am ph) rows)[k.val]?.bind (fun r => r[l.val]?)) = some (Density.rhoFull am ph k l) ∧
    (overSpace n (Wave.psiCplx wam wph) rows)[k.val]? = some (Wave.psiCplx wam wph (spaceRow n k.val)) ∧
    (overSpace n (Wave.psiPos wam) rows)[k.val]? = some (Wave.psiPos wam (spaceRow n k.val)) ∧
    (overSpace n (fun v => Wave.probability wam v 1) rows)[k.val]? = some (Wave.probability wam (spaceRow n k.val) 1) :=
  ⟨(C19_position_k n rows hr (fun _ => ()) (Density.rho am ph) k.val l.val k.isLt l.isLt).2.1,
   (C19_position_k n rows hr (Wave.psiCplx wam wph) (fun _ _ => ()) k.val k.val k.isLt k.isLt).1,
   (C19_position_k n rows hr (Wave.psiPos wam) (fun _ _ => ()) k.val k.val k.isLt k.isLt).1,
   (C19_position_k n rows hr (fun v => Wave.probability wam v 1) (fun _ _ => ()) k.val k.val k.isLt k.isLt).1⟩

/-! ### arguments outside the documented domain, as outcome classes (`QV.Model.HilbertInt`) -/

/-- **C19.5c** `generate_hilbert_space` with a Python-int size: on non-negative sizes the int64 model IS the `Nat`
model (`C19_size_guard` applies); a negative size is never answered with a space — it is refused (`TypeError`). -/
theorem C19_size_guard_int (nv : ℕ) :
    (∀ size : Option ℕ, spaceGuardZ (size.map Int.ofNat) nv = spaceGuard size nv) ∧
    (∀ s : ℤ, s < 0 → spaceGuardZ (some s) nv = .error .TypeError) :=
  ⟨fun size => spaceGuardZ_nat nv size, fun s hs => spaceGuardZ_neg nv s hs⟩

/-- **C19.2c** `subspace_vector` in int64 arithmetic: an index that does not fit a C long is refused
(`OverflowError`); for EVERY index `0 ≤ num < 2^63` and EVERY size `s ≥ 0` — also `s > 62`, where `1 << i` wraps
around — the result is the `s`-bit big-endian expansion of `num` (the `Nat` model `subspaceVector`, hence
`C19_subspace_is_binary_expansion`); a negative size gives the empty vector. (Negative indices are read in two's
complement, `intBit`; they are outside the property.) -/
theorem C19_subspace_int64 (nv : ℕ) :
    (∀ (num : ℤ) (size : Option ℤ), (num < -(2 ^ 63) ∨ 2 ^ 63 ≤ num) →
        subspaceVectorZ num size nv = .overflowError) ∧
    (∀ (m : ℕ) (size : Option ℕ), m < 2 ^ 63 →
        subspaceVectorZ (m : ℤ) (size.map Int.ofNat) nv = .ok (subspaceVector m size nv)) ∧
    (∀ (m : ℕ) (s : ℤ), m < 2 ^ 63 → s < 0 → subspaceVectorZ (m : ℤ) (some s) nv = .ok []) :=
  ⟨fun num size h => subspaceVectorZ_overflow nv num size h,
   fun m size hm => subspaceVectorZ_nat nv m size hm,
   fun m s hm hs => subspaceVectorZ_negsize nv m s hm hs⟩

/-! ## Part 2 — data files -/

/-- **C19.7a** reading back a printed table gives exactly the token rows, in order (any number of rows
and columns; tokens non-empty without whitespace, line ends or `#`). -/
theorem C19_table_roundtrip_tokens (rows : List (List Token)) (h : ∀ r ∈ rows, GoodRow r) :
    tokenize (printTable rows) = rows :=
  tokenize_printTable rows h

/-- **C19.7b** `np.loadtxt(dtype=str)` of a printed `N × m` table, `N, m ≥ 2`: the 2-D array of the tokens. -/
theorem C19_table_roundtrip (ndmin1 : Bool) (rows : List (List Token)) (m : ℕ) (h : ∀ r ∈ rows, GoodRow r)
    (hN : 2 ≤ rows.length) (hm : 2 ≤ m) (hrect : ∀ r ∈ rows, r.length = m) :
    loadtxtStr ndmin1 (printTable rows) = .ok (.mat rows) := by
  rw [loadtxtStr, tokenize_printTable rows h, shapeTable_mat ndmin1 rows m hN hm hrect]

/-- **C19.7c** the squeezed shapes: one row → 1-D of its tokens; one column → 1-D of the column; a single
token → 0-d, or 1-D of length one under `ndmin=1` (the `bases_path` call). -/
theorem C19_table_squeezed (ndmin1 : Bool) :
    (∀ r : List Token, GoodRow r → 2 ≤ r.length → loadtxtStr ndmin1 (printTable [r]) = .ok (.vec r)) ∧
    (∀ col : List Token, (∀ t ∈ col, GoodTok t) → 2 ≤ col.length →
        loadtxtStr ndmin1 (printTable (col.map fun t => [t])) = .ok (.vec col)) ∧
    (∀ t : Token, GoodTok t →
        loadtxtStr ndmin1 (printTable [[t]]) = .ok (if ndmin1 then .vec [t] else .scalar t)) := by
  refine ⟨?_, ?_, ?_⟩
  · intro r hr h2
    rw [loadtxtStr, tokenize_printTable [r] (by simpa using hr), shapeTable_one_row ndmin1 r h2]
  · intro col hc h2
    have hg : ∀ r ∈ col.map (fun t => [t]), GoodRow r := by
      intro r hr
      obtain ⟨t, ht, rfl⟩ := List.mem_map.1 hr
      exact ⟨by simp, by simpa using hc t ht⟩
    rw [loadtxtStr, tokenize_printTable _ hg,
      shapeTable_one_col ndmin1 _ (by simpa using h2) (by
        intro r hr; obtain ⟨t, _, rfl⟩ := List.mem_map.1 hr; rfl)]
    rw [← List.flatMap_def, List.flatMap_singleton']
  · intro t ht
    have hg : ∀ r ∈ [[t]], GoodRow r := by
      intro r hr; simp only [List.mem_singleton] at hr; subst hr; exact ⟨by simp, by simpa using ht⟩
    rw [loadtxtStr, tokenize_printTable _ hg, shapeTable_single]

/-- **C19.7d** a table whose rows have different lengths is refused (`ValueError`). -/
theorem C19_table_ragged (ndmin1 : Bool) (r0 : List Token) (rest : List (List Token))
    (h : ∀ r ∈ r0 :: rest, GoodRow r) (hne : ∃ r ∈ rest, r.length ≠ r0.length) :
    loadtxtStr ndmin1 (printTable (r0 :: rest)) = .error .ValueError := by
  rw [loadtxtStr, tokenize_printTable _ h, shapeTable_ragged ndmin1 r0 rest hne]

/-- **C19.7e** files are read line by line; a blank or comment-only line contributes nothing, a trailing
`# comment` is ignored, runs of whitespace (also leading / trailing) separate fields. -/
theorem C19_lines_comments_whitespace :
    (∀ (l rest : List Char) (c : Char), isNl c = true → (∀ x ∈ l, isNl x = false) →
        tokenize (l ++ c :: rest)
          = (if (parseLine l).isEmpty then [] else [parseLine l]) ++ tokenize rest) ∧
    (∀ (l c : List Char), (∀ x ∈ l, x ≠ '#') → parseLine (l ++ '#' :: c) = parseLine l) ∧
    (∀ (a b : List Char) (c : Char), isWs c = true → splitWs (a ++ c :: b) = splitWs a ++ splitWs b) ∧
    parseLine [] = [] :=
  ⟨fun l rest _ hc h => tokenize_append_nl l rest hc h, fun _ c h => parseLine_comment c h,
   fun a b _ hc => splitWs_append_ws a b hc, by simp [parseLine, stripComment, splitWs_nil]⟩

/-- **C19.8a** a numeric file is returned exactly as written: every token parsed (by numpy's parser, a
parameter) and rounded once to single precision, in the same layout; shape logic as for strings. -/
theorem C19_numeric_table_roundtrip {ν : Type} (parse : Token → Option ν) (round : ν → ν) (val : Token → ν)
    (rows : List (List Token)) (h : ∀ r ∈ rows, GoodRow r)
    (hp : ∀ r ∈ rows, ∀ t ∈ r, parse t = some (val t)) :
    loadtxtNum parse round (printTable rows)
      = shapeTable false (rows.map (fun r => r.map (fun t => round (val t)))) := by
  rw [loadtxtNum, tokenize_printTable rows h, convertRows_ok parse round val rows hp]

/-- a token numpy cannot convert makes the whole load fail with `ValueError` -/
theorem C19_numeric_table_bad_token {ν : Type} (parse : Token → Option ν) (round : ν → ν)
    (rows : List (List Token)) (h : ∀ r ∈ rows, GoodRow r)
    (hbad : ∃ r ∈ rows, ∃ t ∈ r, parse t = none) :
    loadtxtNum parse round (printTable rows) = .error .ValueError := by
  rw [loadtxtNum, tokenize_printTable rows h, convertRows_bad parse round rows hbad]

theorem shape_mat {τ : Type} {rows : List (List τ)} {m : ℕ} (hne : rows ≠ []) (h : ∀ r ∈ rows, r.length = m) :
    (Arr.mat rows).shape = [rows.length, m] := by
  cases rows with
  | nil => exact absurd rfl hne
  | cons r rs => rw [Arr.shape, List.headD_cons, h r List.mem_cons_self]

/-- **C19.7f** (F18) `np.loadtxt(dtype=str, ndmin=2)` — the `tr_bases_path` call — of ANY printed rectangular
table, `N ≥ 0` rows and `m ≥ 1` columns, is the 2-D array of the tokens: one-row and one-column files keep
their shapes `(1, m)` / `(N, 1)`. (A squeezing read — the call without `ndmin=2` — falsifies this for `N = 1`
and for `m = 1`, see `C19_table_squeezed`.) -/
theorem C19_table_ndmin2 (rows : List (List Token)) (m : ℕ) (h : RectTable rows m) :
    loadtxtStr2 (printTable rows) = .ok (.mat rows) ∧
    (rows ≠ [] → (Arr.mat rows).shape = [rows.length, m]) :=
  ⟨loadtxtStr2_rect rows m h, fun hne => shape_mat hne h.2⟩

/-- **C19.7g** the numeric counterpart (the samples call): every token parsed and rounded once, layout and
shape `(N, m)` kept for every `N ≥ 0`, `m ≥ 1`; ragged tables and unparsable tokens are `ValueError`s. -/
theorem C19_numeric_table_ndmin2 {ν : Type} (parse : Token → Option ν) (round : ν → ν) (val : Token → ν)
    (rows : List (List Token)) (m : ℕ) (h : RectTable rows m) :
    ((∀ r ∈ rows, ∀ t ∈ r, parse t = some (val t)) →
      loadtxtNum2 parse round (printTable rows)
        = .ok (.mat (rows.map (fun r => r.map (fun t => round (val t)))))) ∧
    ((∃ r ∈ rows, ∃ t ∈ r, parse t = none) →
      loadtxtNum2 parse round (printTable rows) = .error .ValueError) := by
  refine ⟨fun hp => loadtxtNum2_rect parse round val rows m h hp, fun hbad => ?_⟩
  rw [loadtxtNum2, tokenize_printTable rows h.1, convertRows_bad parse round rows hbad]

/-- a ragged table is refused also under `ndmin=2` -/
theorem C19_table_ragged_ndmin2 (r0 : List Token) (rest : List (List Token))
    (h : ∀ r ∈ r0 :: rest, GoodRow r) (hne : ∃ r ∈ rest, r.length ≠ r0.length) :
    loadtxtStr2 (printTable (r0 :: rest)) = .error .ValueError := by
  rw [loadtxtStr2, tokenize_printTable _ h, shapeTable2_ragged r0 rest hne]

/-- what `load_data` / `load_data_DM` append for the two bases files, as written: the per-sample table `B` as the
2-D array `(N, n)` whatever `N, n ≥ 1` are; the list of bases `U` (`bases_path`, `ndmin=1`) as `basesAsWritten`:
1-D list of words for a one-column (or one-row) file, 2-D otherwise. -/
def basesItems {ν : Type} (B U : Option (List (List Token))) (mU : ℕ) : List (Item ν) :=
  (B.map (fun T => Item.str (.mat T))).toList ++ (U.map (fun T => Item.str (basesAsWritten T mU))).toList

theorem loadBases_written {ν : Type} (B U : Option (List (List Token))) (mB mU : ℕ)
    (hB : ∀ T ∈ B, RectTable T mB) (hU : ∀ T ∈ U, RectTable T mU) :
    loadBases (ν := ν) (B.map printTable) (U.map printTable) = .ok (basesItems B U mU) := by
  have h2 : optStr2 (ν := ν) (B.map printTable) = .ok (B.map (fun X => Item.str (.mat X))).toList := by
    cases B with
    | none => rfl
    | some X => simp [optStr2, loadtxtStr2_rect X mB (hB X rfl)]
  have h1 : optStr (ν := ν) true (U.map printTable)
      = .ok (U.map (fun X => Item.str (basesAsWritten X mU))).toList := by
    cases U with
    | none => rfl
    | some X => simp [optStr, loadtxtStr_true_basesAsWritten X mU (hU X rfl)]
  simp only [loadBases, h2, h1, basesItems]

/-- **C19.8b** `load_data` on printed files, ANY number of samples `N ≥ 0` and sites `n ≥ 1` (F18: no `BigTable`
hypothesis on the samples and per-sample bases; the target `P` is a `2^n × 2` table, hence `BigTable`): the outputs
are, in this order, the samples as the `(N, n)` array of the rounded values, then — only if given — the target
as the `2 × N` real-pair layout (row 0 = first column, row 1 = second column of the psi file), the per-sample
bases as the `(N, n)` array, the list of bases; nothing else.
(Tie to the code: `N ≥ 1`. For an EMPTY samples file numpy returns shape `(0, 1)` whatever `n` is, the model `.mat []`;
the harness treats empty files as malformed input.) -/
theorem C19_load_data_roundtrip {ν : Type} [Inhabited ν] (parse : Token → Option ν) (round : ν → ν)
    (val : Token → ν) (S : List (List Token)) (P B U : Option (List (List Token))) (n mU : ℕ)
    (hS : RectTable S n) (hP : ∀ T ∈ P, BigTable T) (hB : ∀ T ∈ B, RectTable T n) (hU : ∀ T ∈ U, RectTable T mU)
    (hpS : ∀ r ∈ S, ∀ t ∈ r, parse t = some (val t))
    (hpP : ∀ T ∈ P, ∀ r ∈ T, ∀ t ∈ r, parse t = some (val t)) :
    loadData parse round (printTable S) (P.map printTable) (B.map printTable) (U.map printTable)
      = .ok (Item.num (.mat (S.map (fun r => r.map (fun t => round (val t)))))
          :: (P.map (fun T => Item.cplx (.vec (T.map (fun r => round (val (r.getD 0 [])))))
                                         (.vec (T.map (fun r => round (val (r.getD 1 []))))))).toList
          ++ basesItems B U mU) := by
  have hpsi : optPsi parse round (P.map printTable)
      = .ok (P.map (fun T => Item.cplx (.vec (T.map (fun r => round (val (r.getD 0 [])))))
                                         (.vec (T.map (fun r => round (val (r.getD 1 []))))))).toList := by
    cases P with
    | none => rfl
    | some T =>
      have hT := hP T rfl
      obtain ⟨_, _, m, hm, hrect⟩ := hT
      simp only [Option.map_some, optPsi, loadtxtNum_big parse round val T (hP T rfl) (hpP T rfl), psiColumns,
        Option.toList_some, List.map_map]
      congr 4
      · refine List.map_congr_left (fun r hr => ?_)
        have : 0 < r.length := by rw [hrect r hr]; omega
        simp [List.getD_eq_getElem?_getD, this]
      · refine List.map_congr_left (fun r hr => ?_)
        have : 1 < r.length := by rw [hrect r hr]; omega
        simp [List.getD_eq_getElem?_getD, this]
  simp only [loadData, loadtxtNum2_rect parse round val S n hS hpS, hpsi, loadBases_written B U n mU hB hU]

/-- **C19.8b'** the shape clause made explicit: for `N ≥ 1` samples of `n` sites the first output of `load_data`
has shape `(N, n)` and the per-sample bases (when given) have shape `(N, n)` — in particular for a single sample
and for a single site. (Before F18: shape `(n,)` resp. `(N,)`.) -/
theorem C19_load_data_shape {ν : Type} [Inhabited ν] (parse : Token → Option ν) (round : ν → ν)
    (val : Token → ν) (S B : List (List Token)) (n : ℕ) (hS : RectTable S n) (hB : RectTable B n) (hN : S ≠ [])
    (hNB : B.length = S.length) (hpS : ∀ r ∈ S, ∀ t ∈ r, parse t = some (val t)) :
    ∃ a b, loadData parse round (printTable S) none (some (printTable B)) none = .ok [Item.num a, Item.str b] ∧
      a.shape = [S.length, n] ∧ b.shape = [S.length, n] := by
  have h := C19_load_data_roundtrip parse round val S none (some B) none n 0 hS (by rintro _ ⟨⟩)
    (by rintro _ ⟨⟩; exact hB) (by rintro _ ⟨⟩) hpS (by rintro _ ⟨⟩)
  have hBne : B ≠ [] := fun e => hN (List.length_eq_zero_iff.1 (hNB ▸ congrArg List.length e))
  refine ⟨_, _, h, ?_, hNB ▸ shape_mat hBne hB.2⟩
  rw [← List.length_map (f := fun r => r.map (fun t => round (val t)))]
  exact shape_mat (fun e => hN (List.map_eq_nil_iff.1 e)) fun r hr => by
    obtain ⟨r', hr', rfl⟩ := List.mem_map.1 hr
    rw [List.length_map, hS.2 r' hr']

/-- **C19.8c** `load_data_DM` (same generality for samples and bases; the matrix parts are `2^n × 2^n`, hence
`BigTable`): exactly one of the two matrix parts → `ValueError`; both → the pair `(real, imag)` right after the
samples; neither → only the samples (bases as for `load_data`). -/
theorem C19_load_data_DM_roundtrip {ν : Type} (parse : Token → Option ν) (round : ν → ν)
    (val : Token → ν) (S : List (List Token)) (Re Im B U : Option (List (List Token))) (n mU : ℕ)
    (hS : RectTable S n) (hRe : ∀ T ∈ Re, BigTable T) (hIm : ∀ T ∈ Im, BigTable T)
    (hB : ∀ T ∈ B, RectTable T n) (hU : ∀ T ∈ U, RectTable T mU)
    (hpS : ∀ r ∈ S, ∀ t ∈ r, parse t = some (val t))
    (hpRe : ∀ T ∈ Re, ∀ r ∈ T, ∀ t ∈ r, parse t = some (val t))
    (hpIm : ∀ T ∈ Im, ∀ r ∈ T, ∀ t ∈ r, parse t = some (val t)) :
    loadDataDM parse round (printTable S) (Re.map printTable) (Im.map printTable) (B.map printTable)
        (U.map printTable)
      = match Re, Im with
        | none, none =>
          .ok (Item.num (.mat (S.map (fun r => r.map (fun t => round (val t))))) :: basesItems B U mU)
        | some R, some I =>
          if (Arr.mat (R.map (fun r => r.map (fun t => round (val t))))).shape
              == (Arr.mat (I.map (fun r => r.map (fun t => round (val t))))).shape then
            .ok (Item.num (.mat (S.map (fun r => r.map (fun t => round (val t)))))
              :: Item.cplx (.mat (R.map (fun r => r.map (fun t => round (val t)))))
                           (.mat (I.map (fun r => r.map (fun t => round (val t)))))
              :: basesItems B U mU)
          else .error .RuntimeError
        | _, _ => .error .ValueError := by
  have hnum : ∀ (T : Option (List (List Token))), (∀ X ∈ T, BigTable X) →
      (∀ X ∈ T, ∀ r ∈ X, ∀ t ∈ r, parse t = some (val t)) →
      optNum parse round (T.map printTable)
        = .ok (T.map (fun X => Arr.mat (X.map (fun r => r.map (fun t => round (val t)))))) := by
    intro T hT hp
    cases T with
    | none => rfl
    | some X => simp [optNum, loadtxtNum_big parse round val X (hT X rfl) (hp X rfl)]
  simp only [loadDataDM, loadtxtNum2_rect parse round val S n hS hpS, hnum Re hRe hpRe, hnum Im hIm hpIm,
    loadBases_written B U n mU hB hU]
  cases Re with
  | none => cases Im <;> simp [combineDM]
  | some R =>
    cases Im with
    | none => simp [combineDM]
    | some I =>
      simp only [Option.map_some, combineDM]
      split_ifs <;> rfl

/-- **C19.9** `extract_refbasis_samples` on `N` sample rows and `N` basis rows returns exactly the sample
rows at the positions `i` whose basis row consists of `"Z"` only — all of them, no others, in increasing
position order (so duplicates among the samples are handled by position, not by value). -/
theorem C19_refbasis {τ : Type} (samples : List (List τ)) (bases : List (List Token))
    (h : samples.length = bases.length) :
    extractRefbasis (.mat samples) (.mat bases)
      = .ok (.mat (((List.finRange samples.length).filter
            (fun i => decide (∀ t ∈ bases[i.val]'(h ▸ i.isLt), t = ['Z']))).map (fun i => samples[i.val]))) := by
  simp only [extractRefbasis, List.length_map, h, beq_self_eq_true, if_true]
  rw [rowAllZ_eq, maskSelect_map_eq_finRange samples bases _ h]

/-- **C19.9'** consequences: the result is an order-preserving sub-list of the samples, and its length is
the number of all-`Z` basis rows. -/
theorem C19_refbasis_sublist {τ : Type} (samples : List (List τ)) (bases : List (List Token))
    (h : samples.length = bases.length) :
    ∃ res, extractRefbasis (.mat samples) (.mat bases) = .ok (.mat res) ∧ res.Sublist samples ∧
      res.length = bases.countP (fun r => decide (∀ t ∈ r, t = ['Z'])) := by
  refine ⟨maskSelect samples (bases.map rowAllZ), ?_, maskSelect_sublist _ _, ?_⟩
  · simp only [extractRefbasis, List.length_map, h, beq_self_eq_true, if_true]
  · rw [maskSelect_length _ _ (by rw [List.length_map, h]), List.count_eq_countP, List.countP_map, rowAllZ_eq]
    congr 1
    funext r
    simp

/-- **C19.9''** call-form errors: a bases array that is not 2-D (one-row / one-column file), or a row-count
mismatch, is an `IndexError`, never a silently wrong selection. -/
theorem C19_refbasis_errors {τ : Type} (samples : Arr τ) :
    (∀ xs, extractRefbasis samples (.vec xs) = .error .IndexError) ∧
    (∀ x, extractRefbasis samples (.scalar x) = .error .IndexError) ∧
    (∀ rows bases, rows.length ≠ bases.length →
        extractRefbasis (.mat rows : Arr τ) (.mat bases) = .error .IndexError) := by
  refine ⟨fun _ => rfl, fun _ => rfl, fun rows bases hne => ?_⟩
  simp [extractRefbasis, hne]

/-- **C19.9c** (F18) end to end: files of `N ≥ 1` samples on `n ≥ 1` sites and their `N` basis rows, loaded with
`load_data` and handed to `extract_refbasis_samples`, give — for EVERY `N` and `n`, in particular a single sample or
a single site — the loaded sample rows whose basis row is all `"Z"`, in order; never an `IndexError`.
(Before F18 the one-row and one-column cases lost their 2-D shape and ended in `C19_refbasis_errors`.) -/
theorem C19_load_then_refbasis {ν : Type} [Inhabited ν] (parse : Token → Option ν) (round : ν → ν)
    (val : Token → ν) (S B : List (List Token)) (n : ℕ) (hS : RectTable S n) (hB : RectTable B n)
    (hNB : S.length = B.length) (hpS : ∀ r ∈ S, ∀ t ∈ r, parse t = some (val t)) :
    ∃ rows, rows = S.map (fun r => r.map (fun t => round (val t))) ∧
      loadData parse round (printTable S) none (some (printTable B)) none
        = .ok [Item.num (.mat rows), Item.str (.mat B)] ∧
      ∃ hl : rows.length = B.length,
        extractRefbasis (.mat rows) (.mat B)
          = .ok (.mat (((List.finRange rows.length).filter
              (fun i => decide (∀ t ∈ B[i.val]'(hl ▸ i.isLt), t = ['Z']))).map (fun i => rows[i.val]))) := by
  have h := C19_load_data_roundtrip parse round val S none (some B) none n 0 hS (by rintro _ ⟨⟩)
    (by rintro _ ⟨⟩; exact hB) (by rintro _ ⟨⟩) hpS (by rintro _ ⟨⟩)
  have hlen : (S.map (fun r => r.map (fun t => round (val t)))).length = B.length := by
    rw [List.length_map, hNB]
  exact ⟨_, rfl, h, hlen, C19_refbasis _ B hlen⟩

/-! ## Non-vacuity: concrete instances -/

/-- `n = 3`: the generated space is `itertools.product([0,1], repeat=3)` in order. -/
example : generateHilbertSpace none 3 = .ok
    [[false, false, false], [false, false, true], [false, true, false], [false, true, true],
     [true, false, false], [true, false, true], [true, true, false], [true, true, true]] := by decide

example : subspaceVector 6 (some 4) 9 = [false, true, true, false] := by decide
example : convertBasisElementToIndex [true, false, true, true] = 11 := by decide
example : generateHilbertSpace (some 21) 2 = .error .ValueError := by decide
example : generateHilbertSpace (some 0) 21 = .error .ValueError := by decide

/-- a non-trivial good table: two rows, a multi-character token, and the hypotheses of `C19_table_roundtrip`. -/
example : BigTable [[['X'], ['Z', 'Z']], [['0', '.', '5'], ['-', '1', 'e', '-', '3']]] := by
  refine ⟨?_, by decide, 2, by decide, by decide⟩
  intro r hr
  simp only [List.mem_cons, List.not_mem_nil, or_false] at hr
  rcases hr with rfl | rfl <;> exact ⟨by decide, by
    intro t ht
    simp only [List.mem_cons, List.not_mem_nil, or_false] at ht
    rcases ht with rfl | rfl <;> exact ⟨by decide, by decide⟩⟩

/-- the tokenizer on a file with a comment line, a blank line, a trailing comment, tabs and `\r\n`. -/
example : tokenize ['#', 'h', '\n', '1', ' ', '0', ' ', '#', 'c', '\n', '\n', '\t', '0', '\t', ' ', '1', '\r', '\n']
    = [[['1'], ['0']], [['0'], ['1']]] := by decide

/-- reference-basis extraction keeps rows 0 and 2 (all `Z`), drops the `X Z` row and the `ZZ`-token row. -/
example : extractRefbasis (.mat [[1, 0], [0, 1], [1, 1], [0, 0]])
    (.mat [[['Z'], ['Z']], [['X'], ['Z']], [['Z'], ['Z']], [['Z', 'Z'], ['Z']]])
    = .ok (.mat [[1, 0], [1, 1]]) := by decide

/-- F18: a single sample of three sites and three samples of a single site keep their 2-D shapes. -/
example : loadData (ν := Nat) (fun t => if t = ['1'] then some 1 else if t = ['0'] then some 0 else none) id
    ['1', ' ', '0', ' ', '1', '\n'] none (some ['Z', ' ', 'Z', ' ', 'Z', '\n']) none
    = .ok [Item.num (.mat [[1, 0, 1]]), Item.str (.mat [[['Z'], ['Z'], ['Z']]])] := by decide
example : loadData (ν := Nat) (fun t => if t = ['1'] then some 1 else if t = ['0'] then some 0 else none) id
    ['1', '\n', '0', '\n', '1', '\n'] none (some ['Z', '\n', 'X', '\n', 'Z', '\n']) none
    = .ok [Item.num (.mat [[1], [0], [1]]), Item.str (.mat [[['Z']], [['X']], [['Z']]])] := by decide

/-- int64 outcome classes: `subspace_vector(-1, 3)` is all ones (two's complement), `subspace_vector(5, 65)` is the
65-entry expansion of 5, `2^63` is refused, a negative size gives the empty vector / a refusal. -/
example : subspaceVectorZ (-1) (some 3) 9 = .ok [true, true, true] := by decide
example : subspaceVectorZ (-3) (some 4) 9 = .ok [true, true, false, true] := by decide
example : subspaceVectorZ (2 ^ 63) (some 4) 9 = .overflowError := by decide
example : subspaceVectorZ 5 (some (-1)) 9 = .ok [] := by decide
example : spaceGuardZ (some (-1)) 3 = .error .TypeError := by decide

end C19
end QV.Props
