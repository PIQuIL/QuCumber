/-
QV.GenBridge.EarlyStopping — the definitions GENERATED from the source of `EarlyStopping` (`_change_in_metric`,
`_relative_change`, `_absolute_change`, `_variance_scaled_abs_change`, `on_epoch_end`; QV/Gen/EarlyStopping.lean,
tools/py2lean.py) compute what the hand-written model `QV.Cb.EarlyStopping.deviation` / `.onEpochEnd` (the definitions all
C18 theorems and the driver use) computes — including the degenerate quotients (zero reference, zero / negative variance),
which both sides represent by the non-finite value `none`.
Also here, because both the bridge and QV/Props/C18.lean (model against specification, witnesses) rest on it: `deviation_real`,
the closed form of the model's deviation at ℝ.
-/
import QV.Gen.EarlyStopping
import QV.Lemmas.EarlyStopFit
import QV.Lemmas.Gen

namespace QV.Props
open QV.Gen QV.Cb

/-- a getter result as the generated code sees it: the float value (the Python kind `float` / `numpy.float64` is not
part of the generated code); a raised exception has no value -/
def numFl (r : Except PyErr (Num ℝ)) : Fl ℝ :=
  match r with
  | .ok v => some v.x
  | .error _ => none

/-- the value of a deviation without its Python kind -/
def devFl (d : Option (Num ℝ)) : Fl ℝ := d.map Num.x

/-- the generated deviation formula of a criterion (the `convergence_criteria` table is not translated: the dispatch
is the model's) -/
noncomputable def genDeviation {W : Type} (es : EarlyStopping ℝ) (ev : AnyEval W ℝ) : Fl ℝ :=
  match es.criterion with
  | .relative => Gen.EarlyStopping.relativeChange (fun i => numFl (ev.value es.quantityName i)) es.patience
  | .absolute => Gen.EarlyStopping.absoluteChange (fun i => numFl (ev.value es.quantityName i)) es.patience
  | .variance => Gen.EarlyStopping.varianceScaledAbsChange (fun i => numFl (ev.value es.quantityName i))
      (fun i => numFl (ev.variance es.quantityName i)) es.patience

/-- the model's `deviation()` at ℝ in closed form, when the getters it reads return (`ref`, `cur`, and `var` under the variance
criterion): it never raises — the divisor `np.sqrt(…)` of Python's `/` is a numpy scalar — and is the non-finite value `none`
exactly for a zero reference (relative) and a variance `≤ 0` (variance criterion) -/
theorem deviation_real {W : Type} {es : EarlyStopping ℝ} {ev : AnyEval W ℝ} {ref cur var : Num ℝ}
    (href : ev.value es.quantityName (some (-es.patience - 1)) = .ok ref)
    (hcur : ev.value es.quantityName none = .ok cur)
    (hvar : es.criterion = .variance → ev.variance es.quantityName (some (-es.patience - 1)) = .ok var) :
    es.deviation ev = .ok
      (match es.criterion with
       | .relative => if ref.x = 0 then none else some ⟨.np, |(ref.x - cur.x) / ref.x|⟩
       | .absolute => some ⟨ref.kind.join cur.kind, |ref.x - cur.x|⟩
       | .variance =>
         if var.x ≤ 0 then none else some ⟨(ref.kind.join cur.kind).join .np, |ref.x - cur.x| / Real.sqrt var.x⟩) := by
  rw [EarlyStopping.deviation_of_getters href hcur hvar]
  cases es.criterion
  · simp only [Num.npDivide, Num.sub, beq_iff_eq]
    split <;> rfl
  · rfl
  · rcases lt_trichotomy var.x 0 with h | h | h
    · simp [Num.npSqrt, h, h.le]
    · simp [Num.npSqrt, Num.div, h]
    · simp [Num.npSqrt, Num.div, Num.abs, Num.sub, h.not_gt, h.not_ge, (Real.sqrt_pos.mpr h).ne']

/-- **bridge C18 (deviations)**: whenever the getters return (reference value, current value and — for the variance
criterion — reference variance), for EVERY value incl. a zero reference and a zero or negative variance, the model's
deviation is the value of the formula translated from the Python source, and the model does not raise. -/
theorem C18_gen_deviation_eq_model {W : Type} (es : EarlyStopping ℝ) (ev : AnyEval W ℝ) (ref cur var : Num ℝ)
    (href : ev.value es.quantityName (some (-es.patience - 1)) = .ok ref)
    (hcur : ev.value es.quantityName none = .ok cur)
    (hvar : es.criterion = .variance → ev.variance es.quantityName (some (-es.patience - 1)) = .ok var) :
    ∃ d, es.deviation ev = .ok d ∧ devFl d = genDeviation es ev := by
  refine ⟨_, deviation_real href hcur hvar, ?_⟩
  -- the generated side is unfolded by an open `simp`, so that an algebraically equal rewrite of the source still goes through;
  -- the lookback index may be written in any form (`-p - 1`, `-(p + 1)`, a local): `omega` identifies it
  have hidx : ∀ j : Int, j = -es.patience - 1 → ev.value es.quantityName (some j) = .ok ref := fun j hj => hj ▸ href
  unfold genDeviation
  cases hc : es.criterion
  · by_cases h0 : ref.x = 0 <;>
      simp (disch := omega) [Gen.EarlyStopping.relativeChange, Gen.EarlyStopping.changeInMetric, hidx, hcur, numFl, devFl, h0]
  · simp (disch := omega) [Gen.EarlyStopping.absoluteChange, Gen.EarlyStopping.changeInMetric, hidx, hcur, numFl, devFl]
  · have hvidx : ∀ j : Int, j = -es.patience - 1 → ev.variance es.quantityName (some j) = .ok var :=
      fun j hj => hj ▸ hvar hc
    rcases lt_trichotomy var.x 0 with h | h | h
    · simp (disch := omega) [Gen.EarlyStopping.varianceScaledAbsChange, Gen.EarlyStopping.changeInMetric, hidx, hcur, hvidx,
        numFl, devFl, h, h.le]
    · simp (disch := omega) [Gen.EarlyStopping.varianceScaledAbsChange, Gen.EarlyStopping.changeInMetric, hidx, hcur, hvidx,
        numFl, devFl, h]
    · simp (disch := omega) [Gen.EarlyStopping.varianceScaledAbsChange, Gen.EarlyStopping.changeInMetric, hidx, hcur, hvidx,
        numFl, devFl, h.not_gt, h.not_ge, (Real.sqrt_pos.mpr h).ne']

/-- **bridge C18 (gates)**: for a non-zero period and a finite tolerance, `on_epoch_end` of the model (period gate, length
gate `len > patience`, `deviation < tolerance`, the two attribute writes) is the function translated from the Python
source, applied to the value of the model's deviation.  NOTE: `hdev` (the deviation returns) can only be met with the length
gate OPEN (`patience < len`: the lookback index is in range), so THIS statement alone does not tie the length gate; the
closed half is `C18_gen_on_epoch_end_gate_closed`, both together without `hdev`: `C18_gen_on_epoch_end_eq_model_total`. -/
theorem C18_gen_on_epoch_end_eq_model {W : Type} (es : EarlyStopping ℝ) (ev : AnyEval W ℝ) (st : StopState) (e : Int) (t : ℝ)
    (d : Option (Num ℝ)) (hper : es.period ≠ 0) (htol : es.tolerance = some t) (hdev : es.deviation ev = .ok d) :
    es.onEpochEnd ev st e
      = .ok ⟨(Gen.EarlyStopping.onEpochEnd e es.patience es.period (some t) (ev.len : Int) (devFl d) st.stop st.lastEpoch).1,
             (Gen.EarlyStopping.onEpochEnd e es.patience es.period (some t) (ev.len : Int) (devFl d) st.stop st.lastEpoch).2⟩ := by
  unfold Cb.EarlyStopping.onEpochEnd
  simp only [gate, pyMod, hper, if_false, hdev, htol]
  by_cases hg : Int.fmod e es.period = 0
  · by_cases hl : es.patience < (ev.len : Int)
    · cases d with
      | none => simp [Gen.EarlyStopping.onEpochEnd, hg, hl, devFl]
      | some v => by_cases hb : v.x < t <;> simp [Gen.EarlyStopping.onEpochEnd, hg, hl, devFl, belowTol, hb]
    · simp [Gen.EarlyStopping.onEpochEnd, hg, hl]
  · simp [Gen.EarlyStopping.onEpochEnd, beq_false_of_ne hg]

/-- **bridge C18 (gates, CLOSED half)**: for a non-zero period, whenever the period gate is closed (`epoch` is not a
multiple of the stopper's period) or the length gate is closed (`len ≤ patience`: fewer than `patience + 1` evaluations),
BOTH sides leave the stopper state (flag, `last_epoch`) as it was and neither looks at the deviation: the model returns
`st` for EVERY evaluator of that length (incl. those whose getters would raise), the translated `on_epoch_end` returns
the entry values for EVERY tolerance and EVERY deviation value.  Together with `C18_gen_on_epoch_end_eq_model` (whose
hypothesis `hdev` can only be met with the length gate open) this ties the length gate `len > patience` on both sides:
a `≥` gate (or no gate) on either side falsifies this theorem at `len = patience`. -/
theorem C18_gen_on_epoch_end_gate_closed {W : Type} (es : EarlyStopping ℝ) (ev : AnyEval W ℝ) (st : StopState) (e : Int)
    (hper : es.period ≠ 0) (hclosed : Int.fmod e es.period ≠ 0 ∨ (ev.len : Int) ≤ es.patience) :
    es.onEpochEnd ev st e = .ok st
    ∧ (∀ ev' : AnyEval W ℝ, ev'.len = ev.len → es.onEpochEnd ev' st e = .ok st)
    ∧ ∀ (tol dAny : Fl ℝ), Gen.EarlyStopping.onEpochEnd e es.patience es.period tol (ev.len : Int) dAny st.stop st.lastEpoch
        = (st.stop, st.lastEpoch) := by
  have key : ∀ ev' : AnyEval W ℝ, ev'.len = ev.len → es.onEpochEnd ev' st e = .ok st := by
    intro ev' hlen
    unfold Cb.EarlyStopping.onEpochEnd
    simp only [gate, pyMod, hper, if_false, hlen]
    by_cases hg : Int.fmod e es.period = 0
    · simp [hg, not_lt.mpr (hclosed.resolve_left (not_not.mpr hg))]
    · simp [beq_false_of_ne hg]
  refine ⟨key ev rfl, key, fun tol dAny => ?_⟩
  unfold Gen.EarlyStopping.onEpochEnd
  rcases hclosed with hg | hl
  · simp [hg]
  · simp [not_lt.mpr hl]

/-- converse of the hypotheses of `deviation_real` / `C18_gen_deviation_eq_model`: a deviation that returns has read its getters.
(Under the two other criteria the variance getter is not read and `var` is an arbitrary witness.) -/
theorem getters_of_deviation_ok {W : Type} (es : EarlyStopping ℝ) (ev : AnyEval W ℝ) (d : Option (Num ℝ))
    (hdev : es.deviation ev = .ok d) :
    ∃ ref cur var : Num ℝ, ev.value es.quantityName (some (-es.patience - 1)) = .ok ref
      ∧ ev.value es.quantityName none = .ok cur
      ∧ (es.criterion = .variance → ev.variance es.quantityName (some (-es.patience - 1)) = .ok var) := by
  unfold Cb.EarlyStopping.deviation at hdev
  cases href : ev.value es.quantityName (some (-es.patience - 1)) with
  | error x =>
    cases hc : es.criterion <;>
      simp [hc, Cb.EarlyStopping.relativeChange, Cb.EarlyStopping.absoluteChange, Cb.EarlyStopping.varianceScaledAbsChange,
        Cb.EarlyStopping.changeInMetric, href] at hdev
  | ok ref =>
    cases hcur : ev.value es.quantityName none with
    | error x =>
      cases hc : es.criterion <;>
        simp [hc, Cb.EarlyStopping.relativeChange, Cb.EarlyStopping.absoluteChange, Cb.EarlyStopping.varianceScaledAbsChange,
          Cb.EarlyStopping.changeInMetric, href, hcur] at hdev
    | ok cur =>
      cases hvar : ev.variance es.quantityName (some (-es.patience - 1)) with
      | ok var => exact ⟨ref, cur, var, rfl, rfl, fun _ => rfl⟩
      | error x =>
        refine ⟨ref, cur, ref, rfl, rfl, fun hc => ?_⟩
        simp [hc, Cb.EarlyStopping.varianceScaledAbsChange, Cb.EarlyStopping.changeInMetric, href, hcur, hvar] at hdev

/-- **bridge C18 (gates, total)**: for a non-zero period and a finite tolerance, with NO hypothesis on the evaluator:
whenever the model's `on_epoch_end` returns, its result is the translated `on_epoch_end` applied to the translated
deviation formula (`genDeviation`: the getters of this very evaluator) — with either gate closed as well as with both
open; and when the model raises, both gates are open and it is the deviation (a getter) that raised, with that exception
(the generated code has no exceptions: a raising getter has no value there).  A `≥` length gate on either side is
refuted by an evaluator with `len = patience`, a missing gate likewise. -/
theorem C18_gen_on_epoch_end_eq_model_total {W : Type} (es : EarlyStopping ℝ) (ev : AnyEval W ℝ) (st : StopState) (e : Int)
    (t : ℝ) (hper : es.period ≠ 0) (htol : es.tolerance = some t) :
    match es.onEpochEnd ev st e with
    | .ok st' =>
      st' = ⟨(Gen.EarlyStopping.onEpochEnd e es.patience es.period (some t) (ev.len : Int) (genDeviation es ev) st.stop st.lastEpoch).1,
             (Gen.EarlyStopping.onEpochEnd e es.patience es.period (some t) (ev.len : Int) (genDeviation es ev) st.stop st.lastEpoch).2⟩
    | .error err => Int.fmod e es.period = 0 ∧ es.patience < (ev.len : Int) ∧ es.deviation ev = .error err := by
  by_cases hopen : Int.fmod e es.period = 0 ∧ es.patience < (ev.len : Int)
  · cases hdev : es.deviation ev with
    | ok d =>
      obtain ⟨ref, cur, var, href, hcur, hvar⟩ := getters_of_deviation_ok es ev d hdev
      obtain ⟨d', hd', hgen⟩ := C18_gen_deviation_eq_model es ev ref cur var href hcur hvar
      have hdd : d' = d := by rw [hdev] at hd'; exact (Except.ok.inj hd').symm
      subst hdd
      rw [C18_gen_on_epoch_end_eq_model es ev st e t d' hper htol hdev, hgen]
    | error err =>
      have : es.onEpochEnd ev st e = .error err := by
        unfold Cb.EarlyStopping.onEpochEnd
        simp [gate, pyMod, hper, hopen.1, hopen.2, hdev]
      rw [this]
      exact ⟨hopen.1, hopen.2, rfl⟩
  · have hclosed : Int.fmod e es.period ≠ 0 ∨ (ev.len : Int) ≤ es.patience := by
      by_cases hg : Int.fmod e es.period = 0
      · right; have := fun h => hopen ⟨hg, h⟩; omega
      · left; exact hg
    obtain ⟨h1, _, h3⟩ := C18_gen_on_epoch_end_gate_closed es ev st e hper hclosed
    rw [h1]
    simp [h3]

end QV.Props
