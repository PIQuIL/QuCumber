/-
QV.GenBridge.UpdateStatistics — the definition GENERATED from the source of `_update_statistics`
(QV/Gen/UpdateStatistics.lean, tools/py2lean.py) computes, for every input, what the hand-written model
`QV.Stats.updateStatistics` (the definition all C13 theorems and the driver use) computes.

The proof does not follow the shape of the generated term: it splits the two lengths into 0 / 1 / ≥ 2 and evaluates every
guard and divisor test, then splits the two variances into nan / finite, and closes the remaining equations between field
expressions with `field_simp; ring` — an algebraically equal rewrite of the Python re-proves, a changed formula does not.
-/
import Mathlib.Tactic.FieldSimp
import Mathlib.Tactic.Ring
import Mathlib.Tactic.Linarith
import QV.Gen.UpdateStatistics
import QV.Model.Stats
import QV.Lemmas.Gen

namespace QV.Props
open QV.Gen

theorem eq_false_of_pos_real {x : ℝ} (h : 0 < x) : (x = 0) = False := eq_false (ne_of_gt h)
theorem eq_false_of_pos_int {x : Int} (h : 0 < x) : (x = 0) = False := eq_false (ne_of_gt h)
theorem lt_eq_true_int {a b : Int} (h : a < b) : (a < b) = True := eq_true h
theorem lt_eq_false_int {a b : Int} (h : ¬ a < b) : (a < b) = False := eq_false h
theorem lt_eq_true_nat {a b : ℕ} (h : a < b) : (a < b) = True := eq_true h
theorem lt_eq_false_nat {a b : ℕ} (h : ¬ a < b) : (a < b) = False := eq_false h

/-- discharger of the side conditions: integer facts by `omega`, positivity of a real expression in casts of naturals by
`positivity`, or (after a `- 1`) by `linarith` from the non-negativity of the casts in the context.  `simp` calls it for EVERY
conditional lemma it tries, mostly to fail: `linarith` is therefore only entered on a goal `0 < _` (on anything else it would
search the whole context for a contradiction). -/
local macro "gen_disch" : tactic => `(tactic| first | omega | positivity | (show (0 : ℝ) < _; linarith))

-- its side condition `CharP ℝ p` is tried, and refused by the discharger, at every cast of a sum
attribute [-simp] CharP.cast_eq_zero

/-- a result triple of the model as the generated code represents it (`nan` = `none`, lengths as Python ints) -/
def genTriple (r : ℝ × Option ℝ × ℕ) : Fl ℝ × Fl ℝ × Int := (some r.1, r.2.1, (r.2.2 : Int))

/-- the case analysis of one pair of lengths (each 0 / 1 / ≥ 2): each variance nan / finite; every guard is evaluated, every
divisor shown non-zero, the rest is field arithmetic -/
local macro "gen_update_cases" n:ident m:ident varA:ident varB:ident : tactic => `(tactic|
  (all_goals try have hn : (0 : ℝ) ≤ ($n : ℝ) := Nat.cast_nonneg $n
   all_goals try have hm : (0 : ℝ) ≤ ($m : ℝ) := Nat.cast_nonneg $m
   all_goals cases $varA:ident <;> cases $varB:ident <;>
     simp (disch := gen_disch) [UpdateStatistics.updateStatistics, Stats.updateStatistics, Stats.scaledVar, Stats.oadd, genTriple,
       eq_false_of_pos_real, eq_false_of_pos_int, ← add_assoc, lt_eq_true_int, lt_eq_false_int, lt_eq_true_nat,
       lt_eq_false_nat]
   all_goals (try field_simp (disch := gen_disch))
   all_goals (try ring)
   all_goals (try simp only [and_true, true_and, Option.some.injEq, Prod.mk.injEq])
   all_goals (try gen_disch)))

set_option linter.unusedSimpArgs false
set_option linter.unusedTactic false
set_option linter.unreachableTactic false

/-- **bridge C13** for ALL means, variances (finite or nan) and lengths: the translation of the Python source of
`_update_statistics` equals the model's `updateStatistics`; in particular no quotient of the source has a zero divisor
(the generated `/` would then return the non-finite value, the model's a number). -/
theorem C13_gen_update_eq_model (avgA : ℝ) (varA : Option ℝ) (lenA : ℕ) (avgB : ℝ) (varB : Option ℝ) (lenB : ℕ) :
    UpdateStatistics.updateStatistics (some avgA) varA (lenA : Int) (some avgB) varB (lenB : Int)
      = genTriple (Stats.updateStatistics avgA varA lenA avgB varB lenB) := by
  rcases lenA with _ | _ | n <;> rcases lenB with _ | _ | m
  -- the guards and divisor tests do not depend on the variances: evaluate them once per length case, before
  -- `gen_update_cases` splits each variance into nan / finite
  all_goals
    simp (disch := gen_disch) [UpdateStatistics.updateStatistics, Stats.updateStatistics, genTriple,
      eq_false_of_pos_real, eq_false_of_pos_int, ← add_assoc, lt_eq_true_int, lt_eq_false_int, lt_eq_true_nat,
      lt_eq_false_nat]
  gen_update_cases n m varA varB

/-- a concrete instance: a chunk of 3 values merged with a one-value chunk whose variance is nan -/
example : UpdateStatistics.updateStatistics (some (1 : ℝ)) (some 2) 3 (some 4) none 1
    = genTriple (Stats.updateStatistics 1 (some 2) 3 4 none 1) :=
  C13_gen_update_eq_model 1 (some 2) 3 4 none 1

end QV.Props
